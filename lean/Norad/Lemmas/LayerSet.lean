import Norad.Lemmas.Layers
/-! The layer-set invariant, and what each operation of the layer set does to it. -/
namespace Layers

/-! The hypotheses `(!p x) = true` of the two equations below have the form in which core's
`List.find?_eq_some_iff_append` gives them. -/

theorem removeFirst_middle {p : Layer → Bool} {a b : List Layer} {l : Layer} (ha : ∀ x ∈ a, (!p x) = true)
    (hl : p l = true) : removeFirst p (a ++ l :: b) = a ++ b := by
  induction a with
  | nil => exact if_pos hl
  | cons c a ih =>
    obtain ⟨hc, ha⟩ := List.forall_mem_cons.1 ha
    rw [List.cons_append, removeFirst, if_neg (by simpa using hc), ih ha]; rfl

theorem renameAt_middle {old new p : Str} {a b : List Layer} {l : Layer}
    (ha : ∀ x ∈ a, (!decide (x.name = old)) = true) (hl : decide (l.name = old) = true) :
    renameAt old new (some p) (a ++ l :: b) = a ++ { l with name := new, path := p } :: b := by
  induction a with
  | nil => exact if_pos (of_decide_eq_true hl)
  | cons c a ih =>
    obtain ⟨hc, ha⟩ := List.forall_mem_cons.1 ha
    rw [List.cons_append, renameAt, if_neg (by simpa using hc), ih ha]; rfl

theorem defaultFirst_some {ls ls' : List Layer} (h : defaultFirst ls = some ls') :
    ∃ d a b, ls = a ++ d :: b ∧ d.path = glyphsDir ∧ ls' = d :: (a ++ b) := by
  revert h
  fun_cases defaultFirst ls
  · exact nofun
  next d hf =>
    obtain ⟨hd, a, b, rfl, ha⟩ := List.find?_eq_some_iff_append.1 hf
    rw [removeFirst_middle ha hd]
    exact fun h => ⟨d, a, b, rfl, Layer.isDefault_iff.1 hd, (Option.some.inj h).symm⟩

theorem defaultFirst_of_head {d : Layer} {r : List Layer} (h : d.isDefault = true) :
    defaultFirst (d :: r) = some (d :: r) := by
  simp only [defaultFirst, List.find?_cons, h, removeFirst, if_true]

theorem defaultFirst_placeholder {ls : List Layer} (h : ∀ l ∈ ls, l.isDefault = false) :
    defaultFirst (ls ++ [Layer.default]) = some (Layer.default :: ls) := by
  have h' : ∀ l ∈ ls, (!l.isDefault) = true := fun l hl => by rw [h l hl]; rfl
  rw [defaultFirst, List.find?_eq_some_iff_append.2 ⟨rfl, ls, [], rfl, h'⟩, removeFirst_middle h' rfl,
    List.append_nil]

theorem loadTreeF_some {lower : Str → Str} {f : LFilter} {t : Tree} {S : LayerSet}
    (h : loadTreeF lower f t = some S) :
    ∃ ls ls', loadLayers lower t.dirs (t.layercontents.filter fun e => f.shouldLoad e.1 e.2) = some ls ∧
      defaultFirst (if !f.includesDefault && !ls.any (·.isDefault) then ls ++ [Layer.default] else ls) = some ls' ∧
      S = { layers := ls', pathSet := (ls'.drop 1).map (fun l => lower l.path) } := by
  -- `fun_cases` replaces the call in the goal only: a hypothesis about the call goes back into the goal first
  revert h
  fun_cases loadTreeF lower f t <;> intro h <;> cases h
  exact ⟨_, _, ‹_›, ‹_›, rfl⟩

theorem getLayer_none {S : LayerSet} {n : Str} (h : getLayer S n = none) : ∀ x ∈ S.layers, x.name ≠ n :=
  fun x hx => by simpa using List.find?_eq_none.1 h x hx

theorem getLayer_not_isNone {S : LayerSet} {n : Str} (h : (getLayer S n).isNone = false) :
    ∃ x ∈ S.layers, x.name = n := by
  cases hg : getLayer S n with
  | none => rw [hg] at h; cases h
  | some x => exact ⟨x, List.mem_of_find?_eq_some hg, by simpa using List.find?_some hg⟩

section
variable (lower : Str → Str) (assignL : Str → List Str → Option Str) (valid : Str → Bool)

structure SInv (S : LayerSet) : Prop where
  headDefault : ∃ d rest, S.layers = d :: rest ∧ d.path = glyphsDir
  tailNotDefault : ∀ l ∈ S.layers.tail, l.path ≠ glyphsDir
  tailNotReserved : ∀ l ∈ S.layers.tail, l.name ≠ defaultName
  tailInSet : ∀ l ∈ S.layers.tail, lower l.path ∈ S.pathSet
  tailDistinct : (S.layers.tail.map (fun l => lower l.path)).Nodup
  namesNodup : (S.layers.map (·.name)).Nodup
  layersInv : ∀ l ∈ S.layers, LInvW lower l

/-- contract of the layer file-name function: not taken, and never the default directory
    (C07: every candidate is longer than `glyphs`, `assignLOK_layerDirName`; it starts with `glyphs.`, or with `glyphs_`
    for a name of periods and spaces, the recorded finding `layer-prefix-eaten`) -/
def AssignLOK : Prop :=
  AssignOK lower assignL ∧ ∀ n ps p, valid n = true → assignL n ps = some p → p ≠ glyphsDir

variable {lower assignL valid}

theorem SInv.head_path {d : Layer} {rest : List Layer} {ps : List Str} (h : SInv lower ⟨d :: rest, ps⟩) :
    d.path = glyphsDir := by
  obtain ⟨_, _, e, hd⟩ := h.headDefault
  cases e; exact hd

theorem SInv.sublist {d : Layer} {rest rest' : List Layer} {ps ps' : List Str} (h : SInv lower ⟨d :: rest, ps⟩)
    (hs : rest'.Sublist rest) (hps : ∀ l ∈ rest', lower l.path ∈ ps') : SInv lower ⟨d :: rest', ps'⟩ :=
  ⟨⟨d, rest', rfl, h.head_path⟩, fun l hl => h.tailNotDefault l (hs.subset hl),
    fun l hl => h.tailNotReserved l (hs.subset hl), hps, h.tailDistinct.sublist (hs.map _),
    h.namesNodup.sublist ((hs.cons_cons d).map _), fun l hl => h.layersInv l ((hs.cons_cons d).subset hl)⟩

theorem SInv.remove {d l : Layer} {a b : List Layer} {ps : List Str} (h : SInv lower ⟨d :: (a ++ l :: b), ps⟩) :
    SInv lower ⟨d :: (a ++ b), ps.filter (· ≠ lower l.path)⟩ := by
  have hs : (a ++ b).Sublist (a ++ l :: b) := (List.sublist_cons_self l b).append_left a
  refine h.sublist hs fun x hx => List.mem_filter.2 ⟨h.tailInSet x (hs.subset hx), decide_eq_true fun heq => ?_⟩
  -- directories are distinct ignoring case, so no layer that stays has the one of `l`
  exact (nodup_map_middle.1 h.tailDistinct).1 (heq ▸ List.mem_map_of_mem hx)

theorem SInv.replaceHead {d d' : Layer} {rest : List Layer} {ps : List Str} (h : SInv lower ⟨d :: rest, ps⟩)
    (hp : d'.path = d.path) (hn : d'.name ∉ rest.map (·.name)) (hi : LInvW lower d') :
    SInv lower ⟨d' :: rest, ps⟩ :=
  ⟨⟨d', rest, rfl, hp.trans h.head_path⟩, h.tailNotDefault, h.tailNotReserved, h.tailInSet, h.tailDistinct,
    List.nodup_cons.2 ⟨hn, (List.nodup_cons.1 h.namesNodup).2⟩,
    List.forall_mem_cons.2 ⟨hi, fun l hl => h.layersInv l (List.mem_cons_of_mem _ hl)⟩⟩

theorem SInv.insert {d x : Layer} {a b : List Layer} {ps : List Str} (h : SInv lower ⟨d :: (a ++ b), ps⟩)
    (hx : LInvW lower x) (hname : x.name ∉ (d :: (a ++ b)).map (·.name)) (hres : x.name ≠ defaultName)
    (hdir : x.path ≠ glyphsDir) (hfresh : lower x.path ∉ ps) :
    SInv lower ⟨d :: (a ++ x :: b), lower x.path :: ps⟩ := by
  have hfresh' : lower x.path ∉ (a ++ b).map (fun l => lower l.path) := fun hm =>
    let ⟨l, hl, e⟩ := List.mem_map.1 hm
    hfresh (e ▸ h.tailInSet l hl)
  exact ⟨⟨d, _, rfl, h.head_path⟩, forall_mem_middle.2 ⟨hdir, h.tailNotDefault⟩,
    forall_mem_middle.2 ⟨hres, h.tailNotReserved⟩,
    forall_mem_middle.2 ⟨List.mem_cons_self, fun l hl => List.mem_cons_of_mem _ (h.tailInSet l hl)⟩,
    nodup_map_middle.2 ⟨hfresh', h.tailDistinct⟩, (nodup_map_middle (a := d :: a)).2 ⟨hname, h.namesNodup⟩,
    (forall_mem_middle (a := d :: a)).2 ⟨hx, h.layersInv⟩⟩

theorem onLayer_ind {P : LayerSet × Res → Prop} {S : LayerSet} {li : Nat} {f : Layer → Layer × Res} (h0 : P (S, .ok))
    (h1 : ∀ a L b, S.layers = a ++ L :: b → P ({ S with layers := a ++ (f L).1 :: b }, (f L).2)) :
    P (onLayer S li f) := by
  unfold onLayer
  cases hL : S.layers[li]? with
  | none => exact h0
  | some L =>
    obtain ⟨hlt, rfl⟩ := List.getElem?_eq_some_iff.1 hL
    obtain ⟨a, b, hab, _, hset⟩ := List.exists_of_set (a' := (f S.layers[li]).1) hlt
    simp only [hset]
    exact h1 a _ b hab

variable (lower assignL) in
/-- `new_layer` behind its guards: the last branch of the model's `newLayer`, word for word, under a name so that it can be
    the body of a guard chain (`model_newLayer_guards`) -/
def pushLayer (S : LayerSet) (name : Str) : LayerSet × Res :=
  match assignL name S.pathSet with
  | none => (S, .panic "99 file-name clashes (documented)")
  | some p => ({ layers := S.layers ++ [Layer.new name p], pathSet := lower p :: S.pathSet }, .ok)

theorem model_newLayer_guards (S : LayerSet) (name : Str) :
    newLayer lower assignL valid S name =
      guarded (evalS valid S [] name false) modelNewLayerGuards S (pushLayer lower assignL S name) := by
  simp only [newLayer, modelNewLayerGuards, guarded_cons, guarded_nil, evalS, decide_eq_true_eq]
  rfl

theorem pushLayer_errOf (S : LayerSet) (name : Str) : (pushLayer lower assignL S name).2.errOf = none := by
  fun_cases pushLayer lower assignL S name <;> rfl

theorem removeLayer_cases (S : LayerSet) (n : Str) :
    ((∀ x ∈ S.layers.tail, x.name ≠ n) ∧ removeLayer lower S n = S) ∨
    ∃ d a l b, S.layers = d :: (a ++ l :: b) ∧ l.name = n ∧
      removeLayer lower S n = { layers := d :: (a ++ b), pathSet := S.pathSet.filter (· ≠ lower l.path) } := by
  fun_cases removeLayer lower S n
  next hS => exact .inl ⟨hS ▸ List.forall_mem_nil _, rfl⟩
  next d rest hS hf => exact .inl ⟨hS ▸ fun x hx => by simpa using List.find?_eq_none.1 hf x hx, rfl⟩
  next d rest hS l hf =>
    obtain ⟨hl, a, b, rfl, ha⟩ := List.find?_eq_some_iff_append.1 hf
    exact .inr ⟨d, a, l, b, hS, of_decide_eq_true hl, by rw [removeFirst_middle ha hl]⟩

theorem sinv_removeLayer {S : LayerSet} {n : Str} (h : SInv lower S) : SInv lower (removeLayer lower S n) := by
  rcases removeLayer_cases S n with ⟨_, he⟩ | ⟨d, a, l, b, hS, _, he⟩ <;> rw [he]
  · exact h
  · obtain ⟨layers, ps⟩ := S
    subst hS
    exact h.remove

theorem removeLayer_subset (S : LayerSet) (n : Str) : ∀ x ∈ (removeLayer lower S n).layers, x ∈ S.layers := by
  rcases removeLayer_cases S n with ⟨_, he⟩ | ⟨d, a, l, b, hS, _, he⟩ <;> rw [he]
  · exact fun _ => id
  · rw [hS]
    exact fun x hx => (mem_middle (a := d :: a)).2 (.inr hx)

theorem sinv_retainLayers {S : LayerSet} {keep : Layer → Bool} (h : SInv lower S) :
    SInv lower (retainLayers S keep) := by
  obtain ⟨layers, ps⟩ := S
  obtain ⟨d, rest, rfl, hd⟩ := h.headDefault
  show SInv lower ⟨(d :: rest).filter _, ps⟩
  rw [List.filter_cons_of_pos (by rw [Layer.isDefault_iff.2 hd]; rfl)]
  exact h.sublist List.filter_sublist fun l hl => h.tailInSet l (List.filter_sublist.subset hl)

variable (lower assignL) in
/-- `rename_layer` behind its guards, on the state `S₁` left by the optional removal of the layer being overwritten
    (the last branch of the model's `renameLayer`, word for word) -/
def renameLayerCore (S₁ : LayerSet) (old new : Str) : LayerSet × Res :=
  match S₁.layers with
  | [] => (S₁, .panic "layer.rs:215 position(..).unwrap()")
  | d :: rest =>
    if d.name = old then ({ S₁ with layers := { d with name := new } :: rest }, .ok)
    else
      match rest.find? (·.name = old) with
      | none => (S₁, .panic "layer.rs:215 position(..).unwrap()")
      | some l =>
        let ps := S₁.pathSet.filter (· ≠ lower l.path)
        match assignL new ps with
        | none => (S₁, .panic "99 file-name clashes (documented)")
        | some p => ({ layers := d :: renameAt old new (some p) rest, pathSet := lower p :: ps }, .ok)

theorem model_renameLayer_guards (S : LayerSet) (old new : Str) (ow : Bool) :
    renameLayer lower assignL valid S old new ow =
      guarded (evalS valid S old new ow) modelRenameLayerGuards S
        (renameLayerCore lower assignL (if ow && old ≠ new then removeLayer lower S new else S) old new) := by
  simp only [modelRenameLayerGuards, guarded_cons, guarded_nil, evalS]
  rfl

theorem renameLayerCore_ind {P : LayerSet × Res → Prop} (S₁ : LayerSet) (old new : Str)
    (hmissing : (∀ x ∈ S₁.layers, x.name ≠ old) → P (S₁, .panic "layer.rs:215 position(..).unwrap()"))
    (hfirst : ∀ d rest, S₁.layers = d :: rest → d.name = old →
      P ({ S₁ with layers := { d with name := new } :: rest }, .ok))
    (hfull : ∀ d a l b, S₁.layers = d :: (a ++ l :: b) → l.name = old →
      P (S₁, .panic "99 file-name clashes (documented)"))
    (hmove : ∀ d a l b p, S₁.layers = d :: (a ++ l :: b) → d.name ≠ old → l.name = old →
      assignL new (S₁.pathSet.filter (· ≠ lower l.path)) = some p →
      P ({ layers := d :: (a ++ { l with name := new, path := p } :: b),
           pathSet := lower p :: S₁.pathSet.filter (· ≠ lower l.path) }, .ok)) :
    P (renameLayerCore lower assignL S₁ old new) := by
  fun_cases renameLayerCore lower assignL S₁ old new
  next hS => exact hmissing (hS ▸ List.forall_mem_nil _)
  next d rest hS hd => exact hfirst d rest hS hd
  next d rest hS hd hf =>
    exact hmissing (hS ▸ List.forall_mem_cons.2 ⟨hd, fun x hx => by simpa using List.find?_eq_none.1 hf x hx⟩)
  next d rest hS hd l hf _ ha =>
    obtain ⟨hl, a, b, rfl, _⟩ := List.find?_eq_some_iff_append.1 hf
    exact hfull d a l b hS (of_decide_eq_true hl)
  next d rest hS hd l hf _ p ha =>
    obtain ⟨hl, a, b, rfl, hpre⟩ := List.find?_eq_some_iff_append.1 hf
    rw [renameAt_middle hpre hl]
    exact hmove d a l b p hS hd (of_decide_eq_true hl) ha

theorem renameLayerCore_errOf (S₁ : LayerSet) (old new : Str) :
    (renameLayerCore lower assignL S₁ old new).2.errOf = none := by
  fun_cases renameLayerCore lower assignL S₁ old new <;> rfl

/-- what it says of the state that no guard of `rename_layer` fired, guard by guard -/
structure RenameLayerPassed (valid : Str → Bool) (S : LayerSet) (old new : Str) (ow : Bool) : Prop where
  noClash : ow = false → ∀ x ∈ S.layers, x.name ≠ new
  oldExists : ∃ x ∈ S.layers, x.name = old
  reservedOnlyHead : new = defaultName → headName S = some old
  headNotNew : headName S = some new → new = old
  validNew : valid new = true

theorem renameLayer_guards_pass {S : LayerSet} {old new : Str} {ow : Bool}
    (hg : ∀ g ∈ modelRenameLayerGuards, evalS valid S old new ow g.1 = false) :
    RenameLayerPassed valid S old new ow := by
  have g1 : (!ow && (getLayer S new).isSome) = false := hg (.newExistsNoOverwrite, .duplicate) (by decide)
  have g2 : (getLayer S old).isNone = false := hg (.oldMissing, .missing) (by decide)
  have g3 : (decide (new = defaultName) && decide (headName S ≠ some old)) = false :=
    hg (.newIsDefaultHeadNotOld, .reserved) (by decide)
  have g4 : (decide (headName S = some new) && decide (headName S ≠ some old)) = false :=
    hg (.headIsNewNotOld, .duplicate) (by decide)
  have g5 : (!valid new) = false := hg (.invalidName, .invalid) (by decide)
  exact { noClash := fun how => getLayer_none (by simpa [how] using g1)
          oldExists := getLayer_not_isNone g2
          reservedOnlyHead := fun hnd => by simpa [hnd] using g3
          headNotNew := fun hh => by simpa [hh] using g4
          validNew := by simpa using g5 }

theorem sinv_afterOverwrite {S : LayerSet} {old new : Str} {ow : Bool} (h : SInv lower S)
    (pass : RenameLayerPassed valid S old new ow) :
    let S₁ := if ow && old ≠ new then removeLayer lower S new else S
    SInv lower S₁ ∧ S₁.layers.head? = S.layers.head? ∧ (∃ x ∈ S₁.layers, x.name = old) ∧
      (old ≠ new → ∀ x ∈ S₁.layers, x.name ≠ new) := by
  obtain ⟨x, hx, hxo⟩ := pass.oldExists
  by_cases hc : (ow && decide (old ≠ new)) = true
  · have hon : old ≠ new := of_decide_eq_true (Bool.and_eq_true _ _ ▸ hc).2
    -- were the first layer called `new`, the guard `headIsNewNotOld` would have fired
    have hfirst : ∀ d rest, S.layers = d :: rest → d.name ≠ new := fun d rest hS hdn =>
      hon (pass.headNotNew (by rw [headName, hS, ← hdn]; rfl)).symm
    simp only [hc, if_true]
    -- `removeLayer` looks behind the first layer only: in both cases the head is untouched (`rfl`)
    rcases removeLayer_cases S new with ⟨hno, he⟩ | ⟨d, a, l, b, hS, hl, he⟩ <;> rw [he]
    · obtain ⟨d, rest, hS, _⟩ := h.headDefault
      refine ⟨h, rfl, ⟨x, hx, hxo⟩, fun _ => ?_⟩
      rw [hS] at hno ⊢
      exact List.forall_mem_cons.2 ⟨hfirst d rest hS, hno⟩
    · obtain ⟨layers, ps⟩ := S
      subst hS
      -- the layer `old` is not the one taken out, and names are unique: no other layer is called `new`
      refine ⟨h.remove, rfl, ⟨x, ((mem_middle (a := d :: a)).1 hx).resolve_left fun e => hon ?_, hxo⟩,
        fun _ => List.forall_mem_cons.2 ⟨hfirst d _ rfl, fun y hy hyn => ?_⟩⟩
      · rw [← hxo, e, hl]
      · exact ((nodup_map_middle (a := d :: a)).1 h.namesNodup).1
          (List.mem_map.2 ⟨y, List.mem_cons_of_mem _ hy, hyn.trans hl.symm⟩)
  · simp only [hc, Bool.false_eq_true, if_false]
    -- without overwriting, the guard `newExistsNoOverwrite` says that no layer is called `new`
    exact ⟨h, trivial, ⟨x, hx, hxo⟩, fun hon => pass.noClash (by simpa [hon] using hc)⟩

end
end Layers
