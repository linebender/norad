import Norad.Lemmas.Runs
import Norad.Lemmas.SafePlan
/-!
`plan_runs_to_completion` (C09): the plan of a `WellPlanned` font finds every precondition from the clean target
(`planRestN_runs`): each segment is one of the shapes of Lemmas/Runs.lean, and segments under different names directly
below the target do not interfere.
-/
namespace FontSave
open AbsFS

variable {β : Type}

/-- `runs_succeed` of Lemmas/Runs.lean, under the name C09's `plan_runs_to_completion` cites -/
theorem runs_sound : ∀ (es : List (NEff β)) (g : FS β) (K : KRel),
    (∀ q k, K q k ↔ kindAt g q = some k) → Runs K es → ∃ g', runN es g = (none, g') :=
  runs_succeed

def topNames : List Name :=
  ["metainfo.plist", "fontinfo.plist", "lib.plist", "groups.plist", "kerning.plist", "features.fea",
   "layercontents.plist"].map String.toList

def dataN : Name := "data".toList
def imagesN' : Name := "images".toList

def reservedNames : List Name := topNames ++ [dataN, imagesN']

-- the single component of a layer directory / glif file name; meaningful under `WellPlanned.layerDir` / `.glyphs`
def lname (l : ALayer) : Name := (namesOf (Path.parse l.dir)).headD []
def gname (e : AEntry) : Name := (namesOf (Path.parse e.file)).headD []

/-- A font whose plan cannot fail for reasons of its own: every part serialises, every relative path is ONE normal
    component (layer directories, glif files, image keys), layer directories are pairwise different and none is
    called like a top-level file or store directory, no data key lies on the way to another one. -/
structure WellPlanned (f : AFont β) : Prop where
  infoOk : f.info.isEmpty = true ∨ f.info.serialisable = true
  objLibs : (dumpObjectLibs f.info.guides).isSome = true
  layerDir : ∀ l ∈ f.layers, namesOf (Path.parse l.dir) = [lname l] ∧ lname l ∉ reservedNames
  layersDistinct : f.layers.Pairwise fun a b => lname a ≠ lname b
  glyphs : ∀ l ∈ f.layers, ∀ e ∈ l.entries,
    namesOf (Path.parse e.file) = [gname e] ∧ ∃ g, e.glyph = some g ∧ g.encodable = true
  dataKeys : ((f.data.items.map (·.1)).map namesOf).Pairwise NonNestedNames ∧
    ∀ k ∈ f.data.items.map (·.1), namesOf k ≠ []
  imageKeys : ∀ k ∈ f.images.items.map (·.1), ∃ g, namesOf k = [g]

theorem headN_shape (cfg : Cfg β) (f : AFont β) (t : APath) (hw : WellPlanned f) :
    ∀ e ∈ headN cfg f t, ∃ c b, e = NEff.write (t ++ [c]) b ∧ c ∈ topNames := by
  have top : ∀ (name : String) (b : β), name.toList ∈ topNames →
      ∀ e ∈ [topN t name b], ∃ c b', e = NEff.write (t ++ [c]) b' ∧ c ∈ topNames :=
    fun name b h e he => ⟨name.toList, b, List.mem_singleton.mp he, h⟩
  have opt : ∀ (name : String) (tok : Nat) (b : β), name.toList ∈ topNames →
      ∀ e ∈ planOptN t name tok b, ∃ c b', e = NEff.write (t ++ [c]) b' ∧ c ∈ topNames := by
    intro name tok b h
    unfold planOptN
    split
    · nofun
    · exact top name b h
  simp only [headN, List.forall_mem_append]
  -- seven segments, nested as the `++` of `headN` associate: to the left
  refine ⟨⟨⟨⟨⟨⟨top _ _ (List.mem_map_of_mem (by simp)), ?_⟩, ?_⟩, opt _ _ _ (List.mem_map_of_mem (by simp))⟩,
    opt _ _ _ (List.mem_map_of_mem (by simp))⟩, opt _ _ _ (List.mem_map_of_mem (by simp))⟩,
    top _ _ (List.mem_map_of_mem (by simp))⟩
  · unfold planFontinfoN
    split
    · nofun
    · rw [if_pos (hw.infoOk.resolve_left ‹_›)]
      exact top _ _ (List.mem_map_of_mem (by simp))
  · unfold planLibN
    cases hd : dumpObjectLibs f.info.guides with
    | none => have := hw.objLibs; rw [hd] at this; cases this
    | some ol =>
      dsimp only
      split
      · nofun
      · exact top _ _ (List.mem_map_of_mem (by simp))

theorem planLayerN_shape (cfg : Cfg β) (t : APath) (l : ALayer)
    (hd : namesOf (Path.parse l.dir) = [lname l])
    (hg : ∀ e ∈ l.entries, namesOf (Path.parse e.file) = [gname e] ∧ ∃ g, e.glyph = some g ∧ g.encodable = true) :
    ∃ ws, planLayerN cfg t l = NEff.mkdir (t ++ [lname l]) :: ws ∧
      ∀ e ∈ ws, ∃ x b, e = NEff.write (t ++ [lname l] ++ [x]) b := by
  unfold planLayerN
  rw [hd]
  refine ⟨[NEff.write (t ++ [lname l] ++ [contentsFile.toList])
      (cfg.render (.contents (l.entries.map fun e => (e.name, e.file))))] ++
    (if l.info = 0 then [] else [NEff.write (t ++ [lname l] ++ [layerinfoFile.toList]) (cfg.render (.layerinfo l.info))]) ++
    l.entries.flatMap (planGlyphN cfg (t ++ [lname l])), rfl, ?_⟩
  simp only [List.forall_mem_append, List.forall_mem_flatMap, forall_mem_ite, List.forall_mem_cons, List.not_mem_nil,
    false_imp_iff, implies_true, and_true]
  refine ⟨⟨⟨_, _, rfl⟩, trivial, fun _ => ⟨_, _, rfl⟩⟩, fun en hen e he => ?_⟩
  obtain ⟨hn, g, hgl, henc⟩ := hg en hen
  rw [planGlyphN, hgl, hn] at he
  simp only [henc, if_true, List.mem_singleton] at he
  exact ⟨_, _, he⟩

theorem planImagesN_shape (t : APath) (i : List (Path.P × β)) (h : ∀ kb ∈ i, ∃ g, namesOf kb.1 = [g]) (hne : i ≠ []) :
    ∃ ws, planImagesN t i = NEff.mkdir (t ++ [imagesN']) :: ws ∧
      ∀ e ∈ ws, ∃ x b, e = NEff.write (t ++ [imagesN'] ++ [x]) b := by
  rw [planImagesN, if_neg (by simpa using hne)]
  refine ⟨_, rfl, fun e he => ?_⟩
  obtain ⟨kb, hkb, rfl⟩ := List.mem_map.mp he
  obtain ⟨g, hg⟩ := h kb hkb
  exact ⟨g, kb.2, by rw [hg]; rfl⟩

/-- `H3`: no place on the way to the target is ALSO known as a plain file (`K0` is a relation, not a function, so `H1`
    does not exclude it) -/
theorem planRestN_runs (cfg : Cfg β) (f : AFont β) (d i : List (Path.P × β)) (t : APath) (hw : WellPlanned f)
    (hd : d.map (·.1) = f.data.items.map (·.1)) (hi : i.map (·.1) = f.images.items.map (·.1))
    (K0 : KRel) (H1 : ∀ m, m <+: t → m ≠ [] → K0 m false) (H2 : ∀ q k, K0 q k → t <+: q → q = t)
    (H3 : ∀ m, m <+: t → ¬ K0 m true) : Runs K0 (planRestN cfg f d i t) := by
  have hnames : dataN ∉ topNames ∧ imagesN' ∉ topNames ∧ imagesN' ≠ dataN := by
    unfold topNames dataN imagesN'
    simp only [List.map_cons, List.map_nil]
    repeat rw [String.toList_ofList]
    decide +kernel
  have hdataR : dataN ∈ reservedNames := List.mem_append_right _ (List.mem_cons_self ..)
  have himgR : imagesN' ∈ reservedNames := List.mem_append_right _ (List.mem_cons_of_mem _ (List.mem_cons_self ..))
  have K0below : ∀ x k, x ≠ [] → ¬ K0 (t ++ x) k := fun x k hx h =>
    hx (List.append_cancel_left ((H2 _ k h (List.prefix_append _ _)).trans (List.append_nil t).symm))
  have hdne : ∀ kb ∈ d, namesOf kb.1 ≠ [] := fun kb hkb =>
    hw.dataKeys.2 kb.1 (hd ▸ List.mem_map_of_mem (f := (·.1)) hkb)
  -- the name directly below the target that every effect of a segment stands under
  have uH : ∀ x ∈ headN cfg f t, ∃ c ∈ topNames, t ++ [c] <+: x.path := fun x hx => by
    obtain ⟨c, b, rfl, hc⟩ := headN_shape cfg f t hw x hx
    exact ⟨c, hc, List.prefix_refl _⟩
  have uL : ∀ l ∈ f.layers, ∀ x ∈ planLayerN cfg t l, t ++ [lname l] <+: x.path := fun l hl x hx => by
    obtain ⟨ws, e1, e2⟩ := planLayerN_shape cfg t l (hw.layerDir l hl).1 (hw.glyphs l hl)
    exact dir_segment_under e2 x (e1 ▸ hx)
  have uD : ∀ kb ∈ d, ∀ x ∈ planDataItemN t kb, t ++ [dataN] <+: x.path := fun kb hkb x hx => by
    simp only [planDataItemN, itemN, List.dropLast_append_of_ne_nil (hdne kb hkb), List.mem_cons, List.not_mem_nil, or_false] at hx
    rcases hx with rfl | rfl <;> exact (List.prefix_append _ _)
  have hI := planImagesN_shape t i fun kb hkb => hw.imageKeys _ (hi ▸ List.mem_map_of_mem (f := (·.1)) hkb)
  have uI : ∀ x ∈ planImagesN t i, t ++ [imagesN'] <+: x.path := fun x hx => by
    by_cases hine : i = []
    · rw [hine] at hx; cases hx
    · obtain ⟨ws, e1, e2⟩ := hI hine
      exact dir_segment_under e2 x (e1 ▸ hx)
  have uHL : ∀ x ∈ headN cfg f t ++ f.layers.flatMap (planLayerN cfg t),
      ∃ c, c ≠ dataN ∧ c ≠ imagesN' ∧ t ++ [c] <+: x.path := fun x hx => by
    rcases List.mem_append.mp hx with hx | hx
    · obtain ⟨c, hc, h⟩ := uH x hx
      exact ⟨c, fun e => hnames.1 (e ▸ hc), fun e => hnames.2.1 (e ▸ hc), h⟩
    · obtain ⟨l, hl, hx⟩ := List.mem_flatMap.mp hx
      have hr := (hw.layerDir l hl).2
      exact ⟨lname l, fun e => hr (e ▸ hdataR), fun e => hr (e ▸ himgR), uL l hl x hx⟩
  -- goals in order: head runs, layers run, no clash; data runs, no clash with both; images run, no clash with all
  refine runs_append (runs_append (runs_append ?_ ?_ ?_) ?_ ?_) ?_ ?_
  · exact runs_writes t K0 _ (fun e he => by obtain ⟨c, b, h, _⟩ := headN_shape cfg f t hw e he; exact ⟨c, b, h⟩) H1
      fun c => K0below [c] false (by simp)
  · refine runs_flatMap _ K0 _ (fun l hl => ?_) (hw.layersDistinct.imp_of_mem fun hl hl' hne x hx e he =>
      noClash_of_ne (uL _ hl x hx) (uL _ hl' e he) hne)
    obtain ⟨ws, e1, e2⟩ := planLayerN_shape cfg t l (hw.layerDir l hl).1 (hw.glyphs l hl)
    rw [e1]
    exact runs_dir t K0 _ ws e2 H1 fun x k => by rw [List.append_assoc]; exact K0below _ k (by simp)
  · intro x hx e he
    obtain ⟨c, hc, hxc⟩ := uH x hx
    obtain ⟨l, hl, he⟩ := List.mem_flatMap.mp he
    exact noClash_of_ne hxc (uL l hl e he) fun e' => (hw.layerDir l hl).2 (e' ▸ List.mem_append_left _ hc)
  · refine runs_flatMap _ K0 _ (fun kb hkb => ?_) ?_
    · refine runs_item K0 _ kb.2 (by simp) (fun m hm hm0 h => ?_) (by
        rw [List.append_assoc]; exact K0below _ false (by simp))
      rcases List.prefix_or_prefix_of_prefix (hm.trans (List.dropLast_prefix _))
        (by rw [List.append_assoc]; exact List.prefix_append t _) with h4 | h4
      · exact H3 m h4 h
      · exact H3 m (H2 m true h h4 ▸ List.prefix_refl _) h
    · have := hw.dataKeys.1
      rw [← hd, List.map_map, List.pairwise_map] at this
      exact this.imp fun hnn => items_noClash _ _
        ⟨fun h => hnn.1 ((List.prefix_append_right_inj _).mp h), fun h => hnn.2 ((List.prefix_append_right_inj _).mp h)⟩
  · intro x hx e he
    obtain ⟨c, hc, _, hxc⟩ := uHL x hx
    obtain ⟨kb, hkb, he⟩ := List.mem_flatMap.mp he
    exact noClash_of_ne hxc (uD kb hkb e he) hc
  · by_cases hine : i = []
    · rw [hine]; exact runs_nil _
    · obtain ⟨ws, e1, e2⟩ := hI hine
      rw [e1]
      exact runs_dir t K0 _ ws e2 H1 fun x k => by rw [List.append_assoc]; exact K0below _ k (by simp)
  · intro x hx e he
    rcases List.mem_append.mp hx with hx | hx
    · obtain ⟨c, _, hc, hxc⟩ := uHL x hx
      exact noClash_of_ne hxc (uI e he) hc
    · obtain ⟨kb, hkb, hx⟩ := List.mem_flatMap.mp hx
      exact noClash_of_ne (uD kb hkb x hx) (uI e he) (Ne.symm hnames.2.2)

end FontSave
