import Norad.Lemmas.Kinds
import Norad.Lemmas.AbsFSOk
/-!
Success of a list of normal-form effects, decided on the KIND relation alone (which paths exist, as what): `Runs K es`
says that every effect finds its precondition (`PreK`) in the kinds known so far, and that means the effects do run
(`runs_succeed`).  Lists are put together by `runs_append`: effects that make nothing the later ones bar (`NoClash`) do
not interfere, in particular effects under different names directly below the target.
-/
namespace FontSave
open AbsFS
open Path (Comp)

variable {β : Type}

def PreK (e : NEff β) (K : KRel) : Prop :=
  match e with
  | .mkdir l => l ≠ [] ∧ OnWay (K · false) l.dropLast ∧ ∀ k, ¬ K l k
  | .write l _ => l ≠ [] ∧ OnWay (K · false) l.dropLast ∧ ¬ K l false
  | .mkdirAll l => OnWay (fun m => ¬ K m true) l
  | .fail _ => False

/-- the kinds an effect must not find: those its precondition denies -/
def Bars : NEff β → APath → Bool → Prop
  | .mkdir l, q, _ => q = l
  | .write l _, q, k => q = l ∧ k = false
  | .mkdirAll l, q, k => q <+: l ∧ k = true
  | .fail _, _, _ => False

/-- running `x` first cannot make `e` fail -/
def NoClash (x e : NEff β) : Prop := ∀ q k, EffPath x q k → ¬ Bars e q k

def Runs (K : KRel) (es : List (NEff β)) : Prop :=
  ∀ pre e post, es = pre ++ e :: post → PreK e (addAll K pre)

theorem PreK.mono {e : NEff β} {K K' : KRel} (hp : PreK e K) (hK : ∀ q k, K q k → K' q k)
    (hno : ∀ q k, K' q k → Bars e q k → K q k) : PreK e K' := by
  cases e with
  | mkdir l => exact ⟨hp.1, fun m a b => hK _ _ (hp.2.1 m a b), fun k hk => hp.2.2 k (hno l k hk rfl)⟩
  | write l b => exact ⟨hp.1, fun m a c => hK _ _ (hp.2.1 m a c), fun hk => hp.2.2 (hno l false hk ⟨rfl, rfl⟩)⟩
  | mkdirAll l => exact fun m a b hk => hp m a b (hno m true hk ⟨a, rfl⟩)
  | fail x => exact hp

theorem PreK_congr {e : NEff β} {K K' : KRel} (h : ∀ q k, K q k ↔ K' q k) (hp : PreK e K) : PreK e K' :=
  hp.mono (fun q k => (h q k).mp) fun q k hk _ => (h q k).mpr hk

theorem runs_nil (K : KRel) : Runs K ([] : List (NEff β)) := by
  intro pre e post h
  cases pre <;> cases h

theorem runs_cons {K : KRel} {e : NEff β} {r : List (NEff β)} :
    Runs K (e :: r) ↔ PreK e K ∧ Runs (addAll K [e]) r := by
  constructor
  · intro h
    exact ⟨PreK_congr (fun q k => by simp [addAll]) (h [] e r rfl),
      fun pre x post hs => PreK_congr (fun _ _ => addAll_cons) (h (e :: pre) x post (by rw [hs]; rfl))⟩
  · rintro ⟨h1, h2⟩ pre x post hs
    cases pre with
    | nil => cases hs; exact PreK_congr (fun q k => by simp [addAll]) h1
    | cons p pre' =>
      cases hs
      exact PreK_congr (fun _ _ => addAll_cons.symm) (h2 pre' x post rfl)

theorem runs_append {K : KRel} {a b : List (NEff β)} (ha : Runs K a) (hb : Runs K b)
    (hno : ∀ x ∈ a, ∀ e ∈ b, NoClash x e) : Runs K (a ++ b) := by
  intro pre e post hsplit
  have key : ∀ a' post, b = a' ++ e :: post → PreK e (addAll K (a ++ a')) := by
    intro a' post h2
    refine (hb a' e post h2).mono (fun q k => ?_) fun q k => ?_
    · rintro (h | ⟨x, hx, hp⟩)
      · exact Or.inl h
      · exact Or.inr ⟨x, List.mem_append_right _ hx, hp⟩
    · rintro (h | ⟨x, hx, hp⟩) hbar
      · exact Or.inl h
      · rcases List.mem_append.mp hx with hx | hx
        · exact absurd hbar (hno x hx e (by rw [h2]; simp) q k hp)
        · exact Or.inr ⟨x, hx, hp⟩
  rcases List.append_eq_append_iff.mp hsplit with ⟨a', rfl, h2⟩ | ⟨c', rfl, h2⟩
  · exact key a' post h2
  · cases c' with
    | nil => simpa using key [] post (by simpa using h2.symm)
    | cons x c'' =>
      obtain ⟨rfl, h3⟩ := List.cons.inj h2
      exact ha pre e c'' rfl

theorem runs_flatMap {ι : Type} (g : ι → List (NEff β)) (K : KRel) : ∀ (l : List ι), (∀ i ∈ l, Runs K (g i)) →
    l.Pairwise (fun i j => ∀ x ∈ g i, ∀ e ∈ g j, NoClash x e) → Runs K (l.flatMap g)
  | [], _, _ => runs_nil K
  | i :: r, h, hpw => by
    obtain ⟨h1, h2⟩ := List.pairwise_cons.mp hpw
    refine runs_append (h i (List.mem_cons_self ..))
      (runs_flatMap g K r (fun j hj => h j (List.mem_cons_of_mem _ hj)) h2) fun x hx e he => ?_
    obtain ⟨j, hj, hej⟩ := List.mem_flatMap.mp he
    exact h1 j hj x hx e hej

theorem runEff_ok (e : NEff β) (g : FS β) (h : PreK e (kOf g)) : ∃ g1, runEff e.toEff g = (none, g1) := by
  cases e with
  | mkdir l =>
    obtain ⟨hne, hd, hnone⟩ := h
    refine ⟨_, runEff_eq_ok.mpr (mkdir_ok hne (fun m a b => kindAt_false_iff.1 (hd m a b)) ?_)⟩
    cases hx : node g l with
    | none => rfl
    | some n => exact absurd (show kOf g l (kindOf n) by rw [kOf, kindAt, hx]; rfl) (hnone _)
  | write l b =>
    obtain ⟨hne, hd, hnd⟩ := h
    refine ⟨_, runEff_eq_ok.mpr (writeFile_ok b hne (fun m a c => kindAt_false_iff.1 (hd m a c)) ?_)⟩
    cases hx : isDir g l with
    | false => rfl
    | true => exact absurd (kindAt_dir hx) hnd
  | mkdirAll l =>
    have hok : (mkdirAll g (tC l)).2 = none := by
      rw [mkdirAll, show (tC l).reverse = l.reverse.map Comp.normal by simp [tC, List.map_reverse]]
      exact mkdirAllRev_ok l.reverse g (by rw [List.reverse_reverse]; exact noFile_iff.2 h)
    exact ⟨(mkdirAll g (tC l)).1, runEff_eq_ok.mpr (by rw [← hok])⟩
  | fail x => exact h.elim

theorem runs_succeed : ∀ (es : List (NEff β)) (g : FS β) (K : KRel),
    (∀ q k, K q k ↔ kindAt g q = some k) → Runs K es → ∃ g', runN es g = (none, g')
  | [], g, _, _, _ => ⟨g, rfl⟩
  | e :: r, g, K, hK, hruns => by
    obtain ⟨hpre, hrest⟩ := runs_cons.mp hruns
    obtain ⟨g1, hg1⟩ := runEff_ok e g (PreK_congr hK hpre)
    obtain ⟨g', hg'⟩ := runs_succeed r g1 (addAll K [e]) (fun q k =>
      (addAll_one.trans (or_congr (hK q k) Iff.rfl)).trans (runEff_kinds e hg1 q k).symm) hrest
    exact ⟨g', runN_cons_ok.mpr ⟨g1, hg1, hg'⟩⟩

theorem Bars.prefix_path {e : NEff β} {q : APath} {k : Bool} (h : Bars e q k) :
    q <+: e.path ∧ (q = e.path ∨ k = true) := by
  cases e with
  | mkdir l => exact ⟨h ▸ List.prefix_refl _, Or.inl h⟩
  | write l b => exact ⟨h.1 ▸ List.prefix_refl _, Or.inl h.1⟩
  | mkdirAll l => exact ⟨h.1, Or.inr h.2⟩
  | fail x => exact h.elim

theorem noClash_of_ne {t : APath} {c c' : Name} {x e : NEff β} (hx : t ++ [c] <+: x.path)
    (he : t ++ [c'] <+: e.path) (hne : c ≠ c') : NoClash x e := by
  intro q k hp hb
  obtain ⟨hq1, h1⟩ := hp.prefix_path
  obtain ⟨hq2, h2⟩ := hb.prefix_path
  have key : ∀ l, t ++ [c] <+: l → t ++ [c'] <+: l → False := fun l a b => by
    have := (List.prefix_append_right_inj t).mp (List.prefix_of_prefix_length_le a b (by simp))
    exact hne (by simpa using this)
  rcases h1 with rfl | rfl
  · exact key _ (hx.trans hq2) he
  · rcases h2 with rfl | h2
    · exact key _ hx (he.trans hq1)
    · cases h2

theorem runs_writes (d : APath) (K : KRel) (es : List (NEff β))
    (hshape : ∀ e ∈ es, ∃ c b, e = NEff.write (d ++ [c]) b)
    (H1 : OnWay (K · false) d) (hnd : ∀ c, ¬ K (d ++ [c]) false) : Runs K es := by
  intro pre e post hs
  obtain ⟨c, b, rfl⟩ := hshape e (by rw [hs]; simp)
  refine ⟨by simp, fun m hm hne => Or.inl (H1 m (by rwa [List.dropLast_concat] at hm) hne), ?_⟩
  rintro (h | ⟨x, hx, hp⟩)
  · exact hnd c h
  · obtain ⟨c', b', rfl⟩ := hshape x (by rw [hs]; simp [hx])
    exact absurd hp.2 (by simp)

/-- a new directory `d ++ [n]` and plain files in it (a layer; the images store) -/
theorem runs_dir (d : APath) (K : KRel) (n : Name) (ws : List (NEff β))
    (hws : ∀ e ∈ ws, ∃ x b, e = NEff.write (d ++ [n] ++ [x]) b)
    (H1 : OnWay (K · false) d) (hfree : ∀ x k, ¬ K (d ++ [n] ++ x) k) :
    Runs K (NEff.mkdir (d ++ [n]) :: ws) := by
  refine runs_cons.mpr ⟨⟨by simp, by rwa [List.dropLast_concat], by simpa using hfree []⟩, ?_⟩
  refine runs_writes (d ++ [n]) _ ws hws (fun m hm hne => ?_) ?_
  · rcases List.prefix_concat_iff.mp hm with rfl | hm
    · exact Or.inr ⟨_, List.mem_singleton.mpr rfl, rfl, rfl⟩
    · exact Or.inl (H1 m hm hne)
  · rintro x (h | ⟨y, hy, hp⟩)
    · exact hfree [x] false h
    · obtain rfl := List.mem_singleton.mp hy
      exact absurd (congrArg List.length hp.1) (by simp)

theorem dir_segment_under {d : APath} {n : Name} {ws : List (NEff β)}
    (hws : ∀ e ∈ ws, ∃ x b, e = NEff.write (d ++ [n] ++ [x]) b) :
    ∀ e ∈ NEff.mkdir (d ++ [n]) :: ws, d ++ [n] <+: e.path := by
  intro e he
  rcases List.mem_cons.mp he with rfl | he
  · exact List.prefix_refl _
  · obtain ⟨x, b, rfl⟩ := hws e he
    exact List.prefix_append _ _

def NonNestedNames (a b : List Name) : Prop := ¬ a <+: b ∧ ¬ b <+: a

theorem runs_item (K : KRel) (l : APath) (b : β) (hne : l ≠ [])
    (h1 : OnWay (fun m => ¬ K m true) l.dropLast) (h2 : ¬ K l false) : Runs K (itemN l b) := by
  refine runs_cons.mpr ⟨h1, runs_cons.mpr ⟨⟨hne, fun m hm _ => Or.inr ⟨_, List.mem_singleton.mpr rfl, hm, rfl⟩, ?_⟩, runs_nil _⟩⟩
  rintro (h | ⟨y, hy, hp⟩)
  · exact h2 h
  · obtain rfl := List.mem_singleton.mp hy
    have := hp.1.length_le
    have h0 : 0 < l.length := List.length_pos_iff.mpr hne
    rw [List.length_dropLast] at this
    omega

theorem items_noClash {l l' : APath} (b b' : β) (hnn : NonNestedNames l l') :
    ∀ x ∈ itemN l b, ∀ e ∈ itemN l' b', NoClash x e := by
  simp only [itemN, List.mem_cons, List.not_mem_nil, or_false]
  rintro x (rfl | rfl) e (rfl | rfl) q k hp hb
  · rw [hp.2] at hb; cases hb.2
  · exact hnn.2 ((hb.1 ▸ hp.1).trans (List.dropLast_prefix _))
  · exact hnn.1 ((hp.1 ▸ hb.1).trans (List.dropLast_prefix _))
  · rw [hp.2] at hb; cases hb.2

end FontSave
