import Norad.Lemmas.RoundTrip
import Norad.Lemmas.StrCode
/-!
# serde field tables ↔ plist dictionaries: a table-driven codec and its round trip (C01, "rest" of the font info)

`Ty` is the shape of a serde-derived value: a leaf named by its Rust type, a `Vec<T>`, or a struct given by its field
table (plist key, is the field an `Option`, type).  `enc` is what `#[derive(Serialize)]` + the `plist` crate do (one
entry per field that is not `None`, in field order; a vector becomes an array), `dec` what `#[derive(Deserialize)]`
with `deny_unknown_fields` does (fields are found by key, whatever the order; a missing key is `None` for an `Option`
field and an error otherwise; a key that is no field is an error).  Leaves are a parameter (`LeafCodec`) with one law.
-/
namespace FT
open RT

inductive Ty where
  | leaf (n : String)
  | vec (t : Ty)
  | struct (fs : List (String × Bool × Ty))

/-- a value; the fields of a struct are positional (aligned with the field table), `none` = `Option::None` -/
inductive Val (L : Type) where
  | leaf (x : L)
  | list (l : List (Val L))
  | struct (vs : List (Option (Val L)))

/-- leaves: `enc n x = none` when `x` is not a value of the leaf type `n` (or not representable) -/
structure LeafCodec (L : Type) where
  enc : String → L → Option PV
  dec : String → PV → Option L

variable {L : Type} (C : LeafCodec L)

/-- `List.mapM` for `Option` by plain recursion (core's is an accumulator loop), so that `fun_induction` follows the list -/
def mapMO {α β : Type} (f : α → Option β) : List α → Option (List β)
  | [] => some []
  | a :: r =>
    match f a, mapMO f r with
    | some b, some bs => some (b :: bs)
    | _, _ => none

mutual
def enc : Ty → Val L → Option PV
  | .leaf n, .leaf x => C.enc n x
  | .vec t, .list l => (mapMO (enc t) l).map PV.arr
  | .struct fs, .struct vs => (encFields fs vs).map PV.dict
  | _, _ => none
def encFields : List (String × Bool × Ty) → List (Option (Val L)) → Option Dict
  | [], [] => some []
  | (_, opt, _) :: fs, none :: vs => if opt then encFields fs vs else none
  | (k, _, t) :: fs, some v :: vs =>
    match enc t v, encFields fs vs with
    | some p, some d => some ((k, p) :: d)
    | _, _ => none
  | _, _ => none
end

mutual
def dec : Ty → PV → Option (Val L)
  | .leaf n, p => (C.dec n p).map Val.leaf
  | .vec t, .arr l => (mapMO (dec t) l).map Val.list
  | .struct fs, .dict d =>
    -- deny_unknown_fields
    if d.all (fun e => fs.any (fun f => f.1 == e.1)) then (decFields fs d).map Val.struct else none
  | _, _ => none
def decFields : List (String × Bool × Ty) → Dict → Option (List (Option (Val L)))
  | [], _ => some []
  | (k, opt, t) :: fs, d =>
    match lookupKV k d with
    | some p =>
      match dec t p, decFields fs d with
      | some v, some vs => some (some v :: vs)
      | _, _ => none
    | none => if opt then (decFields fs d).map (none :: ·) else none
end

mutual
def keysOK : Ty → Bool
  | .leaf _ => true
  | .vec t => keysOK t
  | .struct fs => nodupS (fs.map (·.1)) && keysOKL fs
def keysOKL : List (String × Bool × Ty) → Bool
  | [] => true
  | (_, _, t) :: fs => keysOK t && keysOKL fs
end

/-- the law assumed of the leaves (strings, integers, enumerations, …: the `plist` crate and serde's primitive impls) -/
def LeafLaw : Prop := ∀ n x p, C.enc n x = some p → C.dec n p = some x

theorem mapMO_rt {α β : Type} (f : α → Option β) (g : β → Option α) (l : List α) (ps : List β)
    (hl : ∀ a ∈ l, ∀ b, f a = some b → g b = some a) (h : mapMO f l = some ps) : mapMO g ps = some l := by
  fun_induction mapMO f l generalizing ps
  case case1 => cases h; rfl
  case case2 a r b bs hr ha ih =>
    cases h
    simp [mapMO, hl a (List.mem_cons_self ..) b ha, ih bs (fun x hx => hl x (List.mem_cons_of_mem _ hx)) hr]
  case case3 => cases h

theorem encFields_keys : ∀ (fs : List (String × Bool × Ty)) (vs : List (Option (Val L))) (d : Dict),
    encFields C fs vs = some d → ∀ e ∈ d, e.1 ∈ fs.map (·.1)
  | [], [], d, h => by simp only [encFields, Option.some.injEq] at h; subst h; exact fun _ he => nomatch he
  | [], _ :: _, d, h | _ :: _, [], d, h => by simp [encFields] at h
  | (k, opt, t) :: fs, none :: vs, d, h => by
    simp only [encFields] at h
    split at h
    · exact fun e he => List.mem_cons_of_mem _ (encFields_keys fs vs d h e he)
    · cases h
  | (k, opt, t) :: fs, some v :: vs, d, h => by
    simp only [encFields] at h
    split at h
    · rename_i d' _ hd
      cases h
      intro e he
      rcases List.mem_cons.1 he with rfl | he'
      · exact List.mem_cons_self ..
      · exact List.mem_cons_of_mem _ (encFields_keys fs vs d' hd e he')
    · cases h

mutual
theorem roundtrip (hL : LeafLaw C) : ∀ (t : Ty) (v : Val L) (p : PV), keysOK t = true → enc C t v = some p → dec C t p = some v
  | .leaf n, .leaf x, p, _, h => by
    simp only [dec, hL n x p h, Option.map_some]
  | .vec t, .list l, p, hk, h => by
    simp only [enc, Option.map_eq_some_iff] at h
    obtain ⟨ps, hps, rfl⟩ := h
    simp only [dec, mapMO_rt (enc C t) (dec C t) l ps (fun a _ b hb => roundtrip hL t a b hk hb) hps, Option.map_some]
  | .struct fs, .struct vs, p, hk, h => by
    simp only [enc, Option.map_eq_some_iff] at h
    obtain ⟨d, hd, rfl⟩ := h
    simp only [keysOK, Bool.and_eq_true] at hk
    have hall : d.all (fun e => fs.any (fun f => f.1 == e.1)) = true := by
      simp only [List.all_eq_true, List.any_eq_true, beq_iff_eq]
      exact fun e he => List.mem_map.1 (encFields_keys C fs vs d hd e he)
    simp only [dec, hall, if_true, fields_rt hL fs vs d hk.1 hk.2 hd d (fun _ he => he) (fun _ he _ => he), Option.map_some]
  | .leaf _, .list _, _, _, h | .leaf _, .struct _, _, _, h | .vec _, .leaf _, _, _, h | .vec _, .struct _, _, _, h
  | .struct _, .leaf _, _, _, h | .struct _, .list _, _, _, h => by simp only [enc] at h; cases h
/-- `D` is the whole dictionary: `decFields` looks every key up in all of it, while `encFields` builds `d` entry by entry -/
theorem fields_rt (hL : LeafLaw C) : ∀ (fs : List (String × Bool × Ty)) (vs : List (Option (Val L))) (d : Dict),
    nodupS (fs.map (·.1)) = true → keysOKL fs = true → encFields C fs vs = some d →
    ∀ D : Dict, (∀ e ∈ d, e ∈ D) → (∀ e ∈ D, e.1 ∈ fs.map (·.1) → e ∈ d) → decFields C fs D = some vs
  | [], [], d, _, _, h, D, _, _ => by simp only [decFields]
  | [], _ :: _, d, _, _, h, _, _, _ | _ :: _, [], d, _, _, h, _, _, _ => by simp [encFields] at h
  | (k, opt, t) :: fs, none :: vs, d, hn, hk, h, D, hsub, honly => by
    simp only [encFields] at h
    simp only [List.map_cons, nodupS_cons] at hn
    simp only [keysOKL, Bool.and_eq_true] at hk
    split at h
    · rename_i hopt
      have hno : lookupKV k D = none := lookupKV_is.eq_none_iff.2 fun hm => by
        obtain ⟨e, he, hek⟩ := List.mem_map.1 hm
        exact hn.1 (hek ▸ encFields_keys C fs vs d h e (honly e he (by simp [hek])))
      simp only [decFields, hno, hopt, if_true, Option.map_some,
        fields_rt hL fs vs d hn.2 hk.2 h D hsub fun e he hm => honly e he (List.mem_cons_of_mem _ hm)]
    · cases h
  | (k, opt, t) :: fs, some v :: vs, d, hn, hk, h, D, hsub, honly => by
    simp only [encFields] at h
    simp only [List.map_cons, nodupS_cons] at hn
    simp only [keysOKL, Bool.and_eq_true] at hk
    split at h
    · rename_i p d' hp hd
      cases h
      have hkey : ∀ e ∈ D, e.1 = k → e = (k, p) := fun e he hek => by
        rcases List.mem_cons.1 (honly e he (by simp [hek])) with rfl | he'
        · rfl
        · exact absurd (hek ▸ encFields_keys C fs vs d' hd e he') hn.1
      have hlk : lookupKV k D = some p :=
        lookupKV_is.of_mem_unique (hsub _ (List.mem_cons_self ..)) fun e he hek => congrArg Prod.snd (hkey e he hek)
      have hr := fields_rt hL fs vs d' hn.2 hk.2 hd D (fun e he => hsub e (List.mem_cons_of_mem _ he))
        fun e he hm => by
          rcases List.mem_cons.1 (honly e he (List.mem_cons_of_mem _ hm)) with rfl | he'
          · exact absurd hm hn.1
          · exact he'
      simp only [decFields, hlk, roundtrip hL t v p hk.1 hp, hr]
    · cases h
end

def stripWrap (pre : List Char) (s : List Char) : Option (List Char) :=
  if pre.isPrefixOf s && s.getLast? == some '>' then some ((s.drop pre.length).dropLast) else none

/-- the shape of a type string as `tools/extract_vocab.py` writes them; a field row is (Rust field, plist key, type
    string), `recs` the record tables; records are resolved with `fuel` -/
def tyOf (recs : List (String × List (String × String × String))) : Nat → List Char → Ty
  | 0, s => .leaf (String.ofList s)
  | fuel + 1, s =>
    match stripWrap "Vec<".toList s with
    | some inner => .vec (tyOf recs fuel inner)
    | none =>
      match recs.find? (fun r => r.1.toList == s) with
      | some r => .struct (r.2.map fun f =>
          match stripWrap "Option<".toList f.2.2.toList with
          | some inner => (f.2.1, true, tyOf recs fuel inner)
          | none => (f.2.1, false, tyOf recs fuel f.2.2.toList))
      | none => .leaf (String.ofList s)

/-- the shape of a top-level field table.  Every `Vec<…>` and every record costs one unit of fuel; norad's deepest
    path (WOFF extensions → items → values) needs 6.  Deeper nesting would leave record names among the leaves. -/
def structOf (recs : List (String × List (String × String × String))) (fields : List (String × String × String)) : Ty :=
  .struct (fields.map fun f =>
    match stripWrap "Option<".toList f.2.2.toList with
    | some inner => (f.2.1, true, tyOf recs 6 inner)
    | none => (f.2.1, false, tyOf recs 6 f.2.2.toList))

mutual
def leaves : Ty → List String
  | .leaf n => [n]
  | .vec t => leaves t
  | .struct fs => leavesL fs
def leavesL : List (String × Bool × Ty) → List String
  | [] => []
  | (_, _, t) :: fs => leaves t ++ leavesL fs
end

/-! `fieldsOK` / `shapeOK` follow `structOf` / `tyOf` decision by decision without building the shape (evaluating the
shape is slow in the kernel): every string is read once through `StrCode.chars`, keys are compared as numbers. -/

open StrCode

theorem keysOKL_eq (fs : List (String × Bool × Ty)) : keysOKL fs = fs.all (keysOK ·.2.2) := by
  induction fs with
  | nil => rfl
  | cons f fs ih => obtain ⟨k, o, t⟩ := f; simp [keysOKL, ih]

theorem leavesL_eq (fs : List (String × Bool × Ty)) : leavesL fs = fs.flatMap (leaves ·.2.2) := by
  induction fs with
  | nil => rfl
  | cons f fs ih => obtain ⟨k, o, t⟩ := f; simp [leavesL, ih]

def unOpt (t : List Char) : List Char := (stripWrap "Option<".toList t).getD t

/-- the map `tyOf` and `structOf` each apply to a field table (both write the same lambda out; `shaped_struct` meets them by
    unfolding), given the shape `ty` of every type string -/
def fieldTys (ty : List Char → Ty) (fs : List (String × String × String)) : List (String × Bool × Ty) :=
  fs.map fun f =>
    match stripWrap "Option<".toList f.2.2.toList with
    | some inner => (f.2.1, true, ty inner)
    | none => (f.2.1, false, ty f.2.2.toList)

theorem fieldTys_eq (ty : List Char → Ty) (fs : List (String × String × String)) :
    fieldTys ty fs = fs.map fun f =>
      (f.2.1, (stripWrap "Option<".toList f.2.2.toList).isSome, ty (unOpt f.2.2.toList)) := by
  apply List.map_congr_left
  intro f _
  unfold unOpt
  cases stripWrap "Option<".toList f.2.2.toList <;> rfl

def fieldsOK (ok : List Char → Bool) (fs : List (String × String × String)) : Bool :=
  distinct (fs.map (code ·.2.1)) && fs.all fun f => ok (unOpt (chars f.2.2))

/-- `keysOK (tyOf recs n s)`, and every leaf of `tyOf recs n s` is in `known` -/
def shapeOK (recs : List (String × List (String × String × String))) (known : List String) : Nat → List Char → Bool
  | 0, s => (known.map chars).contains s
  | n + 1, s =>
    match stripWrap (chars "Vec<") s with
    | some inner => shapeOK recs known n inner
    | none =>
      match recs.find? (fun r => chars r.1 == s) with
      | some r => fieldsOK (shapeOK recs known n) r.2
      | none => (known.map chars).contains s

def Shaped (known : List String) (t : Ty) : Prop := keysOK t = true ∧ (leaves t).all (known.contains ·) = true

theorem shaped_leaf (known : List String) (s : List Char) (h : (known.map chars).contains s = true) :
    Shaped known (.leaf (String.ofList s)) := by
  simp only [List.contains_eq_mem, List.mem_map, chars_eq, decide_eq_true_eq] at h
  obtain ⟨k, hk, rfl⟩ := h
  simp [Shaped, keysOK, leaves, hk]

theorem shaped_struct (known : List String) (ok : List Char → Bool) (ty : List Char → Ty)
    (h : ∀ s, ok s = true → Shaped known (ty s)) (fs : List (String × String × String))
    (hfs : fieldsOK ok fs = true) : Shaped known (.struct (fieldTys ty fs)) := by
  simp only [fieldsOK, chars_eq, Bool.and_eq_true, List.all_eq_true] at hfs
  have hty : ∀ f ∈ fs, Shaped known (ty (unOpt f.2.2.toList)) := fun f hf => h _ (hfs.2 f hf)
  rw [fieldTys_eq]
  refine ⟨?_, ?_⟩
  · simp only [keysOK, keysOKL_eq, Bool.and_eq_true, List.map_map, nodupS_iff, List.all_map, List.all_eq_true]
    exact ⟨nodup_of_distinct_codes (by simpa [List.map_map, Function.comp_def] using hfs.1), fun f hf => (hty f hf).1⟩
  · simp only [leaves, leavesL_eq, List.flatMap_map, List.all_flatMap, List.all_eq_true]
    exact fun f hf => List.all_eq_true.1 (hty f hf).2

theorem shapeOK_sound (recs : List (String × List (String × String × String))) (known : List String) :
    ∀ n s, shapeOK recs known n s = true → Shaped known (tyOf recs n s)
  | 0, s, h => shaped_leaf known s h
  | n + 1, s, h => by
    simp only [shapeOK, chars_eq] at h
    simp only [tyOf]
    -- `shapeOK` and `tyOf` branch on the same two tests: splitting `h` rewrites them in the goal as well
    split at h
    · rename_i inner _
      exact shapeOK_sound recs known n inner h
    · split at h
      · rename_i r _
        exact shaped_struct known _ _ (shapeOK_sound recs known n) r.2 h
      · exact shaped_leaf known s h

theorem structOf_shaped (recs : List (String × List (String × String × String))) (known : List String)
    (fields : List (String × String × String)) (h : fieldsOK (shapeOK recs known 6) fields = true) :
    Shaped known (structOf recs fields) :=
  shaped_struct known _ _ (shapeOK_sound recs known 6) fields h

end FT
