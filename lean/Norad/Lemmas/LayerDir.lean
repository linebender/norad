import Norad.Lemmas.FontLoad
import Norad.Lemmas.Path
/-!
Load side of C09: the directory a loaded layer keeps is one normal component (`file_name()`, layer.rs:376), and
the keys of a loaded store are safe relative paths.
-/
namespace FontLoad
open AbsFS FontSave
open Path (Comp)

variable {β : Type}

/-- a string that is one normal path component -/
def goodName (s : List Char) : Bool := !s.isEmpty && !s.contains '/' && s != ['.'] && s != ['.', '.']

theorem goodName_iff {s : List Char} :
    goodName s = true ↔ s ≠ [] ∧ '/' ∉ s ∧ s ≠ ['.'] ∧ s ≠ ['.', '.'] := by
  unfold goodName
  simp only [Bool.and_eq_true, Bool.not_eq_true', bne_iff_ne, ne_eq, List.isEmpty_eq_false_iff]
  constructor
  · rintro ⟨⟨⟨a, b⟩, c⟩, d⟩
    exact ⟨a, by simpa [List.contains_iff_mem] using b, c, d⟩
  · rintro ⟨a, b, c, d⟩
    exact ⟨⟨⟨a, by simpa [List.contains_iff_mem] using b⟩, c⟩, d⟩

theorem parse_comps_good (s q : List Char) (h : Comp.normal q ∈ (Path.parse s).comps) : goodName q = true :=
  goodName_iff.mpr (Path.normal_mem_parse h)

theorem parse_goodName {s : List Char} (h : goodName s = true) : Path.parse s = ⟨false, [.normal s]⟩ :=
  have ⟨h1, h2, h3, h4⟩ := goodName_iff.mp h
  Path.parse_name h1 h2 h3 h4

theorem safeRel_goodName {s : List Char} (h : goodName s = true) : safeRel (Path.parse s) = true := by
  rw [parse_goodName h]; rfl

theorem lastName_mem {cs : List Comp} {x : List Char} (h : lastName cs = some x) : Comp.normal x ∈ cs := by
  revert h
  fun_cases lastName cs <;> intro h <;> cases h
  exact List.mem_of_getLast? ‹_›

/-- `ht`: an empty or `.`-only `dir` makes `file_name()` return the last name of the load path itself -/
theorem lastName_joinRel_good {t : APath} (ht : ∀ n ∈ t, goodName n = true) {d x : List Char}
    (h : lastName (joinRel (tC t) (Path.parse d)) = some x) : goodName x = true := by
  have hm := lastName_mem h
  unfold joinRel at hm
  by_cases habs : (Path.parse d).abs = true
  · simp only [habs, if_true] at hm
    exact parse_comps_good d x hm
  · simp only [habs, Bool.false_eq_true, if_false, List.mem_append] at hm
    rcases hm with hm | hm
    · simp only [tC, List.mem_map] at hm
      obtain ⟨n, hn, he⟩ := hm
      have hnx : n = x := Comp.normal.inj he
      subst hnx; exact ht n hn
    · apply parse_comps_good d x
      cases hc : (Path.parse d).comps with
      | nil => rw [hc] at hm; cases hm
      | cons c r =>
        rw [hc] at hm
        cases c with
        | cur => exact List.mem_cons_of_mem _ hm
        | normal s => exact hm
        | parent => exact hm

theorem loadLayers_dirs_good {P : Parser β} {fs : FS β} {t : APath} {r : Request}
    (ht : ∀ n ∈ t, goodName n = true) :
    ∀ {lc : List (Str × Str)} {ls : List ALayer}, loadLayers P fs t r lc = .ok ls →
      ∀ l ∈ ls, goodName l.dir = true := by
  intro lc
  induction lc with
  | nil => intro ls h l hl; cases h; cases hl
  | cons e rest ih =>
    intro ls h l hl
    obtain ⟨n, d⟩ := e
    by_cases hs : shouldLoad r n d = true
    · obtain ⟨l0, ls', hld, hr, rfl⟩ := loadLayers_cons_ok hs h
      rcases List.mem_cons.mp hl with rfl | hl'
      · exact lastName_joinRel_good ht (loadLayer_spec hld).2
      · exact ih hr l hl'
    · rw [loadLayers, if_neg hs] at h
      exact ih h l hl

theorem finishLayers_dirs_good {r : Request} {ls out : List ALayer} (h : finishLayers r ls = .ok out)
    (hg : ∀ l ∈ ls, goodName l.dir = true) : ∀ l ∈ out, goodName l.dir = true := by
  obtain ⟨a, d, b, hls, rfl, _⟩ := finishLayers_ok h
  have hg' : ∀ l ∈ a ++ d :: b, goodName l.dir = true := by
    rw [← hls, withPlaceholder]
    split
    · exact List.forall_mem_append.2 ⟨hg, fun l hl => List.mem_singleton.1 hl ▸ by decide⟩
    · exact hg
  simp only [List.forall_mem_append, List.forall_mem_cons] at hg' ⊢
  obtain ⟨ha, hd, hb⟩ := hg'
  exact ⟨hd, ha, hb⟩

theorem loadImpl_layer_dirs_good {P : Parser β} {fs : FS β} {t : APath} {r : Request} {f : AFont β}
    (h : loadImpl P fs t r = .ok f) (ht : ∀ n ∈ t, goodName n = true) :
    ∀ l ∈ f.layers, goodName l.dir = true := by
  obtain ⟨_, _, hl, _⟩ := loadImpl_ok h
  obtain ⟨_, _, ls, _, hls, hfin⟩ := loadLayerSet_ok hl
  exact finishLayers_dirs_good hfin (loadLayers_dirs_good ht hls)

theorem loadStore_keys_safe {sw : Bool} {kind : StoreKind} {fs : FS β} {t : APath} {s : Store β}
    (h : loadStore sw kind fs t = .ok s) : ∀ kc ∈ s.items, safeRel kc.1 = true := by
  intro kc hkc
  obtain ⟨_, rel, hrel, hk⟩ := (loadStore_ok h).1 kc hkc
  exact hk ▸ safeRel_relKey hrel

end FontLoad
