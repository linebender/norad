import Norad.Lemmas.AbsFS
/-!
When the primitives of the abstract file system succeed on a path of names: the right-to-left directions of
`writeFile_normal`, `mkdir_normal` and the success clause of `create_dir_all`, in the form in which the success of an
effect is derived from the kinds (`runEff_ok`, Lemmas/Runs.lean).
-/
namespace AbsFS
open Path (Comp)

variable {β : Type}

theorem writeFile_ok {fs : FS β} {l : APath} (b : β) (hne : l ≠ []) (h : Dirs fs l.dropLast)
    (hd : isDir fs l = false) : writeFile fs (l.map Comp.normal) b = .ok (set fs l (.file b)) :=
  writeFile_normal.mpr ⟨hne, h, hd, rfl⟩

theorem mkdir_ok {fs : FS β} {l : APath} (hne : l ≠ []) (h : Dirs fs l.dropLast) (hn : node fs l = none) :
    mkdir fs (l.map Comp.normal) = .ok (set fs l .dir) :=
  mkdir_normal.mpr ⟨hne, h, hn, rfl⟩

theorem mkdirAllRev_ok (rl : List Name) (fs : FS β) (h : NoFile fs rl.reverse) :
    (mkdirAllRev fs (rl.map Comp.normal)).2 = none :=
  (mkdirAllRev_spec rl rfl).succeeds h

end AbsFS
