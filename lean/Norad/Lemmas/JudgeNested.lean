import Norad.Lemmas.JudgeElem
import Norad.Props.C11
/-!
# Inside `contour` and `outline`

The parser is followed through the children of a contour and of an outline, each time from an arbitrary state of the level
to a state of the same level with exactly the identifiers of what was read added (`…_reach`).  `CBad` (`parse_contour`) and
`OBad` (`parse_outline`) list the refused children in the model's terms; a self-closed `<contour …/>` is never refused,
whatever its attributes (recorded finding `container-attributes-unexamined`), so `OBad` has no constructor for it.  The
parser conses identifiers where the specification appends, so the refusal lemmas take any list with the members of `s.seen`.
A list of children is either all clean with pairwise different, fresh identifiers, or has a first child the parser refuses
after a clean prefix (`kids_split`); a clash of identifiers within one outline is found this way as well.
-/
namespace Glif
open Spec

/-! ### what the tokeniser and the shape reader guarantee of a `Spec.Doc` (not `judge`'s business) -/

def NodupAttrs (a : Option (List Attr)) : Prop := ∀ as, a = some as → (as.map (·.1)).Nodup

def CShaped : CItem → Prop
  | .elem e => NodupAttrs e.attrs ∧ e.selfClosed = true
  | .comment => True

def OShaped : OItem → Prop
  | .contour a _ kids => NodupAttrs a ∧ ∀ k, k ∈ kids → CShaped k
  | .elem e => NodupAttrs e.attrs ∧ e.selfClosed = true
  | .comment => True

section
variable {rd : Str → Option Nat}

theorem point_clean_toPt {ver : Nat} {seen : List Str} {e : Elem} {as : List Attr} {x : Point}
    (hattrs : e.attrs = some as) (hnd : (as.map (·.1)).Nodup) (hp : parsePoint rd ver seen as = some x) :
    toPt x = ptOfElem e := by
  obtain ⟨-, h2, h3⟩ := parsePoint_fields hnd hp
  simp only [toPt, ptOfElem, hattrs, h2, h3]
  cases Spec.get as "type" <;> rfl

/-- the mode must be given: `{ s with … }` does not reduce for a variable `s` -/
theorem same_state (s : PS) {m : Mode} (hm : s.mode = m) : s = { s with seen := s.seen, mode := m } := by
  cases s; cases hm; rfl

structure CtStartClean (ver : Nat) (seen : List Str) (as : List Attr) : Prop where
  nodup : (as.map (·.1)).Nodup
  own : ∀ a, a ∈ as → a.1 = "identifier".toList ∧ ver ≠ 1 ∧ validIdent a.2 = true
  fresh : ∀ i, Spec.get as "identifier" = some i → i ∉ seen

structure CKidsClean (rd : Str → Option Nat) (ver : Nat) (seen : List Str) (ks : List CItem) : Prop where
  shaped : ∀ k, k ∈ ks → CShaped k
  points : ∀ e, CItem.elem e ∈ ks → e.name = sPoint ∧ elemCheck rd ver e = ([], false)
  nodup : (ks.flatMap citemIdents).Nodup
  fresh : ∀ i, i ∈ ks.flatMap citemIdents → i ∉ seen

theorem CtStartClean.congr {ver : Nat} {seen seen' : List Str} (h : ∀ i, i ∈ seen ↔ i ∈ seen') {as : List Attr}
    (hc : CtStartClean ver seen as) : CtStartClean ver seen' as :=
  ⟨hc.nodup, hc.own, fun i hi hm => hc.fresh i hi ((h i).2 hm)⟩

theorem CKidsClean.congr {ver : Nat} {seen seen' : List Str} (h : ∀ i, i ∈ seen ↔ i ∈ seen') {ks : List CItem}
    (hc : CKidsClean rd ver seen ks) : CKidsClean rd ver seen' ks :=
  ⟨hc.shaped, hc.points, hc.nodup, fun i hi hm => hc.fresh i hi ((h i).2 hm)⟩

theorem ckid_reach (law : ReadsNumerals rd) {s : PS} {ob : OB} {cid : Option Str} {pts : List Point}
    (hm : s.mode = .contour ob cid pts) {k : CItem} (hsh : CShaped k)
    (hel : ∀ e, k = .elem e → e.name = sPoint ∧ elemCheck rd s.ver e = ([], false))
    (hfr : ∀ i, i ∈ citemIdents k → i ∉ s.seen) :
    ∃ sn np, Reach rd s (CItem.evs k) { s with seen := sn, mode := .contour ob cid (pts ++ np) } ∧
      (∀ i, i ∈ sn ↔ i ∈ s.seen ∨ i ∈ citemIdents k) ∧ np.map toPt = (contourElems [k]).map ptOfElem := by
  cases k with
  | comment =>
    exact ⟨s.seen, [], (Reach.one (step_comment s)).cast (by rw [List.append_nil]; exact same_state s hm), by simp [citemIdents], rfl⟩
  | elem e =>
    obtain ⟨hn, hclean⟩ := hel e rfl
    obtain ⟨as, hc⟩ := elemCheck_clean hclean
    have hnd := hsh.1 as hc.attrs
    have hids : citemIdents (.elem e) = (Spec.get as "identifier").toList := by
      simp only [citemIdents, hn, if_true, elemIdent_eq hc.attrs]
    obtain ⟨x, hp⟩ := point_clean_accepted law hc hn (seen := s.seen) fun v hv =>
      hfr v (by rw [hids, get_of_mem_nodup hnd hv]; exact List.mem_cons_self)
    refine ⟨addSeen s.seen x.ident, [x], ?_, fun i => ?_, ?_⟩
    · rw [CItem.evs, Elem.evs, if_pos hsh.2]
      exact Reach.one (by rw [hn, hc.attrs, step_empty_point hm, elemArm_some hp])
    · rw [mem_addSeen_iff, (parsePoint_fields hnd hp).1, hids]
    · simp [contourElems, point_clean_toPt hc.attrs hnd hp]

theorem contour_kids_reach (law : ReadsNumerals rd) : ∀ (ks : List CItem) (s : PS) (ob : OB) (cid : Option Str) (pts : List Point),
    s.mode = .contour ob cid pts → CKidsClean rd s.ver s.seen ks →
    ∃ sn newpts, Reach rd s (ks.flatMap CItem.evs) { s with seen := sn, mode := .contour ob cid (pts ++ newpts) } ∧
      (∀ i, i ∈ sn ↔ i ∈ s.seen ∨ i ∈ ks.flatMap citemIdents) ∧
      newpts.map toPt = (contourElems ks).map ptOfElem
  | [], s, ob, cid, pts, hm, _ =>
    ⟨s.seen, [], (Reach.nil s).cast (by rw [List.append_nil]; exact same_state s hm), by simp, rfl⟩
  | k :: r, s, ob, cid, pts, hm, ⟨hsh, hel, hnd, hfr⟩ => by
    rw [List.flatMap_cons] at hnd hfr
    obtain ⟨-, n2, n3⟩ := List.nodup_append.1 hnd
    obtain ⟨sn1, np1, hr1, hs1, hp1⟩ := ckid_reach law hm (hsh k List.mem_cons_self)
      (fun e he => hel e (he ▸ List.mem_cons_self)) (fun i hi => hfr i (List.mem_append_left _ hi))
    obtain ⟨sn2, np2, hr2, hs2, hp2⟩ := contour_kids_reach law r { s with seen := sn1, mode := .contour ob cid (pts ++ np1) }
      ob cid (pts ++ np1) rfl ⟨fun k hk => hsh k (List.mem_cons_of_mem _ hk),
      fun e he => hel e (List.mem_cons_of_mem _ he), n2, fun i hi hmem => ((hs1 i).1 hmem).elim
        (hfr i (List.mem_append_right _ hi)) (fun h => n3 i h i hi rfl)⟩
    refine ⟨sn2, np1 ++ np2, ?_, fun i => ?_, ?_⟩
    · rw [List.flatMap_cons, ← List.append_assoc]
      exact Reach.append hr1 hr2
    · rw [hs2, hs1, List.flatMap_cons, List.mem_append, or_assoc]
    · have : contourElems (k :: r) = contourElems [k] ++ contourElems r := by
        simp only [contourElems, ← List.filterMap_append]; rfl
      rw [List.map_append, hp1, hp2, this, List.map_append]

theorem contour_start_clean {ver : Nat} {seen : List Str} {as : List Attr} (h : CtStartClean ver seen as) :
    parseContourAttrs ver seen as = some (Spec.get as "identifier") := by
  match as, h.nodup, h.own, h.fresh with
  | [], _, _, _ => rfl
  | [a], _, hown, hfr =>
    obtain ⟨a1, a2⟩ := a
    obtain ⟨h1, h2, h3⟩ := hown _ List.mem_cons_self
    simp only at h1; subst h1
    have hg : Spec.get [("identifier".toList, a2)] "identifier" = some a2 := by simp [Spec.get]
    have hf := hfr a2 hg
    rw [hg]
    simp [parseContourAttrs, foldAttrs, ctStep, h2, sIdentifier_lit, readIdent, h3, hf]
  | a :: b :: r, hnd, hown, _ =>
    have h1 := (hown a List.mem_cons_self).1
    have h2 := (hown b (List.mem_cons_of_mem _ List.mem_cons_self)).1
    simp only [List.map_cons, List.nodup_cons, List.mem_cons, not_or] at hnd
    exact absurd (h1.trans h2.symm) hnd.1.1

theorem contour_enter {s : PS} {ob : OB} (hm : s.mode = .outline ob) {seen : List Str} (hs : ∀ i, i ∈ seen ↔ i ∈ s.seen)
    {as : List Attr} (hst : CtStartClean s.ver seen as) :
    step rd s (.start sContour (some as)) = .ok (.inl
      { s with seen := addSeen s.seen (Spec.get as "identifier"), mode := .contour ob (Spec.get as "identifier") [] }) := by
  rw [step_start_contour hm, elemArm_some (contour_start_clean (hst.congr hs))]

/-- the attribute part of `Spec.contourCheck`, copied; `contourCheck_eq` ties the copies -/
def ctOwn (rd : Str → Option Nat) (ver : Nat) (as : List Attr) : List String × Bool :=
  merge (as.map fun a =>
    if a.1 = "identifier".toList then
      (if ver == 1 then (["v1-attr"], false) else valueCheck rd .ident a.2)
    else (["unknown-attr"], false))

theorem contourCheck_eq (ver : Nat) (as : List Attr) (kids : List CItem) :
    contourCheck rd ver (some as) kids =
      merge (ctOwn rd ver as ::
        ((if (contourElems kids).all (fun e => e.name = sPoint) ∧ !C11.legalB ((contourElems kids).map ptOfElem)
          then ["contour"] else []), false) ::
        (contourElems kids).map (fun e => if e.name = sPoint then elemCheck rd ver e else (["unknown-element"], false))) := rfl

theorem ctOwn_clean {ver : Nat} {as : List Attr} (hc : ctOwn rd ver as = ([], false)) :
    ∀ x, x ∈ as → x.1 = "identifier".toList ∧ ver ≠ 1 ∧ validIdent x.2 = true := by
  intro x hx
  have hx' := merge_clean_iff.1 hc _ (List.mem_map.2 ⟨x, hx, rfl⟩)
  split at hx'
  · rename_i hi
    split at hx'
    · cases hx'
    · rename_i hv
      exact ⟨hi, fun e => hv (by rw [e]; rfl), (valueCheck_clean hx' : validIdent x.2 = true ∧ x.2 ≠ []).1⟩
  · cases hx'

theorem contourCheck_clean {ver : Nat} {a : Option (List Attr)} {kids : List CItem}
    (h : contourCheck rd ver a kids = ([], false)) :
    (∃ as, a = some as ∧ ∀ x, x ∈ as → x.1 = "identifier".toList ∧ ver ≠ 1 ∧ validIdent x.2 = true) ∧
    (∀ e, CItem.elem e ∈ kids → e.name = sPoint ∧ elemCheck rd ver e = ([], false)) ∧
    C11.legalB ((contourElems kids).map ptOfElem) = true := by
  cases a with
  | none => simp [contourCheck, merge] at h
  | some as =>
    rw [contourCheck_eq] at h
    have hm := merge_clean_iff.1 h
    have hper : ∀ e, CItem.elem e ∈ kids → e.name = sPoint ∧ elemCheck rd ver e = ([], false) := by
      intro e he
      have hmem : e ∈ contourElems kids := List.mem_filterMap.2 ⟨_, he, rfl⟩
      have := hm _ (List.mem_cons_of_mem _ (List.mem_cons_of_mem _ (List.mem_map.2 ⟨e, hmem, rfl⟩)))
      by_cases hn : e.name = sPoint
      · simp only [hn, if_true] at this; exact ⟨hn, this⟩
      · simp [hn] at this
    refine ⟨⟨as, rfl, ctOwn_clean (hm _ List.mem_cons_self)⟩, hper, ?_⟩
    have := hm _ (List.mem_cons_of_mem _ List.mem_cons_self)
    simp only [Prod.mk.injEq, and_true] at this
    have hall : ((contourElems kids).all (fun e => decide (e.name = sPoint))) = true := by
      apply List.all_eq_true.2
      intro e he
      obtain ⟨k, hk, hke⟩ := List.mem_filterMap.1 he
      cases k with
      | comment => cases hke
      | elem e' => cases hke; simpa using (hper _ hk).1
    cases hl : C11.legalB ((contourElems kids).map ptOfElem) with
    | true => rfl
    | false =>
      rw [if_pos ⟨hall, by rw [hl]; rfl⟩] at this
      cases this

theorem oitemIdents_contour (as : List Attr) (kids : List CItem) :
    oitemIdents (.contour (some as) false kids) = (Spec.get as "identifier").toList ++ kids.flatMap citemIdents := by
  simp only [oitemIdents]
  cases Spec.get as "identifier" <;> rfl

theorem okid_reach (law : ReadsNumerals rd) {s : PS} {ob : OB} (hm : s.mode = .outline ob) {k : OItem} (hsh : OShaped k)
    (hk : oitemCheck rd s.ver k = ([], false)) (hnd : (oitemIdents k).Nodup) (hfr : ∀ i, i ∈ oitemIdents k → i ∉ s.seen) :
    ∃ sn ob', Reach rd s (OItem.evs k) { s with seen := sn, mode := .outline ob' } ∧
      ∀ i, i ∈ sn ↔ i ∈ s.seen ∨ i ∈ oitemIdents k := by
  cases k with
  | comment =>
    exact ⟨s.seen, ob, (Reach.one (step_comment s)).cast (same_state s hm), by simp [oitemIdents]⟩
  | elem e =>
    simp only [oitemCheck] at hk
    by_cases hn : e.name = sComponent
    · rw [if_pos hn] at hk
      obtain ⟨as, hc⟩ := elemCheck_clean hk
      have hnda := hsh.1 as hc.attrs
      have hids : oitemIdents (.elem e) = (Spec.get as "identifier").toList := by
        simp only [oitemIdents, hn, if_true, elemIdent_eq hc.attrs]
      obtain ⟨x, hp⟩ := component_clean_accepted law hc hn (seen := s.seen) fun v hv =>
        hfr v (by rw [hids, get_of_mem_nodup hnda hv]; exact List.mem_cons_self)
      refine ⟨addSeen s.seen x.ident, { ob with components := ob.components ++ [x] }, ?_, fun i => ?_⟩
      · rw [OItem.evs, Elem.evs, if_pos hsh.2]
        exact Reach.one (by rw [hn, hc.attrs, step_empty_component hm, elemArm_some hp])
      · rw [mem_addSeen_iff, parseComponent_ident hnda hp, hids]
    · simp [hn] at hk
  | contour a sc kids =>
    cases sc with
    | true =>
      exact ⟨s.seen, ob, (Reach.one (step_empty_contour hm a)).cast (same_state s hm), by simp [oitemIdents]⟩
    | false =>
      obtain ⟨⟨as, rfl, hown⟩, hper, hleg⟩ := contourCheck_clean hk
      rw [oitemIdents_contour] at hnd hfr ⊢
      obtain ⟨-, m2, m3⟩ := List.nodup_append.1 hnd
      have h1 := contour_enter (rd := rd) hm (fun _ => Iff.rfl) ⟨hsh.1 as rfl, hown, fun i hi =>
        hfr i (List.mem_append_left _ (by rw [hi]; exact List.mem_cons_self))⟩
      obtain ⟨sn, np, hr, hs1, hs2⟩ := contour_kids_reach law kids
        { s with seen := addSeen s.seen (Spec.get as "identifier"), mode := .contour ob (Spec.get as "identifier") [] }
        ob (Spec.get as "identifier") [] rfl ⟨hsh.2, hper, m2, fun i hi hmem => (mem_addSeen_iff.1 hmem).elim
          (hfr i (List.mem_append_right _ hi)) (fun h => m3 i h i hi rfl)⟩
      have hacc : C11.accepts (([] ++ np).map toPt) = true := by
        rw [List.nil_append, hs2, C11.accepts_eq_legalB]; exact hleg
      refine ⟨sn, _, Reach.cons h1 (Reach.append hr (Reach.one (by rw [step_close_contour rfl, if_pos hacc]; rfl))),
        fun i => ?_⟩
      rw [hs1, mem_addSeen_iff, List.mem_append, or_assoc]

structure OKidsClean (rd : Str → Option Nat) (ver : Nat) (seen : List Str) (ks : List OItem) : Prop where
  shaped : ∀ k, k ∈ ks → OShaped k
  clean : ∀ k, k ∈ ks → oitemCheck rd ver k = ([], false)
  nodup : (ks.flatMap oitemIdents).Nodup
  fresh : ∀ i, i ∈ ks.flatMap oitemIdents → i ∉ seen

theorem OKidsClean.congr {ver : Nat} {seen seen' : List Str} (h : ∀ i, i ∈ seen ↔ i ∈ seen') {ks : List OItem}
    (hc : OKidsClean rd ver seen ks) : OKidsClean rd ver seen' ks :=
  ⟨hc.shaped, hc.clean, hc.nodup, fun i hi hm => hc.fresh i hi ((h i).2 hm)⟩

theorem outline_kids_reach (law : ReadsNumerals rd) : ∀ (ks : List OItem) (s : PS) (ob : OB),
    s.mode = .outline ob → OKidsClean rd s.ver s.seen ks →
    ∃ sn ob', Reach rd s (ks.flatMap OItem.evs) { s with seen := sn, mode := .outline ob' } ∧
      ∀ i, i ∈ sn ↔ i ∈ s.seen ∨ i ∈ ks.flatMap oitemIdents
  | [], s, ob, hm, _ => ⟨s.seen, ob, (Reach.nil s).cast (same_state s hm), by simp⟩
  | k :: r, s, ob, hm, ⟨hsh, hcl, hnd, hfr⟩ => by
    rw [List.flatMap_cons] at hnd hfr
    obtain ⟨n1, n2, n3⟩ := List.nodup_append.1 hnd
    obtain ⟨sn1, ob1, hr1, hs1⟩ := okid_reach law hm (hsh k List.mem_cons_self) (hcl k List.mem_cons_self) n1
      (fun i hi => hfr i (List.mem_append_left _ hi))
    obtain ⟨sn2, ob2, hr2, hs2⟩ := outline_kids_reach law r { s with seen := sn1, mode := .outline ob1 } ob1 rfl
      ⟨fun k hk => hsh k (List.mem_cons_of_mem _ hk), fun k hk => hcl k (List.mem_cons_of_mem _ hk), n2,
      fun i hi hmem => ((hs1 i).1 hmem).elim (hfr i (List.mem_append_right _ hi)) (fun h => n3 i h i hi rfl)⟩
    refine ⟨sn2, ob2, ?_, fun i => ?_⟩
    · rw [List.flatMap_cons]
      exact Reach.append hr1 hr2
    · rw [hs2, hs1, List.flatMap_cons, List.mem_append, or_assoc]

end

section
variable {rd : Str → Option Nat}

/-- a child of a contour the parser refuses; `e.attrs = none`: the attributes do not parse as XML -/
inductive CBad (rd : Str → Option Nat) (ver : Nat) (seen : List Str) : CItem → Prop
  | unknown (e : Elem) : e.name ≠ sPoint → CBad rd ver seen (.elem e)
  | attrSyntax (e : Elem) : e.attrs = none → CBad rd ver seen (.elem e)
  | point (e : Elem) (as : List Attr) : e.name = sPoint → e.attrs = some as → ElemBad rd ver seen sPoint as →
      CBad rd ver seen (.elem e)

theorem Spec.Elem.evs_rejected {s : PS} (e : Elem) (hs : ∃ k, step rd s (.start e.name e.attrs) = .error k)
    (he : ∃ k, step rd s (.empty e.name e.attrs) = .error k) (rest : List Ev) :
    accepted (run rd s (e.evs ++ rest)) = false := by
  obtain ⟨k1, h1⟩ := hs
  obtain ⟨k2, h2⟩ := he
  unfold Elem.evs
  split
  · exact rejected_of_step h2 _
  · exact rejected_of_step h1 _

theorem contour_elem_rejected {s : PS} {ob : OB} {cid : Option Str} {pts : List Point} (hm : s.mode = .contour ob cid pts)
    (e : Elem) (h : e.name = sPoint → ∀ as, e.attrs = some as → parsePoint rd s.ver s.seen as = none) (rest : List Ev) :
    accepted (run rd s (e.evs ++ rest)) = false := by
  refine e.evs_rejected ⟨_, step_contour hm _⟩ ?_ rest
  rw [step_contour hm, stepContour_empty]
  split
  · exact elemArm_error (h ‹_›)
  · exact ⟨_, rfl⟩

theorem outline_elem_rejected {s : PS} {ob : OB} (hm : s.mode = .outline ob) (e : Elem) (hc : e.name ≠ sContour)
    (h : e.name = sComponent → ∀ as, e.attrs = some as → parseComponent rd s.ver s.seen as = none) (rest : List Ev) :
    accepted (run rd s (e.evs ++ rest)) = false := by
  refine e.evs_rejected ⟨_, by rw [step_outline hm, stepOutline_start, if_neg hc]⟩ ?_ rest
  rw [step_outline hm, stepOutline_empty, if_neg hc]
  split
  · exact elemArm_error (h ‹_›)
  · exact ⟨_, rfl⟩

theorem cbad_rejected {s : PS} {ob : OB} {cid : Option Str} {pts : List Point} (hm : s.mode = .contour ob cid pts)
    {seen : List Str} (hs : ∀ i, i ∈ seen ↔ i ∈ s.seen)
    {k : CItem} (h : CBad rd s.ver seen k) (rest : List Ev) : accepted (run rd s (CItem.evs k ++ rest)) = false := by
  cases h with
  | unknown e hn => exact contour_elem_rejected hm e (fun h => absurd h hn) rest
  | attrSyntax e ha => exact contour_elem_rejected hm e (fun _ as h => nomatch ha.symm.trans h) rest
  | point e as hn ha hbad =>
    exact contour_elem_rejected hm e (fun _ as' h => by
      cases ha.symm.trans h; exact parsePoint_none_iff.2 (hbad.congr hs)) rest

theorem contour_kids_bad (law : ReadsNumerals rd) (kpre : List CItem) (kbad : CItem) (kpost : List CItem)
    (s : PS) (ob : OB) (cid : Option Str) (pts : List Point) (hm : s.mode = .contour ob cid pts)
    {seen : List Str} (hs : ∀ i, i ∈ seen ↔ i ∈ s.seen) (hk : CKidsClean rd s.ver seen kpre)
    (hbad : CBad rd s.ver (seen ++ kpre.flatMap citemIdents) kbad) (rest : List Ev) :
    accepted (run rd s ((kpre ++ kbad :: kpost).flatMap CItem.evs ++ rest)) = false := by
  obtain ⟨sn, np, hr, hsn, _⟩ := contour_kids_reach law kpre s ob cid pts hm (hk.congr hs)
  rw [List.flatMap_append, List.flatMap_cons, List.append_assoc, List.append_assoc, run_of_reach rd hr]
  exact cbad_rejected (s := { s with seen := sn, mode := .contour ob cid (pts ++ np) }) rfl
    (fun i => by rw [hsn, List.mem_append, hs]) hbad _

theorem contour_illegal_rejected (law : ReadsNumerals rd) (ks : List CItem)
    (s : PS) (ob : OB) (cid : Option Str) (hm : s.mode = .contour ob cid [])
    (hk : CKidsClean rd s.ver s.seen ks)
    (hill : C11.legalB ((contourElems ks).map ptOfElem) = false) (rest : List Ev) :
    accepted (run rd s (ks.flatMap CItem.evs ++ .close sContour :: rest)) = false := by
  obtain ⟨sn, np, hr, _, hpts⟩ := contour_kids_reach law ks s ob cid [] hm hk
  rw [run_of_reach rd hr]
  have hacc : C11.accepts (np.map toPt) = false := by
    rw [hpts, C11.accepts_eq_legalB]; exact hill
  exact rejected_of_step (k := .contour) (by rw [step_close_contour rfl, List.nil_append, hacc]; rfl) _

def CtAttrBad (ver : Nat) (seen : List Str) (a : Attr) : Prop :=
  ver = 1 ∨ a.1 ≠ sIdentifier ∨ readIdent ver seen a.2 = none

theorem ctAttrBad_fails {ver : Nat} {seen : List Str} {as : List Attr} {a : Attr} (ha : a ∈ as) (hb : CtAttrBad ver seen a) :
    parseContourAttrs ver seen as = none := by
  refine foldAttrs_none_of_mem _ a (fun acc => Option.eq_none_iff_forall_ne_some.2 fun o h => ?_) as _ ha
  obtain ⟨hv, hk, i, hr, -⟩ := ctStep_some.1 h
  rcases hb with h | h | h
  · exact hv h
  · exact h hk
  · rw [h] at hr; cases hr

inductive OBad (rd : Str → Option Nat) (ver : Nat) (seen : List Str) : OItem → Prop
  | unknown (e : Elem) : e.name ≠ sComponent → e.name ≠ sContour → OBad rd ver seen (.elem e)
  | attrSyntax (e : Elem) : e.name ≠ sContour → e.attrs = none → OBad rd ver seen (.elem e)
  | component (e : Elem) (as : List Attr) : e.name = sComponent → e.attrs = some as → ElemBad rd ver seen sComponent as →
      OBad rd ver seen (.elem e)
  | contourAttrSyntax (kids : List CItem) : OBad rd ver seen (.contour none false kids)
  | contourStart (as : List Attr) (kids : List CItem) (a : Attr) : a ∈ as → CtAttrBad ver seen a →
      OBad rd ver seen (.contour (some as) false kids)
  | contourChild (as : List Attr) (kpre : List CItem) (kbad : CItem) (kpost : List CItem) :
      CtStartClean ver seen as → CKidsClean rd ver (seen ++ (Spec.get as "identifier").toList) kpre →
      CBad rd ver (seen ++ (Spec.get as "identifier").toList ++ kpre.flatMap citemIdents) kbad →
      OBad rd ver seen (.contour (some as) false (kpre ++ kbad :: kpost))
  | contourIllegal (as : List Attr) (kids : List CItem) :
      CtStartClean ver seen as → CKidsClean rd ver (seen ++ (Spec.get as "identifier").toList) kids →
      C11.legalB ((contourElems kids).map ptOfElem) = false →
      OBad rd ver seen (.contour (some as) false kids)

theorem obad_rejected (law : ReadsNumerals rd) {s : PS} {ob : OB} (hm : s.mode = .outline ob)
    {seen : List Str} (hs : ∀ i, i ∈ seen ↔ i ∈ s.seen)
    {k : OItem} (h : OBad rd s.ver seen k) (rest : List Ev) : accepted (run rd s (OItem.evs k ++ rest)) = false := by
  -- the state a clean start tag leads to (`contour_enter`)
  let s' (as : List Attr) : PS :=
    { s with seen := addSeen s.seen (Spec.get as "identifier"), mode := .contour ob (Spec.get as "identifier") [] }
  have hs' : ∀ as i, i ∈ seen ++ (Spec.get as "identifier").toList ↔ i ∈ (s' as).seen :=
    fun as i => by rw [List.mem_append, hs]; exact mem_addSeen_iff.symm
  cases h with
  | unknown e h1 h2 => exact outline_elem_rejected hm e h2 (fun h => absurd h h1) rest
  | attrSyntax e h2 ha => exact outline_elem_rejected hm e h2 (fun _ as h => nomatch ha.symm.trans h) rest
  | component e as hn ha hbad =>
    exact outline_elem_rejected hm e (hn ▸ elemNames.component) (fun _ as' h => by
      cases ha.symm.trans h; exact parseComponent_none_iff.2 (hbad.congr hs)) rest
  | contourAttrSyntax kids => exact rejected_of_step (k := .xml) (by rw [step_start_contour hm]; rfl) _
  | contourStart as kids a ha hb =>
    exact rejected_of_step (by rw [step_start_contour hm, elemArm_none (ctAttrBad_fails ha
      (by unfold CtAttrBad at hb ⊢; rwa [← readIdent_congr hs]))]) _
  | contourChild as kpre kbad kpost hst hk hbad =>
    simp only [OItem.evs, List.cons_append, run, contour_enter (rd := rd) hm hs hst]
    rw [List.append_assoc]
    exact contour_kids_bad law kpre kbad kpost (s' as) ob _ [] rfl (hs' as) hk hbad _
  | contourIllegal as kids hst hk hill =>
    simp only [OItem.evs, List.cons_append, run, contour_enter (rd := rd) hm hs hst]
    rw [List.append_assoc]
    exact contour_illegal_rejected law kids (s' as) ob _ rfl (hk.congr (hs' as)) hill _

theorem outline_kids_bad (law : ReadsNumerals rd) (kpre : List OItem) (kbad : OItem) (kpost : List OItem)
    (s : PS) (ob : OB) (hm : s.mode = .outline ob) {seen : List Str} (hs : ∀ i, i ∈ seen ↔ i ∈ s.seen)
    (hc : OKidsClean rd s.ver seen kpre)
    (hbad : OBad rd s.ver (seen ++ kpre.flatMap oitemIdents) kbad) (rest : List Ev) :
    accepted (run rd s ((kpre ++ kbad :: kpost).flatMap OItem.evs ++ rest)) = false := by
  obtain ⟨sn, ob', hr, hsn⟩ := outline_kids_reach law kpre s ob hm (hc.congr hs)
  rw [List.flatMap_append, List.flatMap_cons, List.append_assoc, List.append_assoc, run_of_reach rd hr]
  exact obad_rejected law (s := { s with seen := sn, mode := .outline ob' }) rfl
    (fun i => by rw [hsn, List.mem_append, hs]) hbad _

end

section
variable {rd : Str → Option Nat} {ver : Nat}

section
variable {κ : Type} {ids : κ → List Str} {Good : κ → Prop}

/-- `CKidsClean` and `OKidsClean` in one -/
structure KidsGood {κ : Type} (ids : κ → List Str) (Good : κ → Prop) (seen : List Str) (ks : List κ) : Prop where
  good : ∀ k, k ∈ ks → Good k
  nodup : (ks.flatMap ids).Nodup
  fresh : ∀ i, i ∈ ks.flatMap ids → i ∉ seen

theorem KidsGood.cons {seen : List Str} {k : κ} {r : List κ}
    (hg : Good k) (hnd : (ids k).Nodup) (hfr : ∀ i, i ∈ ids k → i ∉ seen) (hc : KidsGood ids Good (seen ++ ids k) r) :
    KidsGood ids Good seen (k :: r) := by
  refine ⟨List.forall_mem_cons.2 ⟨hg, hc.good⟩, ?_, ?_⟩
  · rw [List.flatMap_cons]
    exact List.nodup_append.2 ⟨hnd, hc.nodup, fun a ha b hb hab => hc.fresh b hb (List.mem_append_right _ (hab ▸ ha))⟩
  · rw [List.flatMap_cons]
    exact List.forall_mem_append.2 ⟨hfr, fun i hi hm => hc.fresh i hi (List.mem_append_left _ hm)⟩

theorem kids_split (ids : κ → List Str) (Good : κ → Prop) (Bad : List Str → κ → Prop) :
    ∀ (ks : List κ) (seen : List Str),
    (∀ k, k ∈ ks → ∀ seen, Bad seen k ∨ (Good k ∧ (ids k).Nodup ∧ ∀ i, i ∈ ids k → i ∉ seen)) →
    KidsGood ids Good seen ks ∨ ∃ kpre kbad kpost, ks = kpre ++ kbad :: kpost ∧ KidsGood ids Good seen kpre ∧
      Bad (seen ++ kpre.flatMap ids) kbad
  | [], seen, _ => .inl ⟨nofun, List.nodup_nil, nofun⟩
  | k :: r, seen, h => by
    rcases h k List.mem_cons_self seen with hb | ⟨hg, hnd, hfr⟩
    · exact .inr ⟨[], k, r, rfl, ⟨nofun, List.nodup_nil, nofun⟩, by rwa [List.flatMap_nil, List.append_nil]⟩
    · rcases kids_split ids Good Bad r (seen ++ ids k) (fun x hx => h x (List.mem_cons_of_mem _ hx)) with
        hc | ⟨kpre, kbad, kpost, e, hc, hb⟩
      · exact .inl (hc.cons hg hnd hfr)
      · exact .inr ⟨k :: kpre, kbad, kpost, by rw [e]; rfl, hc.cons hg hnd hfr,
          by rwa [List.flatMap_cons, ← List.append_assoc]⟩

end

/-- the entry of `Spec.contourCheck` for one child, copied (`contour_decide` ties the copies) -/
def ckidCheck (rd : Str → Option Nat) (ver : Nat) : CItem → List String × Bool
  | .elem e => if e.name = sPoint then elemCheck rd ver e else (["unknown-element"], false)
  | .comment => ([], false)

theorem ckid_decide (lawT : ReadsTrimmed rd) (seen : List Str) (k : CItem) (hsh : CShaped k)
    (h2 : (ckidCheck rd ver k).2 = false) (hnf : ∀ r, r ∈ (ckidCheck rd ver k).1 → r ∉ findingValueRules) :
    CBad rd ver seen k ∨
      ((∀ e, k = .elem e → e.name = sPoint ∧ elemCheck rd ver e = ([], false)) ∧ (citemIdents k).Nodup ∧
        ∀ i, i ∈ citemIdents k → i ∉ seen) := by
  cases k with
  | comment => exact .inr ⟨(by intro e h; cases h), (by simp [citemIdents]), (by simp [citemIdents])⟩
  | elem e =>
    by_cases hn : e.name = sPoint
    · cases ha : e.attrs with
      | none => exact .inl (.attrSyntax e ha)
      | some as =>
        simp only [ckidCheck, hn, if_true] at h2 hnf
        rcases ident_elem_decide lawT seen (.inl hn) ha (hsh.1 as ha) h2 hnf with hb | ⟨hc, hfr⟩
        · exact .inl (.point e as hn ha (hn ▸ hb))
        · refine .inr ⟨fun e' he => by cases he; exact ⟨hn, hc⟩, ?_, ?_⟩
          · simp only [citemIdents, hn, if_true, elemIdent_eq ha]; exact nodup_toList _
          · simpa only [citemIdents, hn, if_true] using hfr
    · exact .inl (.unknown e hn)

theorem ckids_split (lawT : ReadsTrimmed rd) {ver : Nat} : ∀ (ks : List CItem) (seen : List Str),
    (∀ k, k ∈ ks → CShaped k) → (∀ k, k ∈ ks → (ckidCheck rd ver k).2 = false) →
    (∀ k, k ∈ ks → ∀ r, r ∈ (ckidCheck rd ver k).1 → r ∉ findingValueRules) →
    CKidsClean rd ver seen ks ∨ ∃ kpre kbad kpost, ks = kpre ++ kbad :: kpost ∧ CKidsClean rd ver seen kpre ∧
      CBad rd ver (seen ++ kpre.flatMap citemIdents) kbad := by
    intro ks seen hsh h2 hnf
    have conv : ∀ {s : List Str} {l : List CItem}, KidsGood citemIdents (fun k => CShaped k ∧
        ∀ e, k = .elem e → e.name = sPoint ∧ elemCheck rd ver e = ([], false)) s l → CKidsClean rd ver s l :=
      fun h => ⟨fun k hk => (h.good k hk).1, fun e he => (h.good _ he).2 e rfl, h.nodup, h.fresh⟩
    rcases kids_split citemIdents (fun k => CShaped k ∧ ∀ e, k = .elem e → e.name = sPoint ∧ elemCheck rd ver e = ([], false))
        (CBad rd ver) ks seen (fun k hk s =>
        (ckid_decide lawT s k (hsh k hk) (h2 k hk) (hnf k hk)).imp_right fun h => ⟨⟨hsh k hk, h.1⟩, h.2⟩) with
      hc | ⟨kpre, kbad, kpost, e, hc, hb⟩
    · exact .inl (conv hc)
    · exact .inr ⟨kpre, kbad, kpost, e, conv hc, hb⟩

theorem ctOwn_decide (lawT : ReadsTrimmed rd) (seen : List Str) {as : List Attr}
    (h2 : (ctOwn rd ver as).2 = false) (hnf : ∀ r, r ∈ (ctOwn rd ver as).1 → r ∉ findingValueRules) :
    (∃ a, a ∈ as ∧ CtAttrBad ver seen a) ∨ ctOwn rd ver as = ([], false) := by
  by_cases hown : (ctOwn rd ver as).1 = []
  · exact .inr (Prod.ext hown h2)
  · obtain ⟨r, hr⟩ := List.exists_mem_of_ne_nil _ hown
    obtain ⟨x, hx, hrx⟩ := mem_merge_iff.1 hr
    obtain ⟨a, ha, rfl⟩ := List.mem_map.1 hx
    refine .inl ⟨a, ha, ?_⟩
    by_cases hi : a.1 = "identifier".toList
    · by_cases hv : ver = 1
      · exact .inl hv
      · simp only [if_pos hi, show (ver == 1) = false from beq_false_of_ne hv, Bool.false_eq_true, if_false] at hrx
        exact .inr (.inr ((valueCheck_refuses lawT (k := .ident) hrx (hnf r hr)).1 nofun))
    · exact .inr (.inl hi)

theorem contour_decide (lawT : ReadsTrimmed rd) (seen : List Str) {as : List Attr} {kids : List CItem}
    (hnda : (as.map (·.1)).Nodup) (hkids : ∀ k, k ∈ kids → CShaped k)
    (h2 : (contourCheck rd ver (some as) kids).2 = false)
    (hnf : ∀ r, r ∈ (contourCheck rd ver (some as) kids).1 → r ∉ findingValueRules) :
    OBad rd ver seen (.contour (some as) false kids) ∨
      (contourCheck rd ver (some as) kids = ([], false) ∧ (oitemIdents (.contour (some as) false kids)).Nodup ∧
        ∀ i, i ∈ oitemIdents (.contour (some as) false kids) → i ∉ seen) := by
  rw [contourCheck_eq] at h2 hnf ⊢
  rcases ctOwn_decide lawT seen (merge_snd_false h2 List.mem_cons_self)
      (fun r hr => hnf r (mem_merge_iff.2 ⟨_, List.mem_cons_self, hr⟩)) with ⟨a, ha, hbad⟩ | hownc
  · exact .inl (.contourStart as kids a ha hbad)
  by_cases hseen : ∃ i, Spec.get as "identifier" = some i ∧ i ∈ seen
  · obtain ⟨i, hg, hi⟩ := hseen
    exact .inl (.contourStart as kids (sIdentifier, i) (get_mem hg) (.inr (.inr (readIdent_seen ver hi))))
  have hst : CtStartClean ver seen as := ⟨hnda, ctOwn_clean hownc, fun i hg hi => hseen ⟨i, hg, hi⟩⟩
  -- what `contourCheck` says about a child: nothing (a comment), or one of its per-point entries
  have hper : ∀ k, k ∈ kids → ckidCheck rd ver k = ([], false) ∨
      ckidCheck rd ver k ∈ (contourElems kids).map fun e => ckidCheck rd ver (.elem e) := by
    intro k hk
    cases k with
    | comment => exact .inl rfl
    | elem e => exact .inr (List.mem_map.2 ⟨e, List.mem_filterMap.2 ⟨_, hk, rfl⟩, rfl⟩)
  rcases ckids_split lawT kids (seen ++ (Spec.get as "identifier").toList) hkids
      (fun k hk => (hper k hk).elim (fun h => by rw [h])
        fun h => merge_snd_false h2 (List.mem_cons_of_mem _ (List.mem_cons_of_mem _ h)))
      (fun k hk r hr => (hper k hk).elim (fun h => by rw [h] at hr; cases hr)
        fun h => hnf r (mem_merge_iff.2 ⟨_, List.mem_cons_of_mem _ (List.mem_cons_of_mem _ h), hr⟩)) with
    hc | ⟨kpre, kbad, kpost, rfl, hc, hb⟩
  · cases hl : C11.legalB ((contourElems kids).map ptOfElem) with
    | false => exact .inl (.contourIllegal as kids hst hc hl)
    | true =>
      refine .inr ⟨merge_clean_iff.2 fun x hx => ?_, ?_, ?_⟩
      · rcases List.mem_cons.1 hx with rfl | hx
        · exact hownc
        rcases List.mem_cons.1 hx with rfl | hx
        · simp
        · obtain ⟨e, he, rfl⟩ := List.mem_map.1 hx
          obtain ⟨k, hk, hke⟩ := List.mem_filterMap.1 he
          cases k with
          | comment => cases hke
          | elem e' =>
            cases hke
            have := hc.points _ hk
            rw [if_pos this.1, this.2]
      · rw [oitemIdents_contour]
        exact List.nodup_append.2 ⟨nodup_toList _, hc.nodup,
          fun a ha b hb hab => hc.fresh b hb (List.mem_append_right _ (hab ▸ ha))⟩
      · rw [oitemIdents_contour]
        exact List.forall_mem_append.2 ⟨fun i hi => hst.fresh i (Option.mem_toList.1 hi),
          fun i hi hm => hc.fresh i hi (List.mem_append_left _ hm)⟩
  · exact .inl (.contourChild as kpre kbad kpost hst hc hb)

/-- `hal`: a plain element named `contour` is excluded: `oitemCheck` calls it unknown, `stepOutline` takes the name for a contour
    (and skips `<contour/>`) -/
theorem okid_decide (lawT : ReadsTrimmed rd) (seen : List Str) (k : OItem) (hsh : OShaped k)
    (hal : ∀ e, k = .elem e → e.name ≠ sContour) (h2 : (oitemCheck rd ver k).2 = false)
    (hnf : ∀ r, r ∈ (oitemCheck rd ver k).1 → r ∉ findingValueRules ∧ r ≠ "container-attrs") :
    OBad rd ver seen k ∨
      (oitemCheck rd ver k = ([], false) ∧ (oitemIdents k).Nodup ∧ ∀ i, i ∈ oitemIdents k → i ∉ seen) := by
  cases k with
  | comment => exact .inr ⟨rfl, List.nodup_nil, nofun⟩
  | elem e =>
    by_cases hn : e.name = sComponent
    · cases ha : e.attrs with
      | none => exact .inl (.attrSyntax e (hal e rfl) ha)
      | some as =>
        simp only [oitemCheck, hn, if_true] at h2 hnf
        rcases ident_elem_decide lawT seen (.inr hn) ha (hsh.1 as ha) h2 (fun r hr => (hnf r hr).1) with hb | ⟨hc, hfr⟩
        · exact .inl (.component e as hn ha (hn ▸ hb))
        · refine .inr ⟨by simp only [oitemCheck, hn, if_true]; exact hc, ?_, ?_⟩
          · simp only [oitemIdents, hn, if_true, elemIdent_eq ha]; exact nodup_toList _
          · simpa only [oitemIdents, hn, if_true] using hfr
    · exact .inl (.unknown e hn (hal e rfl))
  | contour a sc kids =>
    cases sc with
    | true =>
      -- `<contour …/>`: whatever is wrong with its attributes is the finding `container-attrs`
      refine .inr ⟨?_, List.nodup_nil, nofun⟩
      simp only [oitemCheck] at h2 hnf ⊢
      by_cases hemp : (contourCheck rd ver a []).1.isEmpty = true
      · simp only [hemp, if_true] at h2 ⊢
        exact Prod.ext (List.isEmpty_iff.1 hemp) h2
      · simp only [hemp, Bool.false_eq_true, if_false] at hnf
        exact absurd rfl (hnf "container-attrs" List.mem_cons_self).2
    | false =>
      cases a with
      | none => exact .inl (.contourAttrSyntax kids)
      | some as => exact contour_decide lawT seen (hsh.1 as rfl) hsh.2 h2 fun r hr => (hnf r hr).1

/-- the rules excluded by the last hypothesis are those of the recorded findings (`ident-empty`, `hex-plus`,
    `container-attrs`): norad accepts what `judge` flags there -/
theorem okids_split (lawT : ReadsTrimmed rd) {ver : Nat} : ∀ (ks : List OItem) (seen : List Str),
    (∀ k, k ∈ ks → OShaped k) → (∀ e, OItem.elem e ∈ ks → e.name ≠ sContour) →
    (∀ k, k ∈ ks → (oitemCheck rd ver k).2 = false) →
    (∀ k, k ∈ ks → ∀ r, r ∈ (oitemCheck rd ver k).1 → r ∉ findingValueRules ∧ r ≠ "container-attrs") →
    OKidsClean rd ver seen ks ∨ ∃ kpre kbad kpost, ks = kpre ++ kbad :: kpost ∧ OKidsClean rd ver seen kpre ∧
      OBad rd ver (seen ++ kpre.flatMap oitemIdents) kbad := by
    intro ks seen hsh hal h2 hnf
    have conv : ∀ {s : List Str} {l : List OItem},
        KidsGood oitemIdents (fun k => OShaped k ∧ oitemCheck rd ver k = ([], false)) s l → OKidsClean rd ver s l :=
      fun h => ⟨fun k hk => (h.good k hk).1, fun k hk => (h.good k hk).2, h.nodup, h.fresh⟩
    rcases kids_split oitemIdents (fun k => OShaped k ∧ oitemCheck rd ver k = ([], false)) (OBad rd ver)
        ks seen (fun k hk s =>
        (okid_decide lawT s k (hsh k hk) (fun e he => hal e (he ▸ hk)) (h2 k hk) (hnf k hk)).imp_right
          fun h => ⟨⟨hsh k hk, h.1⟩, h.2⟩) with
      hc | ⟨kpre, kbad, kpost, e, hc, hb⟩
    · exact .inl (conv hc)
    · exact .inr ⟨kpre, kbad, kpost, e, conv hc, hb⟩

end

end Glif
