import Norad.Lemmas.SaveRun
import Norad.Lemmas.FontSave
/-!
The plan of a font with safe relative paths in normal form (`planN`: `plan` of Model/FontSave.lean transcribed with
name lists for component lists), the wipe, and the frame theorem: nothing outside the target changes.
-/
namespace FontSave
open AbsFS
open Path (Comp)

variable {β : Type}

/-- every proper ancestor of an existing path is a directory: true of every real file system, not enforced by the
    association list -/
def WF (fs : FS β) : Prop :=
  ∀ p, (lookup fs p).isSome = true → ∀ m, m <+: p → m ≠ p → isDir fs m = true

theorem WF.dirs {fs : FS β} (h : WF fs) {p l : APath} (hp : (lookup fs p).isSome = true) (hl : l <+: p) (hne : l ≠ p) :
    Dirs fs l :=
  fun m hm _ => h p hp m (hm.trans hl) fun e =>
    hne (hl.eq_of_length (Nat.le_antisymm hl.length_le (e ▸ hm.length_le)))

theorem tC_append (a b : APath) : tC (a ++ b) = tC a ++ tC b := by simp [tC]

theorem sub_eq (t : APath) (name : String) : sub t name = tC (t ++ [name.toList]) := by
  simp [sub, tC]

theorem comps_of_allNormal (p : Path.P) (h : p.allNormal = true) : p.comps = tC (namesOf p) := by
  unfold Path.P.allNormal at h
  unfold namesOf tC
  generalize p.comps = cs at h ⊢
  induction cs with
  | nil => rfl
  | cons c r ih =>
    simp only [List.all_cons, Bool.and_eq_true] at h
    cases c with
    | normal s => simp only [List.filterMap, List.map]; rw [← ih h.2]
    | cur => simp at h
    | parent => simp at h

theorem safeRel_iff {p : Path.P} : safeRel p = true ↔ p.abs = false ∧ p.comps ≠ [] ∧ p.allNormal = true := by
  simp only [safeRel, Bool.and_eq_true, Bool.not_eq_true', List.isEmpty_eq_false_iff, and_assoc]

theorem joinRel_safe (base : List Comp) (p : Path.P) (h : safeRel p = true) :
    joinRel base p = base ++ tC (namesOf p) := by
  obtain ⟨habs, hne, hall⟩ := safeRel_iff.mp h
  have hc := comps_of_allNormal p hall
  unfold joinRel
  simp only [habs, Bool.false_eq_true, if_false]
  rw [← hc]
  cases hpc : p.comps with
  | nil => rfl
  | cons c r =>
    cases c with
    | normal s => rfl
    | cur =>
      unfold Path.P.allNormal at hall
      rw [hpc] at hall; simp at hall
    | parent => rfl

theorem namesOf_ne_nil (p : Path.P) (h : safeRel p = true) : namesOf p ≠ [] := by
  obtain ⟨_, hne, hall⟩ := safeRel_iff.mp h
  intro hn
  rw [comps_of_allNormal p hall, hn] at hne
  exact hne rfl

def planGlyphN (cfg : Cfg β) (ld : APath) (e : AEntry) : List (NEff β) :=
  match e.glyph with
  | none => [.fail .panic]
  | some g =>
    if g.encodable then [.write (ld ++ namesOf (Path.parse e.file)) (cfg.render (.glif g.tok))]
    else [.fail .serialise]

def planLayerN (cfg : Cfg β) (t : APath) (l : ALayer) : List (NEff β) :=
  let ld := t ++ namesOf (Path.parse l.dir)
  [.mkdir ld, .write (ld ++ [contentsFile.toList]) (cfg.render (.contents (l.entries.map fun e => (e.name, e.file))))] ++
  (if l.info = 0 then [] else [.write (ld ++ [layerinfoFile.toList]) (cfg.render (.layerinfo l.info))]) ++
  l.entries.flatMap (planGlyphN cfg ld)

def planDataItemN (t : APath) (kb : Path.P × β) : List (NEff β) := itemN (t ++ ["data".toList] ++ namesOf kb.1) kb.2

def planImagesN (t : APath) (items : List (Path.P × β)) : List (NEff β) :=
  if items.isEmpty then []
  else .mkdir (t ++ ["images".toList]) :: items.map fun kb => .write (t ++ ["images".toList] ++ namesOf kb.1) kb.2

def topN (t : APath) (name : String) (b : β) : NEff β := .write (t ++ [name.toList]) b

def planFontinfoN (cfg : Cfg β) (t : APath) (i : AInfo) : List (NEff β) :=
  if i.isEmpty then []
  else if i.serialisable then [topN t "fontinfo.plist" (cfg.render (.fontinfo i))]
  else [topN t "fontinfo.plist" (cfg.render .truncated), .fail .serialise]

def planLibN (cfg : Cfg β) (t : APath) (f : AFont β) : List (NEff β) :=
  match dumpObjectLibs f.info.guides with
  | none => [.fail .panic]
  | some ol =>
    if f.lib.isEmpty && ol.isEmpty then [] else [topN t "lib.plist" (cfg.render (.lib f.lib ol))]

def planOptN (t : APath) (name : String) (tok : Nat) (b : β) : List (NEff β) :=
  if tok = 0 then [] else [topN t name b]

def headN (cfg : Cfg β) (f : AFont β) (t : APath) : List (NEff β) :=
  [topN t "metainfo.plist" (cfg.render (.metainfo f.metaTok))] ++
  planFontinfoN cfg t f.info ++
  planLibN cfg t f ++
  planOptN t "groups.plist" f.groups (cfg.render (.groups f.groups)) ++
  planOptN t "kerning.plist" f.kerning (cfg.render (.kerning f.kerning)) ++
  planOptN t "features.fea" f.features (cfg.render (.features f.features)) ++
  [topN t "layercontents.plist" (cfg.render (.layercontents (f.layers.map fun l => (l.name, l.dir))))]

def planRestN (cfg : Cfg β) (f : AFont β) (d i : List (Path.P × β)) (t : APath) : List (NEff β) :=
  headN cfg f t ++ f.layers.flatMap (planLayerN cfg t) ++ d.flatMap (planDataItemN t) ++ planImagesN t i

def planN (cfg : Cfg β) (f : AFont β) (d i : List (Path.P × β)) (t : APath) : List (NEff β) :=
  .mkdir t :: planRestN cfg f d i t

theorem top_toEff (t : APath) (name : String) (b : β) :
    (topN t name b).toEff = Eff.write (sub t name) b := by
  simp [topN, NEff.toEff, sub_eq]

theorem fail_toEff (e : SaveErr) : (NEff.fail e : NEff β).toEff = Eff.fail e := rfl

theorem flatMap_map_congr {α : Type} (l : List α) (g : α → List (Eff β)) (gN : α → List (NEff β))
    (h : ∀ a ∈ l, g a = (gN a).map NEff.toEff) : l.flatMap g = (l.flatMap gN).map NEff.toEff := by
  induction l with
  | nil => rfl
  | cons a r ih =>
    simp only [List.flatMap_cons, List.map_append]
    rw [h a (List.mem_cons_self ..), ih (fun x hx => h x (List.mem_cons_of_mem _ hx))]

theorem planLayer_normal (cfg : Cfg β) (t : APath) (l : ALayer)
    (hd : safeRel (Path.parse l.dir) = true) (he : ∀ e ∈ l.entries, safeRel (Path.parse e.file) = true) :
    planLayer cfg t l = (planLayerN cfg t l).map NEff.toEff := by
  unfold planLayer planLayerN
  simp only [joinRel_safe _ _ hd]
  have hld : tC t ++ tC (namesOf (Path.parse l.dir)) = tC (t ++ namesOf (Path.parse l.dir)) := (tC_append _ _).symm
  rw [hld]
  have hg : l.entries.flatMap (planGlyph cfg (tC (t ++ namesOf (Path.parse l.dir)))) =
      (l.entries.flatMap (planGlyphN cfg (t ++ namesOf (Path.parse l.dir)))).map NEff.toEff := by
    apply flatMap_map_congr
    intro e hem
    unfold planGlyph planGlyphN
    cases e.glyph with
    | none => rfl
    | some g =>
      by_cases hen : g.encodable = true
      · simp [hen, NEff.toEff, joinRel_safe _ _ (he e hem), tC_append]
      · simp [hen, NEff.toEff]
  rw [hg]
  by_cases hi : l.info = 0 <;> simp [hi, NEff.toEff, tC]

theorem planDataItem_normal (t : APath) (kb : Path.P × β) (h : safeRel kb.1 = true) :
    planDataItem t kb = (planDataItemN t kb).map NEff.toEff := by
  unfold planDataItem planDataItemN itemN
  simp only [joinRel_safe _ _ h, sub_eq, List.map, NEff.toEff]
  simp [tC, List.map_dropLast]

theorem planImages_normal (t : APath) (items : List (Path.P × β)) (h : ∀ kb ∈ items, safeRel kb.1 = true) :
    planImages t items = (planImagesN t items).map NEff.toEff := by
  unfold planImages planImagesN
  by_cases he : items.isEmpty = true
  · simp [he]
  · simp only [he, Bool.false_eq_true, if_false, List.map, NEff.toEff, sub_eq, List.map_map]
    congr 1
    apply List.map_congr_left
    intro kb hkb
    simp [NEff.toEff, joinRel_safe _ _ (h kb hkb), tC]

theorem plan_normal (cfg : Cfg β) (f : AFont β) (d i : List (Path.P × β)) (t : APath)
    (hs : safePaths f = true) (hd : ∀ kb ∈ d, safeRel kb.1 = true) (hi : ∀ kb ∈ i, safeRel kb.1 = true) :
    plan cfg f d i t = (planN cfg f d i t).map NEff.toEff := by
  obtain ⟨hl, _, _⟩ := safePaths_iff.mp hs
  have e1 : f.layers.flatMap (planLayer cfg t) = (f.layers.flatMap (planLayerN cfg t)).map NEff.toEff :=
    flatMap_map_congr _ _ _ (fun l hlm => planLayer_normal cfg t l (hl l hlm).1 (hl l hlm).2)
  have e2 : d.flatMap (planDataItem t) = (d.flatMap (planDataItemN t)).map NEff.toEff :=
    flatMap_map_congr _ _ _ (fun kb hkb => planDataItem_normal t kb (hd kb hkb))
  have e3 := planImages_normal t i hi
  have e4 : planLib cfg t f = (planLibN cfg t f).map NEff.toEff := by
    unfold planLib planLibN
    cases dumpObjectLibs f.info.guides with
    | none => rfl
    | some ol => simp only [apply_ite (List.map NEff.toEff), List.map_cons, List.map_nil, top_toEff]
  simp only [plan, planN, planRestN, headN, planFontinfo, planFontinfoN, planOpt, planOptN, e1, e2, e3, e4,
    apply_ite (List.map NEff.toEff), List.map_append, List.map_cons, List.map_nil, top_toEff, fail_toEff,
    List.cons_append, List.nil_append]
  rfl  -- left: `(NEff.mkdir t).toEff = Eff.mkdir (tC t)`

theorem forced_safe {cfg : Cfg β} {f : AFont β} {fs : FS β} {d i : List (Path.P × β)}
    (hs : safePaths f = true) (hv : validatePhase cfg f fs = .ok (d, i)) :
    (∀ kb ∈ d, safeRel kb.1 = true) ∧ (∀ kb ∈ i, safeRel kb.1 = true) := by
  obtain ⟨_, _, _, _, hfd, hfi⟩ := validatePhase_eq_ok.mp hv
  obtain ⟨_, hsd, hsi⟩ := safePaths_iff.mp hs
  exact ⟨fun kb hkb => (forceList_mem hfd hkb).elim fun c hc => hsd _ hc.1,
    fun kb hkb => (forceList_mem hfi hkb).elim fun c hc => hsi _ hc.1⟩

theorem forall_mem_ite {α : Type} {c : Prop} [Decidable c] {l₁ l₂ : List α} {p : α → Prop} :
    (∀ x ∈ (if c then l₁ else l₂), p x) ↔ (c → ∀ x ∈ l₁, p x) ∧ (¬ c → ∀ x ∈ l₂, p x) := by
  by_cases h : c <;> simp [h]

theorem planRestN_under (cfg : Cfg β) (f : AFont β) (d i : List (Path.P × β)) (t : APath)
    (hd : ∀ kb ∈ d, safeRel kb.1 = true) :
    ∀ e ∈ planRestN cfg f d i t, UnderT t e := by
  -- used as rewrite rules below; they fire once `List.append_assoc` has brought every path into the form `t ++ _`
  have hw : ∀ (x : APath) (b : β), UnderT t (.write (t ++ x) b) := fun x b => Or.inr (List.prefix_append _ _)
  have hm : ∀ x : APath, UnderT t (.mkdir (t ++ x) : NEff β) := fun x => Or.inr (List.prefix_append _ _)
  have hf : ∀ x, UnderT t (.fail x : NEff β) := fun x => Or.inl rfl
  simp only [planRestN, headN, planFontinfoN, planLibN, planOptN, planLayerN, planGlyphN, planDataItemN, itemN, planImagesN, topN,
    List.forall_mem_append, List.forall_mem_flatMap, forall_mem_ite, List.forall_mem_cons, List.forall_mem_map,
    List.not_mem_nil, false_imp_iff, implies_true, and_true, List.append_assoc, hw, hm, hf, true_and]
  refine ⟨?_, ?_, ?_⟩
  · split <;> simp only [forall_mem_ite, List.forall_mem_cons, List.not_mem_nil, false_imp_iff, implies_true, hw, hf,
      and_true]
  · intro l _ e _
    split <;> simp only [forall_mem_ite, List.forall_mem_cons, List.not_mem_nil, false_imp_iff, implies_true, hw, hf,
      and_true]
  · intro kb hkb
    rw [← List.append_assoc, List.dropLast_append_of_ne_nil (namesOf_ne_nil kb.1 (hd kb hkb)), List.append_assoc]
    exact Or.inr (List.prefix_append _ _)

theorem wipe_frame {fs fs1 : FS β} {t : APath} (h : wipe fs t = .ok fs1) :
    ∀ q, ¬ t <+: q → lookup fs1 q = lookup fs q := by
  intro q hq
  unfold wipe at h
  split at h
  · obtain ⟨_, _, _, rfl⟩ := removeDirAll_normal.mp h
    rw [lookup_removeAll, if_neg fun e => hq (List.isPrefixOf_iff_prefix.mp e)]
  · cases h; rfl

theorem wipe_mkdir_clean {fs fs1 fs2 : FS β} {t : APath} (hwf : WF fs) (h : wipe fs t = .ok fs1)
    (hm : mkdir fs1 (tC t) = .ok fs2) :
    ∀ q, t <+: q → lookup fs2 q = if t = q then some .dir else none := by
  intro q hq
  obtain ⟨hne, _, hnone, rfl⟩ := mkdir_normal.mp hm
  rw [lookup_set]
  by_cases htq : t = q
  · rw [if_pos htq, if_pos htq]
  · rw [if_neg htq, if_neg htq]
    unfold wipe at h
    split at h
    · obtain ⟨_, _, _, rfl⟩ := removeDirAll_normal.mp h
      rw [lookup_removeAll, if_pos (List.isPrefixOf_iff_prefix.mpr hq)]
    · cases h
      cases hl : lookup fs q with
      | none => rfl
      | some n =>
        have := hwf q (by rw [hl]; rfl) t hq htq
        rw [isDir_iff, hnone] at this
        cases this

theorem planN_frame (cfg : Cfg β) (f : AFont β) (d i : List (Path.P × β)) (t : APath)
    (hd : ∀ kb ∈ d, safeRel kb.1 = true) (g : FS β) :
    ∀ q, ¬ t <+: q → lookup (runN (planN cfg f d i t) g).2 q = lookup g q :=
  runN_mkdir_frame t _ (planRestN_under cfg f d i t hd) g

end FontSave
