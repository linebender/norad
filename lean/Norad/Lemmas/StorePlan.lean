import Norad.Lemmas.Runs
import Norad.Lemmas.StoreOrder
/-!
The tie between `StoreOrder.writeEntry` and the abstract file system.  That the effects of an entry succeed is decided on
the kinds (`Lemmas/Runs.lean`); what they leave is `writeEntry`'s tree whatever the file system was (`write_tree`,
`item_tree`).  Hence both store-writing blocks of `Font::save`, run where the store directory is fresh, leave
`StoreOrder.writeAll`'s tree.
-/
namespace StorePlan
open AbsFS FontSave StoreOrder

abbrev B := StoreOrder.Bytes

def conv : Node B → FNode
  | .dir => .dir
  | .file b => .file b

def treeOf (fs : FS B) : Tree := fun q => (node fs q).map conv

/-- one entry: `create_dir_all(destination.parent())`, `write(destination, bytes)` -/
def itemEffs (w : Loc × B) : List (Eff B) := [.mkdirAll (tC w.1.dropLast), .write (tC w.1) w.2]

theorem treeOf_conv {fs : FS B} {q : Loc} {n : Node B} : treeOf fs q = some (conv n) ↔ node fs q = some n := by
  unfold treeOf
  cases node fs q with
  | none => simp
  | some m => cases m <;> cases n <;> simp [conv]

theorem treeOf_of_lookup {fs fs' : FS B} {q : Loc} (h : lookup fs' q = lookup fs q) : treeOf fs' q = treeOf fs q := by
  unfold treeOf node; rw [h]

theorem treeOf_dirs {fs : FS B} {l q : Loc} (h : Dirs fs l) (hq : q <+: l) : treeOf fs q = some .dir := by
  by_cases h0 : q = []
  · rw [h0]; rfl
  · exact (treeOf_conv (n := .dir)).2 (isDir_iff.1 (h q hq h0))

theorem writeEntry_congr {t t' : Tree} {w : Loc × B} (h : ∀ q, below q w.1 = false → t q = t' q) :
    writeEntry t w = writeEntry t' w := by
  funext q
  unfold writeEntry
  cases hb : below q w.1 with
  | true => rfl
  | false => rw [h q hb]

/-- a successful plain write leaves `writeEntry`'s tree: the directories on the way were there -/
theorem write_tree {fs fs' : FS B} {l : Loc} {b : B} (h : writeFile fs (tC l) b = .ok fs') :
    treeOf fs' = writeEntry (treeOf fs) (l, b) := by
  obtain ⟨hne, hd, _, rfl⟩ := writeFile_normal.mp h
  funext q
  unfold writeEntry
  split
  · rename_i hq; subst hq
    exact (treeOf_conv (n := .file b)).2 (by rw [node_set _ _ _ _ hne, if_pos rfl])
  · rename_i hq
    rw [treeOf_of_lookup (lookup_set_ne _ _ (Ne.symm hq))]
    split
    · rename_i hb
      obtain ⟨l', s, rfl⟩ := (List.eq_nil_or_concat l).resolve_left hne
      rw [List.concat_eq_append] at hb hd
      rw [List.dropLast_concat] at hd
      exact treeOf_dirs hd (below_concat.1 hb)
    · rfl

theorem item_tree {fs fs' : FS B} {l : Loc} {b : B} (h : runN (itemN l b) fs = (none, fs')) :
    treeOf fs' = writeEntry (treeOf fs) (l, b) := by
  obtain ⟨fs1, h1, h2⟩ := runN_cons_ok.mp h
  obtain ⟨_, h2, h3⟩ := runN_cons_ok.mp h2
  cases h3
  have h2 := runEff_eq_ok.mp h2
  rw [write_tree h2]
  -- `create_dir_all` touched only places on the way to `l`, which `writeEntry` overrides
  refine writeEntry_congr fun q hq => treeOf_of_lookup (runEff_keeps h1 fun k hk => ?_)
  obtain ⟨l', s, rfl⟩ := (List.eq_nil_or_concat l).resolve_left (writeFile_normal.mp h2).1
  rw [List.concat_eq_append] at hq hk
  rw [List.dropLast_concat] at hk
  rw [below_concat.2 hk.1] at hq
  cases hq

theorem block_tree {eff : Loc × B → List (NEff B)}
    (hstep : ∀ w fs fs', runN (eff w) fs = (none, fs') → treeOf fs' = writeEntry (treeOf fs) w) :
    ∀ (ws : List (Loc × B)) (fs fs' : FS B), runN (ws.flatMap eff) fs = (none, fs') →
      treeOf fs' = writeAll (treeOf fs) ws
  | [], fs, fs', h => by cases h; rfl
  | w :: r, fs, fs', h => by
    rw [runN, List.flatMap_cons, List.map_append] at h
    obtain ⟨fs1, h1, h2⟩ := runEffs_append_ok h
    rw [block_tree hstep r fs1 fs' h2, hstep w fs fs1 h1]
    rfl

theorem names_of_nonNested {a b : Loc × B} (h : NonNested a b) : NonNestedNames a.1 b.1 :=
  ⟨fun hp => Bool.false_ne_true (h.1 ▸ List.isPrefixOf_iff_prefix.2 hp),
   fun hp => Bool.false_ne_true (h.2 ▸ List.isPrefixOf_iff_prefix.2 hp)⟩

/-- `h`: no plain file on the way to a destination, no directory at it -/
theorem plan_runs (ws : List (Loc × B)) (hpw : ws.Pairwise NonNested) (fs : FS B)
    (h : ∀ w ∈ ws, w.1 ≠ [] ∧ OnWay (fun m => ¬ kOf fs m true) w.1.dropLast ∧ ¬ kOf fs w.1 false) :
    ∃ fs', runEffs (ws.flatMap itemEffs) fs = (none, fs') ∧ treeOf fs' = writeAll (treeOf fs) ws := by
  obtain ⟨fs', hrun⟩ := runs_succeed _ fs (kOf fs) (fun _ _ => Iff.rfl)
    (runs_flatMap (fun w : Loc × B => itemN w.1 w.2) _ ws (fun w hw => runs_item _ _ _ (h w hw).1 (h w hw).2.1 (h w hw).2.2)
      (hpw.imp fun hnn => items_noClash _ _ (names_of_nonNested hnn)))
  -- the `rfl`: `itemEffs w` is `(itemN w.1 w.2).map NEff.toEff` by definition
  exact ⟨fs', by rw [← hrun, runN, List.map_flatMap]; rfl, block_tree (fun _ _ _ => item_tree) ws fs fs' hrun⟩

variable {fs : FS B} {t : APath} {dir : Name}

theorem data_block_runs (hT : Dirs fs t) (hfresh : ∀ q, (t ++ [dir]) <+: q → node fs q = none) (ws : List (Loc × B))
    (hpw : ws.Pairwise NonNested) (hw : ∀ w ∈ ws, below (t ++ [dir]) w.1 = true) :
    ∃ fs', runEffs (ws.flatMap itemEffs) fs = (none, fs') ∧ treeOf fs' = writeAll (treeOf fs) ws := by
  refine plan_runs ws hpw fs fun w hmem => ?_
  have hbase := (below_iff.1 (hw w hmem)).1
  refine ⟨fun h => ?_, fun m hm hm0 => ?_, not_kOf_of_none (hfresh _ hbase)⟩
  · rw [h] at hbase; exact List.cons_ne_nil _ _ (List.append_eq_nil_iff.1 (List.prefix_nil.1 hbase)).2
  · -- a place on the way to the destination lies at or below the fresh directory, or on the way to it
    rcases List.prefix_or_prefix_of_prefix (hm.trans (List.dropLast_prefix _)) hbase with h3 | h3
    · rcases List.prefix_concat_iff.1 h3 with h4 | h4
      · exact not_kOf_of_none (hfresh m (h4 ▸ List.prefix_refl _))
      · rw [kOf, kindAt_dir (hT m h4 hm0)]; exact nofun
    · exact not_kOf_of_none (hfresh m h3)

theorem image_block_runs (hT : Dirs fs t) (hfresh : ∀ q, (t ++ [dir]) <+: q → node fs q = none) (ws : List (Loc × B))
    (hne : ws ≠ []) (hw : ∀ w ∈ ws, ∃ n, w.1 = t ++ [dir] ++ [n]) :
    ∃ fs', runEffs (Eff.mkdir (tC (t ++ [dir])) :: ws.map fun w => Eff.write (tC w.1) w.2) fs = (none, fs') ∧
      treeOf fs' = writeAll (treeOf fs) ws := by
  obtain ⟨fs', hrun⟩ := runs_succeed _ fs (kOf fs) (fun _ _ => Iff.rfl)
    (runs_dir t _ dir (ws.map fun w => NEff.write w.1 w.2)
      (fun e he => by obtain ⟨w, hw', rfl⟩ := List.mem_map.1 he; obtain ⟨n, hn⟩ := hw w hw'; exact ⟨n, w.2, by rw [hn]⟩)
      (fun m hm hm0 => kindAt_dir (hT m hm hm0))
      fun x k => not_kOf_of_none (hfresh _ (List.prefix_append _ _)))
  obtain ⟨g, hmk, hrest⟩ := runN_cons_ok.mp hrun
  obtain ⟨hbase, _, _, rfl⟩ := mkdir_normal.mp (runEff_eq_ok.mp hmk)
  refine ⟨fs', by rw [← hrun, runN, List.map_cons, List.map_map]; rfl, ?_⟩
  rw [List.map_eq_flatMap] at hrest
  rw [block_tree (eff := fun w => [NEff.write w.1 w.2]) (fun w g g' h => by
    obtain ⟨_, h, h'⟩ := runN_cons_ok.mp h
    cases h'
    exact write_tree (runEff_eq_ok.mp h)) ws _ fs' hrest]
  -- the directory the `mkdir` made is one the first write would have made
  obtain ⟨w, r, rfl⟩ := List.exists_cons_of_ne_nil hne
  obtain ⟨n, hn⟩ := hw w (List.mem_cons_self ..)
  refine congrArg (fun T => writeAll T r) (writeEntry_congr fun q hq => treeOf_of_lookup (lookup_set_ne _ _ fun hqb => ?_))
  rw [hn, ← hqb, below_concat.2 (List.prefix_refl _)] at hq
  cases hq

end StorePlan
