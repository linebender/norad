import Norad.Spec.C11
import Norad.Lemmas.Basic
/-! The builder automaton of C11 against the declarative rule.  The idea: after the points `pre` the builder's counter
    `number_of_offcurves` is `trailOffs pre`, the run of off-curves at the end of `pre` (`feed_eq_ok_iff`). -/
namespace C11

/-- `LinearOK`, `CyclicOK` and the characterisations of `feed` and `wrap` quantify over every position of a list
    with what stands before it; this is the step of their inductions. -/
theorem forall_split_cons {α} {P : List α → α → List α → Prop} (q : α) (qs : List α) :
    (∀ a p b, q :: qs = a ++ p :: b → P a p b) ↔
      P [] q qs ∧ ∀ a p b, qs = a ++ p :: b → P (q :: a) p b := by
  constructor
  · intro h
    exact ⟨h [] q qs rfl, fun a p b hab => h (q :: a) p b (by rw [hab]; rfl)⟩
  · rintro ⟨h0, h⟩ a p b hab
    rcases List.cons_eq_append_iff.1 hab with ⟨rfl, hb⟩ | ⟨a', rfl, hqs⟩
    · cases hb; exact h0
    · exact h a' p b hqs

@[simp] theorem trailOffs_nil : trailOffs [] = 0 := rfl

theorem trailOffs_snoc (l : List Pt) (p : Pt) :
    trailOffs (l ++ [p]) = if p.typ = .off then trailOffs l + 1 else 0 := by
  simp only [trailOffs, List.reverse_append, List.reverse_singleton, List.singleton_append,
    List.takeWhile_cons, decide_eq_true_eq]
  split <;> rfl

theorem trailOffs_append_cons (x a : List Pt) (p : Pt) :
    trailOffs (x ++ p :: a) = trailOffs ((x ++ [p]) ++ a) := by rw [List.append_assoc]; rfl

theorem takeWhile_append_all {α} (p : α → Bool) (r y : List α) (h : ∀ q ∈ r, p q = true) :
    (r ++ y).takeWhile p = r ++ y.takeWhile p := List.takeWhile_append_of_pos h

theorem takeWhile_append_notall {α} (p : α → Bool) (r y : List α) (h : ∃ q ∈ r, p q = false) :
    (r ++ y).takeWhile p = r.takeWhile p := by
  induction r with
  | nil => simp at h
  | cons c cs ih =>
    rw [List.cons_append, List.takeWhile_cons, List.takeWhile_cons]
    split
    next hc =>
      rw [ih]
      obtain ⟨q, hq, hqp⟩ := h
      rcases List.mem_cons.1 hq with rfl | hq
      · rw [hc] at hqp; cases hqp
      · exact ⟨q, hq, hqp⟩
    · rfl

theorem trailOffs_append_offs (x a : List Pt) (h : ∀ q ∈ a, q.typ = .off) :
    trailOffs (x ++ a) = trailOffs x + a.length := by
  unfold trailOffs
  rw [List.reverse_append, List.takeWhile_append_of_pos, List.length_append, List.length_reverse,
    Nat.add_comm]
  intro q hq
  simpa using h q (List.mem_reverse.1 hq)

theorem trailOffs_append_nonoff (x a : List Pt) (h : ∃ q ∈ a, q.typ ≠ .off) :
    trailOffs (x ++ a) = trailOffs a := by
  unfold trailOffs
  rw [List.reverse_append, takeWhile_append_notall]
  obtain ⟨q, hq, hqo⟩ := h
  exact ⟨q, List.mem_reverse.2 hq, decide_eq_false hqo⟩

theorem trailOffs_all_off (a : List Pt) (h : ∀ q ∈ a, q.typ = .off) : trailOffs a = a.length := by
  simpa using trailOffs_append_offs [] a h

theorem addPoint_eq_ok_iff (pre : List Pt) (p : Pt) (n : Nat) :
    addPoint pre.isEmpty (trailOffs pre) p = .ok n ↔ pointOK pre p ∧ n = trailOffs (pre ++ [p]) := by
  rw [trailOffs_snoc]; unfold addPoint pointOK
  cases hp : p.typ <;> simp [ite_error_eq_ok, ite_ok_eq_ok, @eq_comm _ n]
  case move => rintro rfl; rfl         -- only at the start, where the counter is 0
  case line => intro h; rw [h]         -- the counter is 0 and stays

theorem addPoint_ok_iff (pre : List Pt) (p : Pt) :
    (∃ n, addPoint pre.isEmpty (trailOffs pre) p = .ok n) ↔ pointOK pre p := by
  simp only [addPoint_eq_ok_iff, exists_and_left, exists_eq, and_true]

theorem addPoint_ok_val (pre : List Pt) (p : Pt) (n : Nat)
    (h : addPoint pre.isEmpty (trailOffs pre) p = .ok n) : n = trailOffs (pre ++ [p]) :=
  ((addPoint_eq_ok_iff pre p n).1 h).2

theorem feed_cons_eq_ok (p : Pt) (ps : List Pt) (e : Bool) (n m : Nat) :
    feed (p :: ps) e n = .ok m ↔ ∃ n', addPoint e n p = .ok n' ∧ feed ps false n' = .ok m := by
  rw [feed]; cases addPoint e n p <;> simp

theorem feed_eq_ok_iff (l pre : List Pt) (n : Nat) :
    feed l pre.isEmpty (trailOffs pre) = .ok n ↔
      (∀ a p b, l = a ++ p :: b → pointOK (pre ++ a) p) ∧ n = trailOffs (pre ++ l) := by
  induction l generalizing pre with
  | nil => simp [feed, eq_comm]
  | cons q qs ih =>
    have key := ih (pre ++ [q])
    rw [show (pre ++ [q]).isEmpty = false by simp] at key
    simp only [List.append_assoc, List.singleton_append] at key
    simp only [feed_cons_eq_ok, addPoint_eq_ok_iff, forall_split_cons, List.append_nil, and_assoc,
      exists_eq_left, exists_and_left, key]

theorem feed_spec (l pre : List Pt) :
    (∃ n, feed l pre.isEmpty (trailOffs pre) = .ok n) ↔
    (∀ a p b, l = a ++ p :: b → pointOK (pre ++ a) p) := by
  simp only [feed_eq_ok_iff, exists_and_left, exists_eq, and_true]

theorem feed_val (l pre : List Pt) (n : Nat)
    (h : feed l pre.isEmpty (trailOffs pre) = .ok n) : n = trailOffs (pre ++ l) :=
  ((feed_eq_ok_iff l pre n).1 h).2

theorem feed_top (pts : List Pt) :
    (∃ n, feed pts true 0 = .ok n) ↔ LinearOK pts := feed_spec pts []

theorem feed_top_val (pts : List Pt) (n : Nat) (h : feed pts true 0 = .ok n) : n = trailOffs pts :=
  feed_val pts [] n h

theorem wrap_cons (q : Pt) (qs : List Pt) (n : Nat) :
    wrap (q :: qs) n = .ok () ↔
      if q.typ = .off then wrap qs (n + 1) = .ok () else q.typ ≠ .line ∧ (q.typ = .curve → n ≤ 2) := by
  rw [wrap]; cases q.typ <;> simp

/-- A `move` as first non-off point ends the walk with success, so no assumption on `l` is needed; that the Rust's
    `unreachable!()` at a `move` is not reached is `C11.end_path_unreachable_arm` in Props/C03. -/
theorem wrap_ok_iff (l : List Pt) (n : Nat) :
    wrap l n = .ok () ↔
      ∀ a p b, l = a ++ p :: b → (∀ q ∈ a, q.typ = .off) →
        p.typ ≠ .line ∧ (p.typ = .curve → n + a.length ≤ 2) := by
  induction l generalizing n with
  | nil => simp [wrap]
  | cons q qs ih =>
    rw [wrap_cons, forall_split_cons]
    split <;> rename_i hoff
    · -- an off-curve at the head lengthens the run in front of every later point
      rw [ih, and_iff_right (by simp [hoff])]
      refine forall₃_congr fun a p b => imp_congr_right fun _ => ?_
      rw [List.forall_mem_cons, and_iff_right hoff, Nat.add_right_comm]; rfl
    · -- any other point ends the walk
      rw [and_iff_left fun a p b _ h => absurd (h q List.mem_cons_self) hoff]
      simp

theorem wrap_spec (l : List Pt) (n : Nat) (hmove : ∀ q ∈ l, q.typ ≠ .move) :
    (wrap l n = .ok ()) ↔
    (∀ a p b, l = a ++ p :: b → (∀ q ∈ a, q.typ = .off) →
        (p.typ ≠ .line) ∧ (p.typ = .curve → n + a.length ≤ 2)) := wrap_ok_iff l n

theorem closed_no_move (pts : List Pt) (hc : isClosed pts = true) (hl : LinearOK pts) :
    ∀ q ∈ pts, q.typ ≠ .move := by
  intro q hq hm
  obtain ⟨a, b, rfl⟩ := List.append_of_mem hq
  cases (hl a q b rfl).1 hm
  simp [isClosed, hm] at hc

/-- a run of off-curves that reaches back over the start of `pts` is the one `wrap` walks, counted on from the run
    at the end; any other run has been checked by the linear rule already -/
theorem cyclicOK_iff_wrap (pts : List Pt) (hl : LinearOK pts) :
    CyclicOK pts ↔ trailOffs pts = 0 ∨ wrap pts (trailOffs pts) = .ok () := by
  rw [wrap_ok_iff]
  constructor
  · intro hcyc
    refine (Nat.eq_zero_or_pos _).imp_right fun hpos a p b hab haoff => ?_
    have := hcyc a p b hab
    rw [trailOffs_append_offs pts a haoff] at this
    exact ⟨fun hp => by have := this.1 hp; omega, this.2⟩
  · intro h a p b hab
    obtain ⟨-, hline, hcurve, -⟩ := hl a p b hab
    by_cases haoff : ∀ q ∈ a, q.typ = .off
    · rw [trailOffs_append_offs pts a haoff]
      rw [trailOffs_all_off a haoff] at hline hcurve
      rcases h with h0 | hw
      · rw [h0, Nat.zero_add]; exact ⟨hline, hcurve⟩
      · exact ⟨fun hp => absurd hp (hw a p b hab haoff).1, (hw a p b hab haoff).2⟩
    · rw [trailOffs_append_nonoff pts a (by simpa using haoff)]
      exact ⟨hline, hcurve⟩

theorem closed_end_iff (pts : List Pt) (hc : isClosed pts = true) (hl : LinearOK pts) :
    (trailOffs pts = 0 ∨ wrap pts (trailOffs pts) = .ok ()) ↔ CyclicOK pts :=
  (cyclicOK_iff_wrap pts hl).symm

theorem endPath_ok_iff (pts : List Pt) (n : Nat) :
    endPath pts n = .ok () ↔ (n = 0 ∨ (isClosed pts = true ∧ wrap pts n = .ok ())) := by
  unfold endPath
  rcases Nat.eq_zero_or_pos n with rfl | hn
  · simp
  · cases isClosed pts <;> simp [hn, Nat.ne_of_gt hn]

theorem linearB_iff_aux (pre l : List Pt) :
    linearB pre l = true ↔ ∀ a p b, l = a ++ p :: b → pointOK (pre ++ a) p := by
  induction l generalizing pre with
  | nil => simp [linearB]
  | cons q qs ih => simp only [linearB, Bool.and_eq_true, decide_eq_true_eq, ih, List.append_assoc, List.singleton_append,
      forall_split_cons, List.append_nil]

theorem linearB_iff (pts : List Pt) : linearB [] pts = true ↔ LinearOK pts := linearB_iff_aux [] pts

theorem cyclicB_iff_aux (pts pre l : List Pt) :
    cyclicB pts pre l = true ↔ ∀ a p b, l = a ++ p :: b →
      (p.typ = .line → trailOffs (pts ++ (pre ++ a)) = 0) ∧
      (p.typ = .curve → trailOffs (pts ++ (pre ++ a)) ≤ 2) := by
  induction l generalizing pre with
  | nil => simp [cyclicB]
  | cons q qs ih => simp only [cyclicB, Bool.and_eq_true, Bool.or_eq_true, bne_iff_ne, ne_eq, beq_iff_eq, decide_eq_true_eq,
      ← Decidable.imp_iff_not_or, ih, List.append_assoc, List.singleton_append, and_assoc, forall_split_cons,
      List.append_nil]

theorem cyclicB_iff (pts : List Pt) : cyclicB pts [] pts = true ↔ CyclicOK pts := cyclicB_iff_aux pts [] pts

end C11
