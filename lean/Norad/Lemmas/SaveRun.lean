import Norad.Model.FontSave
import Norad.Lemmas.AbsFS
/-!
Running effects whose paths are all-normal name lists (`NEff`): what one effect can change (`runEff_changes`), what a
successful effect leaves (`runEff_node`), and the consequences for runs of lists: what is kept, the frame, the tree
after a run (`runN_node`).
-/
namespace FontSave
open AbsFS
open Path (Comp)

variable {β : Type}

/-- an effect on an all-normal path, given by its names -/
inductive NEff (β : Type) where
  | mkdir (l : APath)
  | mkdirAll (l : APath)
  | write (l : APath) (b : β)
  | fail (e : SaveErr)

def NEff.toEff : NEff β → Eff β
  | .mkdir l => .mkdir (tC l)
  | .mkdirAll l => .mkdirAll (tC l)
  | .write l b => .write (tC l) b
  | .fail e => .fail e

def NEff.path : NEff β → APath
  | .mkdir l => l
  | .mkdirAll l => l
  | .write l _ => l
  | .fail _ => []

def NEff.node : NEff β → Node β
  | .write _ b => .file b
  | _ => .dir

def runN (es : List (NEff β)) (fs : FS β) : Option SaveErr × FS β := runEffs (es.map NEff.toEff) fs

/-- the paths a successful effect makes exist, with their kind (`false` = directory, `true` = plain file) -/
def EffPath : NEff β → APath → Bool → Prop
  | .mkdir l, q, k => q = l ∧ k = false
  | .write l _, q, k => q = l ∧ k = true
  | .mkdirAll l, q, k => q <+: l ∧ k = false
  | .fail _, _, _ => False

theorem EffPath.prefix_path {x : NEff β} {q : APath} {k : Bool} (h : EffPath x q k) :
    q <+: x.path ∧ (q = x.path ∨ k = false) := by
  cases x with
  | mkdir l => exact ⟨h.1 ▸ List.prefix_refl _, Or.inl h.1⟩
  | write l b => exact ⟨h.1 ▸ List.prefix_refl _, Or.inl h.1⟩
  | mkdirAll l => exact ⟨h.1, Or.inr h.2⟩
  | fail x => exact h.elim

/-- `create_dir_all(parent)`, then the write: one entry of a store at the destination `l` -/
def itemN (l : APath) (b : β) : List (NEff β) := [.mkdirAll l.dropLast, .write l b]

def NEff.makes : NEff β → APath → Bool
  | .mkdir l, q => q == l
  | .write l _, q => q == l
  | .mkdirAll l, q => q.isPrefixOf l
  | .fail _, _ => false

theorem makes_iff {e : NEff β} {q : APath} : e.makes q = true ↔ ∃ k, EffPath e q k := by
  cases e <;> simp [NEff.makes, EffPath]

def NEff.after (e : NEff β) (T : APath → Option (Node β)) : APath → Option (Node β) :=
  fun q => if e.makes q then some e.node else T q

theorem mkdirAll_tC_spec (fs : FS β) (l : APath) :
    MkdirAllSpec fs (mkdirAll fs (tC l)).1 (mkdirAll fs (tC l)).2 l := by
  have e : mkdirAll fs (tC l) = mkdirAllRev fs (l.reverse.map Comp.normal) := by
    simp [mkdirAll, tC, List.map_reverse]
  have := mkdirAllRev_spec l.reverse (fs := fs) (g := (mkdirAll fs (tC l)).1) (o := (mkdirAll fs (tC l)).2)
    (by rw [e])
  rwa [List.reverse_reverse] at this

-- (`tC l` is `l.map Comp.normal` by definition, so the equivalences of Lemmas/AbsFS apply to the right sides as they are)
theorem runEff_eq_ok {e : NEff β} {g g' : FS β} :
    runEff e.toEff g = (none, g') ↔
      match e with
      | .mkdir l => mkdir g (tC l) = .ok g'
      | .write l b => writeFile g (tC l) b = .ok g'
      | .mkdirAll l => mkdirAll g (tC l) = (g', none)
      | .fail _ => False := by
  cases e with
  | mkdir l => simp only [NEff.toEff, runEff]; cases mkdir g (tC l) <;> simp
  | write l b => simp only [NEff.toEff, runEff]; cases writeFile g (tC l) b <;> simp
  | mkdirAll l => simp only [NEff.toEff, runEff]; rcases mkdirAll g (tC l) with ⟨x, _ | y⟩ <;> simp
  | fail x => simp [NEff.toEff, runEff]

/-- what holds of an entry `q` that `e` changed, whatever the outcome of `e` -/
structure Changed (e : NEff β) (g : FS β) (q : APath) : Prop where
  ne_nil : q ≠ []
  made : ∃ k, EffPath e q k
  now : lookup (runEff e.toEff g).2 q = some e.node
  before : node g q = none ∨ (isDir g q = false ∧ ∃ b, e = .write q b)

theorem runEff_changes (e : NEff β) (g : FS β) (q : APath) (h : lookup (runEff e.toEff g).2 q ≠ lookup g q) :
    Changed e g q := by
  cases e with
  | mkdir l =>
    simp only [NEff.toEff, runEff] at h
    cases hm : mkdir g (tC l) with
    | error x => rw [hm] at h; exact absurd rfl h
    | ok g' =>
      rw [hm] at h
      obtain ⟨hne, _, hn, rfl⟩ := mkdir_normal.mp hm
      obtain ⟨rfl, hnew⟩ := lookup_set_changed h
      exact ⟨hne, ⟨false, rfl, rfl⟩, by simpa only [NEff.toEff, runEff, hm, NEff.node] using hnew, Or.inl hn⟩
  | write l b =>
    simp only [NEff.toEff, runEff] at h
    cases hm : writeFile g (tC l) b with
    | error x => rw [hm] at h; exact absurd rfl h
    | ok g' =>
      rw [hm] at h
      obtain ⟨hne, _, hnd, rfl⟩ := writeFile_normal.mp hm
      obtain ⟨rfl, hnew⟩ := lookup_set_changed h
      exact ⟨hne, ⟨true, rfl, rfl⟩, by simpa only [NEff.toEff, runEff, hm, NEff.node] using hnew, Or.inr ⟨hnd, b, rfl⟩⟩
  | mkdirAll l =>
    have hs : (runEff (NEff.mkdirAll l : NEff β).toEff g).2 = (mkdirAll g (tC l)).1 := by
      simp only [NEff.toEff, runEff]
      rcases mkdirAll g (tC l) with ⟨x, _ | y⟩ <;> rfl
    rw [hs] at h
    obtain ⟨a, b, c, d⟩ := (mkdirAll_tC_spec g l).changes q h
    exact ⟨b, ⟨false, a, rfl⟩, hs ▸ d, Or.inl c⟩
  | fail x => exact absurd rfl h

theorem runEff_node {e : NEff β} {g g' : FS β} (h : runEff e.toEff g = (none, g')) : node g' = e.after (node g) := by
  funext q
  rw [runEff_eq_ok] at h
  have hset : ∀ {l : APath} {n : Node β}, l ≠ [] → node (set g l n) q = if (q == l) = true then some n else node g q :=
    fun hl => by rw [node_set _ _ _ _ hl]; simp only [beq_iff_eq, @eq_comm _ q]
  cases e with
  | mkdir l => obtain ⟨hl, _, _, rfl⟩ := mkdir_normal.mp h; exact hset hl
  | write l b => obtain ⟨hl, _, _, rfl⟩ := writeFile_normal.mp h; exact hset hl
  | mkdirAll l =>
    obtain ⟨hch, hdirs, _⟩ := mkdirAll_tC_spec g l
    rw [h] at hch hdirs
    show node g' q = if q.isPrefixOf l = true then some .dir else node g q
    split
    next hq =>
      by_cases hq0 : q = []
      · rw [hq0]; rfl
      · exact isDir_iff.mp (hdirs rfl q (List.isPrefixOf_iff_prefix.mp hq) hq0)
    next hq =>
      unfold node
      split
      · rfl
      · exact Classical.byContradiction fun hc => hq (List.isPrefixOf_iff_prefix.mpr (hch q hc).1)
  | fail x => exact h.elim

theorem runEff_keeps {e : NEff β} {g g' : FS β} (h : runEff e.toEff g = (none, g')) {q : APath}
    (hq : ∀ k, ¬ EffPath e q k) : lookup g' q = lookup g q :=
  Classical.byContradiction fun hc => (runEff_changes e g q (by rwa [h])).made.elim hq

theorem runEff_keeps_dir (e : NEff β) (fs : FS β) (m : APath) (hm : isDir fs m = true) :
    isDir (runEff e.toEff fs).2 m = true := by
  by_cases hc : lookup (runEff e.toEff fs).2 m = lookup fs m
  · rw [isDir, node, hc]; exact hm
  · rw [isDir_iff] at hm
    rcases (runEff_changes e fs m hc).before with h | ⟨h, _⟩
    · rw [hm] at h; cases h
    · rw [isDir_iff.mpr hm] at h; cases h

theorem runEff_keeps_file (e : NEff β) (fs : FS β) (p : APath) (b : β)
    (hp : lookup fs p = some (.file b)) (hp0 : p ≠ [])
    (hw : ∀ b', e = .write p b' → b' = b) :
    lookup (runEff e.toEff fs).2 p = some (.file b) := by
  by_cases hc : lookup (runEff e.toEff fs).2 p = lookup fs p
  · rw [hc]; exact hp
  · obtain ⟨_, _, hnew, h | ⟨_, b', rfl⟩⟩ := runEff_changes e fs p hc
    · rw [node_of_ne_nil _ hp0, hp] at h; cases h
    · rw [hnew, hw b' rfl]; rfl

theorem runEffs_append (es1 es2 : List (Eff β)) (fs : FS β) :
    runEffs (es1 ++ es2) fs =
      match runEffs es1 fs with
      | (none, fsm) => runEffs es2 fsm
      | (some x, fsm) => (some x, fsm) := by
  induction es1 generalizing fs with
  | nil => rfl
  | cons e r ih =>
    simp only [List.cons_append, runEffs]
    rcases runEff e fs with ⟨_ | x, fs1⟩
    · exact ih fs1
    · rfl

theorem runEffs_append_ok {es1 es2 : List (Eff β)} {fs fs' : FS β}
    (h : runEffs (es1 ++ es2) fs = (none, fs')) :
    ∃ fsm, runEffs es1 fs = (none, fsm) ∧ runEffs es2 fsm = (none, fs') := by
  rw [runEffs_append] at h
  rcases hr : runEffs es1 fs with ⟨_ | x, fsm⟩ <;> rw [hr] at h
  · exact ⟨fsm, rfl, h⟩
  · cases h

theorem runN_cons_ok {e : NEff β} {es : List (NEff β)} {g g' : FS β} :
    runN (e :: es) g = (none, g') ↔ ∃ g2, runEff e.toEff g = (none, g2) ∧ runN es g2 = (none, g') := by
  simp only [runN, List.map, runEffs]
  rcases runEff e.toEff g with ⟨_ | x, g2⟩ <;> simp

theorem runN_induction (P : FS β → Prop) (es : List (NEff β))
    (hstep : ∀ e ∈ es, ∀ fs, P fs → P (runEff e.toEff fs).2) :
    ∀ fs, P fs → P (runN es fs).2 := by
  induction es with
  | nil => exact fun fs h => h
  | cons e r ih =>
    intro fs h
    have h1 := hstep e (List.mem_cons_self ..) fs h
    simp only [runN, List.map, runEffs]
    rcases hr : runEff e.toEff fs with ⟨_ | x, fs1⟩ <;> rw [hr] at h1
    · exact ih (fun e he => hstep e (List.mem_cons_of_mem _ he)) fs1 h1
    · exact h1

theorem runN_keeps_file (es : List (NEff β)) (p : APath) (b : β) (hp0 : p ≠ [])
    (hw : ∀ b', NEff.write p b' ∈ es → b' = b) (fs : FS β) (hp : lookup fs p = some (.file b)) :
    lookup (runN es fs).2 p = some (.file b) :=
  runN_induction (fun g => lookup g p = some (.file b)) es
    (fun e he g hg => runEff_keeps_file e g p b hg hp0 (fun b' hb => hw b' (hb ▸ he))) fs hp

theorem runN_keeps_dir (es : List (NEff β)) (m : APath) (fs : FS β) (hm : isDir fs m = true) :
    isDir (runN es fs).2 m = true :=
  runN_induction (fun g => isDir g m = true) es (fun e _ g hg => runEff_keeps_dir e g m hg) fs hm

def UnderT (t : APath) (e : NEff β) : Prop := e.path = [] ∨ t <+: e.path

theorem runEff_frame_step (t : APath) (e : NEff β) (he : UnderT t e) (g : FS β) (hdirs : Dirs g t) :
    ∀ q, ¬ t <+: q → lookup (runEff e.toEff g).2 q = lookup g q := by
  intro q hq
  apply Classical.byContradiction
  intro hc
  obtain ⟨hq0, ⟨k, hk⟩, _, h3⟩ := runEff_changes e g q hc
  rcases he with he | he
  · exact hq0 (List.prefix_nil.mp (he ▸ hk.prefix_path.1))
  · rcases List.prefix_or_prefix_of_prefix he hk.prefix_path.1 with h4 | h4
    · exact hq h4
    · rcases h3 with h3 | ⟨_, b, rfl⟩
      · have : isDir g q = true := hdirs q h4 hq0
        rw [isDir_iff, h3] at this
        cases this
      · exact hq he

theorem runN_frame (t : APath) (es : List (NEff β)) (hes : ∀ e ∈ es, UnderT t e) (g : FS β) (hdirs : Dirs g t) :
    ∀ q, ¬ t <+: q → lookup (runN es g).2 q = lookup g q :=
  (runN_induction (fun x => Dirs x t ∧ ∀ q, ¬ t <+: q → lookup x q = lookup g q) es
    (fun e he x hx => ⟨fun m hm hmne => runEff_keeps_dir e x m (hx.1 m hm hmne),
      fun q hq => (runEff_frame_step t e (hes e he) x hx.1 q hq).trans (hx.2 q hq)⟩)
    g ⟨hdirs, fun _ _ => rfl⟩).2

theorem runN_mkdir_frame (t : APath) (es : List (NEff β)) (hes : ∀ e ∈ es, UnderT t e) (g : FS β) :
    ∀ q, ¬ t <+: q → lookup (runN (.mkdir t :: es) g).2 q = lookup g q := by
  intro q hq
  simp only [runN, List.map, runEffs, NEff.toEff, runEff]
  cases hm : mkdir g (tC t) with
  | error x => rfl
  | ok g2 =>
    have h2 := runN_frame t es hes g2 (mkdir_normal_dirs hm) q hq
    obtain ⟨_, _, _, rfl⟩ := mkdir_normal.mp hm
    exact h2.trans (lookup_set_ne g _ fun e => hq (e ▸ List.prefix_refl _))

def afterAll (es : List (NEff β)) (T : APath → Option (Node β)) : APath → Option (Node β) :=
  es.foldl (fun T e => e.after T) T

theorem runN_node : ∀ (es : List (NEff β)) {g g' : FS β}, runN es g = (none, g') → node g' = afterAll es (node g)
  | [], g, g', h => by cases h; rfl
  | e :: r, g, g', h => by
    obtain ⟨g2, h1, h2⟩ := runN_cons_ok.mp h
    rw [runN_node r h2, runEff_node h1]; rfl

theorem afterAll_congr (es : List (NEff β)) (q : APath) : ∀ {T T' : APath → Option (Node β)}, T q = T' q →
    afterAll es T q = afterAll es T' q := by
  induction es with
  | nil => exact id
  | cons e r ih => exact fun h => ih (by simp only [NEff.after, h])

theorem runN_agree (es : List (NEff β)) (q : APath) {gA gA' gB gB' : FS β} (hA : runN es gA = (none, gA'))
    (hB : runN es gB = (none, gB')) (hag : node gA q = node gB q) : node gA' q = node gB' q := by
  rw [runN_node es hA, runN_node es hB]; exact afterAll_congr es q hag

end FontSave
