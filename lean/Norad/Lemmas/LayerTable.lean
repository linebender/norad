import Norad.Lemmas.SaveTable
/-!
# The (guard, step) table of `Layer::save_with_options`, read against the model's `planLayer` (C09 source-level tie)

`Generated.SaveOrder.layerTable` is regenerated from `src/layer.rs` on every run (`layerinfo_to_file_if_needed` inlined).
The model's layer info is ONE token (`info = 0`: neither colour nor lib, no layerinfo.plist); whether it is the colour or
the lib that makes it non-empty, and the key sort, are facts the model does not look at: parameters / no-ops here.
-/
namespace C08.Source
open AbsFS FontSave

inductive LAtom | infoNonEmpty | hasColor | libNonEmpty
  deriving DecidableEq, Repr

inductive LStep | createDir | writeContents | insertColor | insertLib | sortInfo | writeLayerinfo | saveGlyphs
  deriving DecidableEq, Repr

def latomTable : List (String × LAtom) := [
  ("!(self.color.is_none()&&self.lib.is_empty())", .infoNonEmpty),
  ("some:self.color", .hasColor),
  ("!self.lib.is_empty()", .libNonEmpty)]

def lstepTable : List (String × LStep) := [
  ("create_dir:path!CreateDir", .createDir),
  ("write:path/contents.plist<-self.contents", .writeContents),
  ("insert:dict[color]", .insertColor),
  ("insert:dict[lib]=self.lib", .insertLib),
  ("sort-keys:dict", .sortInfo),
  ("write:path/layerinfo.plist<-dict", .writeLayerinfo),
  ("each(self.contents.iter())[get:self.glyphs[name].expect();save_glyph:path/<glyph_path>]", .saveGlyphs)]

abbrev LRow := List LAtom × LStep

def parseLRow (r : List (List Char) × List Char) : Option LRow :=
  match allSome (r.1.map (lookupS latomTable)), lookupS lstepTable r.2 with
  | some g, some s => some (g, s)
  | _, _ => none

def parseLayerTable (t : List (List (List Char) × List Char)) : Option (List LRow) := allSome (t.map parseLRow)

/-- `Layer::save_with_options` as the model has it, in the table's vocabulary -/
def modelLayerRows : List LRow := [
  ([], .createDir),
  ([], .writeContents),
  ([.infoNonEmpty, .hasColor], .insertColor),
  ([.infoNonEmpty, .libNonEmpty], .insertLib),
  ([.infoNonEmpty], .sortInfo),
  ([.infoNonEmpty], .writeLayerinfo),
  ([], .saveGlyphs)]

theorem parseLayerTable_eq : parseLayerTable = parseWith (spelled latomTable) (spelled lstepTable) := by
  funext t
  unfold parseLayerTable parseWith
  congr 2
  funext r
  simp only [parseLRow, lookupS_eq, funext (lookupS_eq latomTable)]
  cases allSome (r.1.map ((spelled latomTable).lookup ·)) <;> cases (spelled lstepTable).lookup r.2 <;> rfl

theorem layerTable_parses : parseLayerTable Generated.SaveOrder.layerTable = some modelLayerRows := by
  rw [parseLayerTable_eq]
  simp only [spelled, latomTable, lstepTable, Generated.SaveOrder.layerTable, List.map_cons, List.map_nil]
  repeat rw [String.toList_ofList]
  decide +kernel

variable {β : Type}

def latomHolds (l : ALayer) (color libne : Bool) : LAtom → Bool
  | .infoNonEmpty => decide (l.info ≠ 0)
  | .hasColor => color
  | .libNonEmpty => libne

def lstepEffs (cfg : Cfg β) (t : APath) (l : ALayer) : LStep → List (Eff β)
  | .createDir => [.mkdir (joinRel (tC t) (Path.parse l.dir))]
  | .writeContents =>
    [.write (joinRel (tC t) (Path.parse l.dir) ++ [.normal contentsFile.toList])
      (cfg.render (.contents (l.entries.map fun e => (e.name, e.file))))]
  | .writeLayerinfo =>
    [.write (joinRel (tC t) (Path.parse l.dir) ++ [.normal layerinfoFile.toList]) (cfg.render (.layerinfo l.info))]
  | .saveGlyphs => l.entries.flatMap (planGlyph cfg (joinRel (tC t) (Path.parse l.dir)))
  | _ => []          -- what goes into the layer-info dictionary, and its key order: inside the model's one token

def layerRowsPlan (cfg : Cfg β) (t : APath) (l : ALayer) (color libne : Bool) (rows : List LRow) : List (Eff β) :=
  rows.flatMap fun r => if r.1.all (latomHolds l color libne) then lstepEffs cfg t l r.2 else []

theorem layerRows_model (cfg : Cfg β) (t : APath) (l : ALayer) (color libne : Bool) :
    layerRowsPlan cfg t l color libne modelLayerRows = planLayer cfg t l := by
  -- the rows that fill the layer-info dictionary have no effect of their own, so their guards do not matter (hence all
  -- four values of `color` / `libne`, consistent with `l.info` or not)
  simp only [layerRowsPlan, modelLayerRows, planLayer, List.flatMap_cons, List.flatMap_nil, List.all_cons, List.all_nil,
    lstepEffs, latomHolds, ite_self, Bool.and_true, if_true, decide_eq_true_eq, ite_not, List.nil_append, List.append_nil,
    List.cons_append]

end C08.Source
