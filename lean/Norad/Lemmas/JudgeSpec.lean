import Norad.Lemmas.C12
import Norad.Lemmas.Basic
/-!
# Lemmas of the glif specification's own definitions

The two laws assumed of Rust's float parser (`ReadsNumerals`, `ReadsTrimmed`), jointly satisfiable (`readsPlain`); `merge`,
`dedup` and the tables of `Spec/C12.lean`; the value grammars against the model's readers in both directions: a value
`valueCheck` finds clean is read (`ValOK`), a value it flags with a rule that is not a recorded finding is refused
(`valueCheck_refuses`).
-/
namespace Glif
open Spec

/-- assumed of Rust's float parser (`str::parse::<f64>`, the model's parameter `rd`): it reads every plain decimal numeral -/
def ReadsNumerals (rd : Str → Option Nat) : Prop := ∀ s, numeral s = true → ∃ b, rd s = some b

/-- assumed of Rust's float parser: it accepts no blanks around the number -/
def ReadsTrimmed (rd : Str → Option Nat) : Prop := ∀ t b, rd t = some b → trimBlanks t = t

theorem merge_clean_iff {rs : List (List String × Bool)} : merge rs = ([], false) ↔ ∀ r, r ∈ rs → r = ([], false) := by
  simp only [merge, Prod.mk.injEq, List.flatMap_eq_nil_iff, List.any_eq_false]
  exact ⟨fun h r hr => Prod.ext (h.1 r hr) (by simpa using h.2 r hr),
    fun h => ⟨fun r hr => by rw [h r hr], fun r hr => by rw [h r hr]; simp⟩⟩

theorem mem_merge_iff {rs : List (List String × Bool)} {r : String} : r ∈ (merge rs).1 ↔ ∃ x, x ∈ rs ∧ r ∈ x.1 := by
  simp only [merge, List.mem_flatMap]

theorem merge_snd_false {rs : List (List String × Bool)} (h : (merge rs).2 = false) {x : List String × Bool} (hx : x ∈ rs) :
    x.2 = false := by
  simp only [merge, List.any_eq_false] at h; simpa using h x hx

theorem merge_flagged {rs : List (List String × Bool)} {r : List String × Bool} (hr : r ∈ rs) (hne : r.1 ≠ []) :
    (merge rs).1 ≠ [] := by
  intro h
  simp only [merge, List.flatMap_eq_nil_iff] at h
  exact hne (h r hr)

theorem mem_dedup : ∀ {l : List String} {x : String}, x ∈ l → x ∈ dedup l
  | [], _, h => by cases h
  | y :: r, x, h => by
    simp only [dedup]
    by_cases hc : r.contains y = true
    · simp only [hc, if_true]
      rcases List.mem_cons.1 h with rfl | h
      · exact mem_dedup (List.contains_iff_mem.1 hc)
      · exact mem_dedup h
    · simp only [hc, Bool.false_eq_true, if_false]
      rcases List.mem_cons.1 h with rfl | h
      · exact List.mem_cons_self
      · exact List.mem_cons_of_mem _ (mem_dedup h)

theorem dedup_nil {l : List String} (h : dedup l = []) : l = [] :=
  List.eq_nil_iff_forall_not_mem.2 fun x hx => by have := mem_dedup hx; rw [h] at this; cases this

theorem hasDup_eq_false_iff : ∀ {l : List Str}, hasDup l = false ↔ l.Nodup
  | [] => by simp [hasDup]
  | x :: r => by simp [hasDup, hasDup_eq_false_iff (l := r)]

theorem required_advance : required sAdvance = [] := by decide +kernel

theorem required_unicode : required sUnicode = [] := by decide +kernel

theorem required_anchor : required sAnchor = ["x", "y"] := by decide +kernel

theorem required_point : required sPoint = ["x", "y"] := by decide +kernel

theorem required_component : required sComponent = ["base"] := by decide +kernel

theorem required_guideline : required sGuideline = [] := by decide +kernel

theorem required_image : required sImage = ["fileName"] := by decide +kernel

def attrKind (n s : Str) : Option AK :=
  match attrTable n with
  | none => none
  | some tbl => (tbl.find? (fun t => t.1.toList = s)).map (·.2)

theorem attrKind_mem {n s : Str} {k : AK} (h : attrKind n s = some k) :
    (attrTable n).isSome = true ∧ ∃ p ∈ (attrTable n).getD [], p.1.toList = s ∧ p.2 = k := by
  unfold attrKind at h
  cases ht : attrTable n with
  | none => simp [ht] at h
  | some tbl =>
    simp only [ht, Option.map_eq_some_iff] at h
    obtain ⟨p, hp, rfl⟩ := h
    exact ⟨rfl, p, List.mem_of_find?_eq_some hp, by simpa using List.find?_some hp, rfl⟩

def tableNames : List Str := [sAdvance, sUnicode, sAnchor, sGuideline, sImage, sPoint, sComponent]

theorem attrTable_known {n : Str} (h : (attrTable n).isSome = true) : n ∈ tableNames := by
  apply Decidable.byContradiction
  intro hn
  simp only [tableNames, List.mem_cons, List.not_mem_nil, or_false, not_or] at hn
  simp [attrTable, hn] at h

theorem table_kinds : ∀ n ∈ tableNames, ∀ p ∈ (attrTable n).getD [],
    (p.2 = AK.ident → p.1 = "identifier") ∧ (p.2 = AK.file → n = sImage ∧ p.1 = "fileName") := by decide +kernel

theorem attrKind_ident {n s : Str} (h : attrKind n s = some .ident) : s = sIdentifier := by
  obtain ⟨hn, p, hp, rfl, hk⟩ := attrKind_mem h
  rw [(table_kinds n (attrTable_known hn) p hp).1 hk]; rfl

theorem attrKind_file {n s : Str} (h : attrKind n s = some .file) : n = sImage ∧ s = "fileName".toList := by
  obtain ⟨hn, p, hp, rfl, hk⟩ := attrKind_mem h
  obtain ⟨h1, h2⟩ := (table_kinds n (attrTable_known hn) p hp).2 hk
  exact ⟨h1, by rw [h2]⟩

theorem attrKind_identifier : ∀ n ∈ [sAnchor, sGuideline, sPoint, sComponent], attrKind n sIdentifier = some .ident := by
  decide +kernel

theorem attrTable_isSome : ∀ n ∈ tableNames, (attrTable n).isSome = true := by decide +kernel

theorem containerAttrs_nil {a : Option (List Attr)} (h : containerAttrs a = []) : a = some [] := by
  cases a with
  | none => simp [containerAttrs] at h
  | some as => cases as with
    | nil => rfl
    | cons _ _ => simp [containerAttrs] at h

theorem containerAttrs_rule {a : Option (List Attr)} {r : String} (h : r ∈ containerAttrs a) : r = "container-attrs" := by
  cases a with
  | none => simpa [containerAttrs] using h
  | some as => cases as <;> simp [containerAttrs] at h <;> exact h

theorem objectLibsCheck_rules {d : Doc} {r : String} (h : r ∈ objectLibsCheck d) : r = "objlib-entry" ∨ r = "objlibs" := by
  simp only [objectLibsCheck, List.mem_flatMap] at h
  obtain ⟨i, _, hr⟩ := h
  split at hr
  · split at hr
    · cases hr
    · split at hr
      · cases hr
      · exact .inl (List.mem_singleton.1 hr)
    · exact .inr (List.mem_singleton.1 hr)
  · cases hr

theorem elemIdent_eq {e : Elem} {as : List Attr} (h : e.attrs = some as) :
    elemIdent e = (Spec.get as "identifier").toList := by
  unfold elemIdent
  simp only [h]
  cases Spec.get as "identifier" <;> rfl

theorem nodup_toList {α : Type} (o : Option α) : o.toList.Nodup := by cases o <;> simp

theorem elemIdent_nodup (e : Elem) : (elemIdent e).Nodup := by
  cases ha : e.attrs with
  | none => simp [elemIdent, ha]
  | some as => rw [elemIdent_eq ha]; exact nodup_toList _

theorem nameOk_eq_validName (v : Str) : nameOk v = validName v := by
  unfold nameOk validName
  have hf : ∀ c : Char, decide (c.toNat < 32) = decide (c.toNat ≤ 31) := fun c => decide_eq_decide.2 (by omega)
  simp only [hf]

theorem identOk_validIdent {v : Str} (h : identOk v = true) : validIdent v = true ∧ v ≠ [] := by
  simp only [identOk, Bool.and_eq_true] at h
  refine ⟨by simp only [validIdent, Bool.and_eq_true]; exact ⟨h.1.2, h.2⟩, ?_⟩
  intro e; subst e; simp at h

theorem splitOn_no_sep {sep : Char} : ∀ {s : Str}, sep ∉ s → splitOn sep s = [s] := by
  intro s
  induction s with
  | nil => intro _; rfl
  | cons c r ih =>
    intro h
    simp only [List.mem_cons, not_or] at h
    have hc : c ≠ sep := fun e => h.1 e.symm
    simp [splitOn, hc, ih h.2]

theorem imageCls_legal {v : Str} (h : imageCls v = .legal) : imageNameOk v = true := by
  unfold imageCls at h
  cases v with
  | nil => cases h
  | cons c r =>
    rw [if_neg (by simp)] at h
    by_cases hc : (!(c :: r).contains '/') = true
    · have hns : '/' ∉ c :: r := by simpa using hc
      have hh : c ≠ '/' := fun e => hns (by simp [e])
      simp [imageNameOk, relComponents, splitOn_no_sep hns, hh]
    · rw [if_neg hc] at h
      -- every other branch of `imageCls` answers `.odd` or `.bad`
      repeat' split at h
      all_goals cases h

/-- refusal in the model's attribute loop; `fileName` and `smooth` are never refused there: the file name is checked when the
    element is finished -/
def Refuses (rd : Str → Option Nat) (ver : Nat) (seen : List Str) : AK → Str → Prop
  | .num, v => rd v = none
  | .angle, v => ∀ b, rd v = some b → angleOk b = false
  | .name, v => validName v = false
  | .color, v => readCol rd v = none
  | .ident, v => readIdent ver seen v = none
  | .hex, v => parseHex v = none
  | .ptype, v => readPointType v = none
  | .smooth, _ => False
  | .file, _ => False

theorem refuses_iff {rd : Str → Option Nat} {ver : Nat} {seen : List Str} (k : AK) (v : Str) :
    Refuses rd ver seen k v ↔ readable rd ver seen k v = false := by
  cases k <;> simp only [Refuses, readable, Option.isSome_eq_false_iff, Option.isNone_iff_eq_none, reduceCtorEq]
  cases rd v <;> simp

/-- what a clean value check guarantees (a number: in the specification's terms; the model reads it under `ReadsNumerals`) -/
def ValOK (rd : Str → Option Nat) : AK → Str → Prop
  | .num, v => numeral v = true
  | .angle, v => ∃ b, rd v = some b ∧ angleOk b = true
  | .name, v => validName v = true
  | .color, v => ∃ c, readCol rd v = some c
  | .ident, v => validIdent v = true ∧ v ≠ []
  | .hex, v => ∃ c, parseHex v = some c
  | .ptype, v => ∃ t, readPointType v = some t
  | .smooth, _ => True
  | .file, v => imageNameOk v = true

theorem colCls_legal {rd : Str → Option Nat} {v : Str} (h : colCls rd v = .legal) : ∃ c, readCol rd v = some c := by
  unfold colCls at h
  simp only at h
  split at h
  · rename_i hc
    simp only [Bool.and_eq_true, decide_eq_true_eq, List.all_eq_true] at hc
    obtain ⟨_, hlen, hall⟩ := hc
    unfold readCol
    match hp : splitOn ',' v, hlen, hall with
    | [a, b, c, d], _, hall =>
      have ha := hall a (by simp)
      have hb := hall b (by simp)
      have hc' := hall c (by simp)
      have hd := hall d (by simp)
      cases ra : rd a <;> simp [ra] at ha
      cases rb : rd b <;> simp [rb] at hb
      cases rc : rd c <;> simp [rc] at hc'
      cases rdd : rd d <;> simp [rdd] at hd
      rename_i r g b' a'
      exact ⟨⟨r, g, b', a'⟩, by simp [ra, rb, rc, rdd, ha, hb, hc', hd]⟩
  · split at h <;> cases h

theorem valueCheck_clean {rd : Str → Option Nat} {k : AK} {v : Str} (h : valueCheck rd k v = ([], false)) :
    ValOK rd k v := by
  fun_cases valueCheck rd k v
  -- a branch that reports a rule contradicts `h`
  case case2 | case4 | case5 | case7 | case10 | case11 | case13 | case14 | case15 | case17 =>
    simp only [valueCheck, *] at h; simp at h
  case case1 =>  -- num
    simp only [valueCheck, numCls] at h
    by_cases hn : numeral v = true
    · exact hn
    · simp only [hn] at h
      cases hr : rd v <;> simp [hr] at h
  case case3 b ha hr _ => exact ⟨b, hr, ha⟩  -- angle, read and in range
  case case6 hn => exact (nameOk_eq_validName v).symm.trans hn  -- name
  case case8 =>  -- color
    simp only [valueCheck] at h
    cases hc : colCls rd v with
    | legal => exact colCls_legal hc
    | odd => simp [hc] at h
    | bad => simp [hc] at h
  case case9 hi => exact identOk_validIdent hi  -- ident
  case case12 hc =>  -- hex, legal
    unfold hexCls at hc
    split at hc
    · cases hp : parseHex v with
      | some c => exact ⟨c, hp⟩
      | none => simp [hp] at hc
    · cases hc
  case case16 hp => exact Option.isSome_iff_exists.1 hp  -- ptype
  case case18 => trivial  -- smooth
  case case19 => trivial  -- smooth, any other value
  case case20 =>  -- file
    simp only [valueCheck] at h
    cases hc : imageCls v with
    | legal => exact imageCls_legal hc
    | odd => simp [hc] at h
    | bad => simp [hc] at h

section
variable {rd : Str → Option Nat}

theorem ValOK.not_refuses (law : ReadsNumerals rd) {ver : Nat} {seen : List Str} {k : AK} {v : Str} (h : ValOK rd k v)
    (hid : k = .ident → ver ≠ 1 ∧ v ∉ seen) : ¬ Refuses rd ver seen k v := by
  cases k with
  | num => obtain ⟨b, hb⟩ := law v h; simp [Refuses, hb]
  | angle => obtain ⟨b, hb, ha⟩ := h; exact fun hr => by simp [hr b hb] at ha
  | name => simp [Refuses, show validName v = true from h]
  | color => obtain ⟨c, hc⟩ := h; simp [Refuses, hc]
  | ident => obtain ⟨hv, hs⟩ := hid rfl; simp [Refuses, readIdent, hv, hs, (show validIdent v = true ∧ v ≠ [] from h).1]
  | hex => obtain ⟨c, hc⟩ := h; simp [Refuses, hc]
  | ptype => obtain ⟨t, ht⟩ := h; simp [Refuses, ht]
  | smooth => exact id
  | file => exact id

end

theorem digitVal_hex {c : Char} {d : Nat} (h : digitVal 16 c = some d) : isHexDigit c = true := by
  -- `digitVal`'s own ranges: `0`–`9` are 48–57, `a`–`z` 97–122, `A`–`Z` 65–90
  simp only [digitVal, char_le_iff, Char.reduceToNat] at h
  simp only [isHexDigit, isDigit, char_le_iff, Char.reduceToNat, Bool.or_eq_true, Bool.and_eq_true, decide_eq_true_eq]
  generalize c.toNat = n at h ⊢
  by_cases h1 : 48 ≤ n ∧ n ≤ 57
  · exact .inl (.inl h1)
  rw [if_neg h1] at h
  by_cases h2 : 97 ≤ n ∧ n ≤ 122
  · rw [if_pos h2] at h
    by_cases hd : n - 97 + 10 < 16
    · exact .inl (.inr ⟨h2.1, by omega⟩)
    · simp only [hd, if_false] at h; cases h
  rw [if_neg h2] at h
  by_cases h3 : 65 ≤ n ∧ n ≤ 90
  · rw [if_pos h3] at h
    by_cases hd : n - 65 + 10 < 16
    · exact .inr ⟨h3.1, by omega⟩
    · simp only [hd, if_false] at h; cases h
  rw [if_neg h3] at h
  cases h

theorem digitsVal_hex : ∀ {s : Str} {acc n : Nat}, digitsVal 16 s acc = some n → s.all isHexDigit = true
  | [], _, _, _ => rfl
  | c :: r, acc, n, h => by
    unfold digitsVal at h
    cases hd : digitVal 16 c with
    | none => rw [hd] at h; cases h
    | some d =>
      rw [hd] at h
      rw [List.all_cons, digitVal_hex hd, digitsVal_hex h]
      rfl

/-- the digits of `parseU32`, copied; `parseU32_eq` ties the copies -/
def u32Digits (base : Nat) (ds : Str) : Option Nat :=
  if ds.isEmpty then none else
  match digitsVal base ds 0 with
  | some n => if n ≤ 4294967295 then some n else none
  | none => none

theorem parseU32_eq (base : Nat) (s : Str) : parseU32 base s =
    u32Digits base (match s with | '+' :: r => if r.isEmpty then s else r | _ => s) := rfl

theorem parseU32_of_not_plus (base : Nat) {c : Char} (r : Str) (hc : c ≠ '+') :
    parseU32 base (c :: r) = u32Digits base (c :: r) := by
  rw [parseU32_eq]
  split
  · rename_i heq; exact absurd (List.cons.inj heq).1 hc
  · rfl

theorem parseU32_hex {s : Str} {m : Nat} (h : parseU32 16 s = some m) :
    ∃ ds, (s = ds ∨ s = '+' :: ds) ∧ ds ≠ [] ∧ ds.all isHexDigit = true ∧ parseU32 16 ds = some m := by
  rw [parseU32_eq] at h
  generalize hds : (match s with | '+' :: r => if r.isEmpty then s else r | _ => s) = ds at h
  cases ds with
  | nil => cases h
  | cons c r =>
    have hall : (c :: r).all isHexDigit = true := by
      unfold u32Digits at h
      rw [if_neg (by simp)] at h
      cases hv : digitsVal 16 (c :: r) 0 with
      | none => rw [hv] at h; cases h
      | some v => exact digitsVal_hex hv
    have hc : c ≠ '+' := fun e => by
      rw [e, List.all_cons, Bool.and_eq_true] at hall
      exact absurd hall.1 (by decide)
    refine ⟨c :: r, ?_, List.cons_ne_nil _ _, hall, (parseU32_of_not_plus 16 r hc).trans h⟩
    split at hds
    · split at hds
      · exact absurd (List.cons.inj hds).1.symm hc
      · exact .inr (hds ▸ rfl)
    · exact .inl hds

theorem parseHex_some {s : Str} {n : Nat} (h : parseHex s = some n) :
    hexCls s = .legal ∨ ∃ r, s = '+' :: r ∧ hexCls r = .legal := by
  unfold parseHex at h
  cases hu : parseU32 16 s with
  | none => rw [hu] at h; cases h
  | some m =>
    obtain ⟨ds, hs, hne, hall, hds⟩ := parseU32_hex hu
    have hl : hexCls ds = .legal := by
      unfold hexCls parseHex
      rw [hds, ← hu, if_pos (by rw [hall, List.isEmpty_eq_false_iff.2 hne]; rfl)]
      rw [hu] at h ⊢
      rw [h]
    rcases hs with rfl | rfl
    · exact .inl hl
    · exact .inr ⟨ds, rfl, hl⟩

section
variable {rd : Str → Option Nat}

theorem hex_rule_of_parse {v : Str} {n : Nat} (h : parseHex v = some n) {r : String}
    (hr : r ∈ (valueCheck rd .hex v).1) : r = "hex-plus" := by
  unfold valueCheck at hr
  rcases parseHex_some h with hl | ⟨s, rfl, hl⟩
  · rw [hl] at hr; cases hr
  · simp only [hl, beq_self_eq_true, if_true] at hr
    split at hr
    · cases hr
    · exact List.mem_singleton.1 hr

theorem filter_length_le_relComponents (v : Str) :
    ((splitOn '/' v).filter (fun p => !p.isEmpty && p ≠ ['.'])).length ≤ (relComponents v).length := by
  unfold relComponents
  cases splitOn '/' v with
  | nil => exact Nat.le_refl _
  | cons hd tl =>
    rw [List.filter_cons, List.length_append]
    split
    · rename_i hp
      rw [Bool.and_eq_true, Bool.not_eq_true'] at hp
      rw [hp.1, List.length_cons]
      exact Nat.le_of_eq (Nat.add_comm _ _)
    · exact Nat.le_add_left _ _

theorem imageCls_bad {v : Str} (h : imageCls v = .bad) : imageNameOk v = false := by
  unfold imageCls at h
  unfold imageNameOk
  by_cases he : v.isEmpty = true
  · rw [he]; rfl
  rw [if_neg he] at h
  by_cases hc : (!v.contains '/') = true
  · rw [if_pos hc] at h
    split at h <;> cases h
  rw [if_neg hc] at h
  by_cases hh : v.head? = some '/'
  · rw [hh, bne_self_eq_false, Bool.and_false, Bool.false_and]
  rw [if_neg hh] at h
  by_cases hn : ((splitOn '/' v).filter (fun p => !p.isEmpty && p ≠ ['.'])).length ≥ 2
  · rw [decide_eq_false (Nat.not_le.2 (Nat.lt_of_lt_of_le hn (filter_length_le_relComponents v))), Bool.and_false]
  · rw [if_neg hn] at h; cases h

theorem numCls_bad {v : Str} (h : numCls rd v = .bad) : rd v = none := by
  unfold numCls at h
  split at h
  · cases h
  · split at h
    · cases h
    · assumption

/-- `v ≠ []`: the model lets the empty identifier pass (recorded finding `empty-identifier-accepted`) -/
theorem identOk_eq {v : Str} (hne : v ≠ []) : identOk v = validIdent v := by
  unfold identOk validIdent
  rw [List.isEmpty_eq_false_iff.2 hne]
  rfl

theorem colCls_bad (lawT : ReadsTrimmed rd) {v : Str} (h : colCls rd v = .bad) : readCol rd v = none := by
  cases hrc : readCol rd v with
  | none => rfl
  | some c =>
    -- four parts, each read to a number in range: the same after trimming, which `colCls` does not call bad
    exfalso
    unfold readCol at hrc
    split at hrc
    · rename_i b1 b2 b3 b4 heq
      simp only [List.map_eq_cons_iff, List.map_eq_nil_iff] at heq
      obtain ⟨t1, _, hs, h1, t2, _, rfl, h2, t3, _, rfl, h3, t4, _, rfl, h4, rfl⟩ := heq
      split at hrc
      · rename_i hu
        simp only [Bool.and_eq_true] at hu
        unfold colCls at h
        simp only [hs, List.map_cons, List.map_nil, lawT _ _ h1, lawT _ _ h2, lawT _ _ h3, lawT _ _ h4, List.all_cons,
          List.all_nil, h1, h2, h3, h4, hu.1.1.1, hu.1.1.2, hu.1.2, hu.2, List.length_cons, List.length_nil,
          decide_true, Bool.and_self, if_true] at h
        split at h <;> cases h
      · cases hrc
    · cases hrc

/-- the value rules that correspond to a recorded finding: norad accepts such a value (`empty-identifier-accepted`,
    `hex-plus-sign-accepted`) -/
def findingValueRules : List String := ["ident-empty", "hex-plus"]

theorem cls_bad_of_mem {c : Cls} {rule r : String}
    (h : r ∈ (match c with | .legal => ([], false) | .odd => ([], true) | .bad => ([rule], false) : List String × Bool).1) :
    c = .bad := by
  cases c <;> first | rfl | cases h

theorem valueCheck_refuses (lawT : ReadsTrimmed rd) {ver : Nat} {seen : List Str} {k : AK} {v : Str} {r : String}
    (hr : r ∈ (valueCheck rd k v).1) (hnf : r ∉ findingValueRules) :
    (k ≠ .file → Refuses rd ver seen k v) ∧ (k = .file → imageNameOk v = false) := by
  constructor
  · intro hk
    cases k with
    | num => exact numCls_bad (cls_bad_of_mem hr)
    | angle =>
      intro b hb
      simp only [valueCheck] at hr
      simp only [hb] at hr
      split at hr
      · rename_i hc; rw [numCls_bad hc] at hb; cases hb
      · split at hr
        · cases hr
        · rename_i ha; exact Bool.eq_false_iff.2 ha
    | name =>
      show validName v = false
      rw [← nameOk_eq_validName]
      simp only [valueCheck] at hr
      split at hr
      · cases hr
      · rename_i hn; exact Bool.eq_false_iff.2 hn
    | color => exact colCls_bad lawT (cls_bad_of_mem hr)
    | ident =>
      simp only [valueCheck] at hr
      split at hr
      · cases hr
      · rename_i hi
        split at hr
        · exact absurd (List.mem_singleton.1 hr ▸ List.mem_cons_self) hnf
        · rename_i he
          have hne : v ≠ [] := fun e => he (e ▸ rfl)
          exact readIdent_invalid _ _ (identOk_eq hne ▸ Bool.eq_false_iff.2 hi)
    | hex =>
      show parseHex v = none
      cases hp : parseHex v with
      | none => rfl
      | some n => exact absurd (hex_rule_of_parse hp hr ▸ List.mem_cons_of_mem _ List.mem_cons_self) hnf
    | ptype =>
      show readPointType v = none
      simp only [valueCheck] at hr
      cases hp : readPointType v with
      | none => rfl
      | some t => rw [hp] at hr; cases hr
    | smooth =>
      simp only [valueCheck] at hr
      split at hr <;> cases hr
    | file => exact absurd rfl hk
  · rintro rfl
    exact imageCls_bad (cls_bad_of_mem hr)

end

/-! ### the two laws assumed of Rust's float parser are jointly satisfiable

by the reader that reads exactly the plain numerals: a numeral consists of digits, signs, `.`, `e`, `E`, none of them blank. -/

def numChar (c : Char) : Bool := isDigit c || c == '-' || c == '+' || c == '.' || c == 'e' || c == 'E'

theorem takeDigits_spec : ∀ (s : Str), (takeDigits s).1 ++ (takeDigits s).2 = s ∧ ∀ c, c ∈ (takeDigits s).1 → numChar c = true
  | [] => ⟨rfl, by intro c h; cases h⟩
  | c :: r => by
    obtain ⟨h1, h2⟩ := takeDigits_spec r
    unfold takeDigits
    by_cases hd : isDigit c = true
    · simp only [hd, if_true]
      refine ⟨by simp [h1], ?_⟩
      intro x hx
      rcases List.mem_cons.1 hx with rfl | hx
      · simp [numChar, hd]
      · exact h2 x hx
    · simp only [hd, Bool.false_eq_true, if_false]
      exact ⟨rfl, by intro x hx; cases hx⟩

/-- the last stage of `Spec.numeral` (the exponent), copied; `numeral_eq` ties the copies -/
def numStage3 (r : Str) : Bool :=
  match r with
  | [] => true
  | c :: r' =>
    if c = 'e' ∨ c = 'E' then
      let r' := match r' with | '+' :: t => t | '-' :: t => t | _ => r'
      let (e, t) := takeDigits r'
      !e.isEmpty && t.isEmpty
    else false

/-- the middle stage of `Spec.numeral` (the fraction); `['!']` is the specification's way of failing on `.` without digits -/
def numStage2 (r : Str) : Bool :=
  let r := match r with
    | '.' :: r' => let (f, t) := takeDigits r'; if f.isEmpty then ['!'] else t
    | _ => r
  numStage3 r

theorem numeral_eq (s : Str) : numeral s =
    (let s := match s with | '-' :: r => r | _ => s
     let (i, r) := takeDigits s
     if i.isEmpty then false else numStage2 r) := rfl

theorem numChars_of_rest_nil {s : Str} (h : (takeDigits s).2.isEmpty = true) : ∀ c, c ∈ s → numChar c = true := by
  obtain ⟨h1, h2⟩ := takeDigits_spec s
  have : (takeDigits s).2 = [] := by simpa using h
  rw [this, List.append_nil] at h1
  intro c hc
  rw [← h1] at hc
  exact h2 c hc

theorem numStage3_chars {r : Str} (h : numStage3 r = true) : ∀ c, c ∈ r → numChar c = true := by
  unfold numStage3 at h
  split at h
  · exact nofun
  · rename_i c r'
    split at h
    · rename_i hce
      rw [Bool.and_eq_true] at h
      refine List.forall_mem_cons.2 ⟨by rcases hce with rfl | rfl <;> decide, ?_⟩
      have ht := numChars_of_rest_nil h.2
      split at ht
      · exact List.forall_mem_cons.2 ⟨by decide, ht⟩
      · exact List.forall_mem_cons.2 ⟨by decide, ht⟩
      · exact ht
    · cases h

theorem numStage2_chars {r : Str} (h : numStage2 r = true) : ∀ c, c ∈ r → numChar c = true := by
  unfold numStage2 at h
  split at h
  · rename_i r'
    obtain ⟨h1, h2⟩ := takeDigits_spec r'
    by_cases hf : (takeDigits r').1.isEmpty = true
    · simp only [hf, if_true] at h
      exact absurd h (by decide)
    · simp only [hf, Bool.false_eq_true, if_false] at h
      refine List.forall_mem_cons.2 ⟨by decide, fun x hx => ?_⟩
      rw [← h1] at hx
      exact (List.mem_append.1 hx).elim (h2 x) (numStage3_chars h x)
  · exact numStage3_chars h

theorem numeral_chars {s : Str} (h : numeral s = true) : ∀ c, c ∈ s → numChar c = true := by
  rw [numeral_eq] at h
  have key : ∀ s' : Str, (if (takeDigits s').1.isEmpty then false else numStage2 (takeDigits s').2) = true →
      ∀ c, c ∈ s' → numChar c = true := by
    intro s' h' c hc
    obtain ⟨h1, h2⟩ := takeDigits_spec s'
    split at h'
    · cases h'
    · rw [← h1] at hc
      exact (List.mem_append.1 hc).elim (h2 c) (numStage2_chars h' c)
  split at h
  · exact List.forall_mem_cons.2 ⟨by decide, key _ h⟩
  · exact key s h

theorem numChar_nonblank {c : Char} (h : numChar c = true) :
    decide (c = ' ' ∨ c = '\t' ∨ c = '\n' ∨ c = '\r') = false := by
  simp only [decide_eq_false_iff_not]
  intro hb
  rcases hb with rfl | rfl | rfl | rfl <;> revert h <;> decide

theorem trimBlanks_numeral {s : Str} (h : numeral s = true) : trimBlanks s = s := by
  have hall := numeral_chars h
  unfold trimBlanks
  simp only
  rw [dropWhile_self _ fun c hc => numChar_nonblank (hall c (List.mem_of_head? hc))]
  rw [dropWhile_self _ fun c hc => numChar_nonblank (hall c (List.mem_reverse.1 (List.mem_of_head? hc)))]
  exact List.reverse_reverse s

/-- the value read does not matter for the two laws -/
def readsPlain : Str → Option Nat := fun s => if numeral s = true then some 0 else none

theorem readsPlain_numerals : ReadsNumerals readsPlain := by
  intro s hs
  exact ⟨0, by simp [readsPlain, hs]⟩

theorem readsPlain_trimmed : ReadsTrimmed readsPlain := by
  intro t b h
  by_cases hn : numeral t = true
  · exact trimBlanks_numeral hn
  · simp [readsPlain, hn] at h

end Glif
