import Norad.Lemmas.C05Doc
import Norad.Props.C12
/-!
# Any element order, comments anywhere (C05)

`ItemsPerm items items'`: top-level items of DIFFERENT families exchanged (the relative order inside each list-valued
family — code points, anchors, guidelines — is kept; there is at most one advance, image, outline, lib, note), comments
inserted between items, and inside `outline` contours and components interleaved differently (`OItsPerm`), comments between
them and between the points of a contour (`CItsPerm`).  `Glif.interp` and `Glif.LegalItems` are invariant under it, so
`Glif.legal_accepted` gives the result for every such re-ordering; in particular `<lib>` may come BEFORE the objects whose
libs it carries (`load_object_libs` runs at `</glyph>`).  `Props.C12` is imported for `legal_accepted` and `EvsPerm`.
-/
namespace C05Bridge
open Ufo3 Glif

/-- `famB`, `famO`: tags, compared for `≠` only (items of one family keep their relative order).  `<outline>` and `<outline/>`
    count as two families; a legal document has at most one of the two -/
def famB : BIt → Nat
  | .advance .. => 0 | .unicode _ => 1 | .image _ => 2 | .outline _ => 3 | .emptyOutline _ => 4
  | .anchor _ => 5 | .guideline _ => 6 | .lib _ => 7 | .note _ => 8 | .comment => 9

def famO : OIt → Nat
  | .contour .. => 0 | .emptyContour _ => 1 | .component _ => 2 | .comment => 3

inductive CItsPerm : List CIt → List CIt → Prop
  | refl (l : List CIt) : CItsPerm l l
  | comment (l : List CIt) : CItsPerm l (.comment :: l)
  | cons (a : CIt) {l l' : List CIt} : CItsPerm l l' → CItsPerm (a :: l) (a :: l')
  | trans {a b c : List CIt} : CItsPerm a b → CItsPerm b c → CItsPerm a c

inductive OItsPerm : List OIt → List OIt → Prop
  | refl (l : List OIt) : OItsPerm l l
  | swap (a b : OIt) (l : List OIt) : famO a ≠ famO b → OItsPerm (a :: b :: l) (b :: a :: l)
  | comment (l : List OIt) : OItsPerm l (.comment :: l)
  | contour (cid : Option Str) {its its' : List CIt} (l : List OIt) : CItsPerm its its' →
      OItsPerm (.contour cid its :: l) (.contour cid its' :: l)
  | cons (a : OIt) {l l' : List OIt} : OItsPerm l l' → OItsPerm (a :: l) (a :: l')
  | trans {a b c : List OIt} : OItsPerm a b → OItsPerm b c → OItsPerm a c

inductive ItemsPerm : List BIt → List BIt → Prop
  | refl (l : List BIt) : ItemsPerm l l
  | swap (a b : BIt) (l : List BIt) : famB a ≠ famB b → ItemsPerm (a :: b :: l) (b :: a :: l)
  | comment (l : List BIt) : ItemsPerm l (.comment :: l)
  | outline {its its' : List OIt} (l : List BIt) : OItsPerm its its' → ItemsPerm (.outline its :: l) (.outline its' :: l)
  | cons (a : BIt) {l l' : List BIt} : ItemsPerm l l' → ItemsPerm (a :: l) (a :: l')
  | trans {a b c : List BIt} : ItemsPerm a b → ItemsPerm b c → ItemsPerm a c

theorem cits_flatMap {α : Type} {f : CIt → List α} (hf : f .comment = []) {l l' : List CIt} (h : CItsPerm l l') :
    l'.flatMap f = l.flatMap f := by
  induction h with
  | refl => rfl
  | comment l => rw [List.flatMap_cons, hf, List.nil_append]
  | cons a _ ih => rw [List.flatMap_cons, List.flatMap_cons, ih]
  | trans _ _ ih1 ih2 => rw [ih2, ih1]

theorem cits_ok {ok : Nat → Prop} {l l' : List CIt} (h : CItsPerm l l') (hl : ∀ it, it ∈ l → it.OK ok) :
    ∀ it, it ∈ l' → it.OK ok := by
  induction h with
  | refl => exact hl
  | comment l => exact List.forall_mem_cons.2 ⟨trivial, hl⟩
  | cons a _ ih =>
    rw [List.forall_mem_cons] at hl ⊢
    exact ⟨hl.1, ih hl.2⟩
  | trans _ _ ih1 ih2 => exact ih2 (ih1 hl)

-- a contour writes `ob.contours` (or nothing, without points), a component `ob.components`, the rest nothing
theorem applyO_comm (ob : OB) (a b : OIt) (h : famO a ≠ famO b) : applyO (applyO ob a) b = applyO (applyO ob b) a := by
  cases a <;> cases b <;> simp [famO] at h <;> simp [applyO] <;> (try split) <;> simp

theorem oits_fold {l l' : List OIt} (h : OItsPerm l l') : ∀ ob, l'.foldl applyO ob = l.foldl applyO ob := by
  induction h with
  | refl => intro ob; rfl
  | swap a b l hab => intro ob; simp only [List.foldl_cons, applyO_comm ob a b hab]
  | comment l => intro ob; simp [List.foldl_cons, applyO]
  | contour cid l hc => intro ob; simp only [List.foldl_cons, applyO, cits_flatMap (f := CIt.pts) rfl hc]
  | cons a _ ih => intro ob; simp only [List.foldl_cons, ih]
  | trans _ _ ih1 ih2 => intro ob; rw [ih2, ih1]

theorem oits_ids {l l' : List OIt} (h : OItsPerm l l') : (l.flatMap OIt.ids).Perm (l'.flatMap OIt.ids) := by
  induction h with
  | refl => exact List.Perm.refl _
  | swap a b l _ =>
    simp only [List.flatMap_cons, ← List.append_assoc]
    exact List.Perm.append_right _ List.perm_append_comm
  | comment l => simp [List.flatMap_cons, OIt.ids]
  | contour cid l hc => simp [List.flatMap_cons, OIt.ids, cits_flatMap (f := CIt.ids) rfl hc]
  | cons a _ ih => simp only [List.flatMap_cons]; exact List.Perm.append_left _ ih
  | trans _ _ ih1 ih2 => exact ih1.trans ih2

theorem oits_ok {ok : Nat → Prop} {l l' : List OIt} (h : OItsPerm l l') (hl : ∀ it, it ∈ l → it.OK ok) :
    ∀ it, it ∈ l' → it.OK ok := by
  induction h with
  | refl => exact hl
  | swap a b l _ =>
    simp only [List.forall_mem_cons] at hl ⊢
    exact ⟨hl.2.1, hl.1, hl.2.2⟩
  | comment l => exact List.forall_mem_cons.2 ⟨trivial, hl⟩
  | contour cid l hc =>
    rw [List.forall_mem_cons] at hl ⊢
    obtain ⟨⟨h1, h2, h3⟩, hr⟩ := hl
    exact ⟨⟨cits_ok hc h1, by rw [cits_flatMap (f := CIt.pts) rfl hc]; exact h2, h3⟩, hr⟩
  | cons a _ ih =>
    rw [List.forall_mem_cons] at hl ⊢
    exact ⟨hl.1, ih hl.2⟩
  | trans _ _ ih1 ih2 => exact ih2 (ih1 hl)

theorem applyG_comm (nc : Color → Color) (g : Glyph) (a b : BIt) (h : famB a ≠ famB b) :
    applyG nc (applyG nc g a) b = applyG nc (applyG nc g b) a := by
  -- items of different families write different fields; a note without text writes none (hence the `cases` on the note's text)
  cases a <;> cases b <;> (try cases ‹Option Str›) <;> first | rfl | exact absurd rfl h

theorem items_fold (nc : Color → Color) {l l' : List BIt} (h : ItemsPerm l l') :
    ∀ g, l'.foldl (applyG nc) g = l.foldl (applyG nc) g := by
  induction h with
  | refl => intro g; rfl
  | swap a b l hab => intro g; simp only [List.foldl_cons, applyG_comm nc g a b hab]
  | comment l => intro g; simp [List.foldl_cons, applyG]
  | outline l ho => intro g; simp only [List.foldl_cons, applyG, oits_fold ho]
  | cons a _ ih => intro g; simp only [List.foldl_cons, ih]
  | trans _ _ ih1 ih2 => intro g; rw [ih2, ih1]

theorem items_ids {l l' : List BIt} (h : ItemsPerm l l') : (l.flatMap BIt.ids).Perm (l'.flatMap BIt.ids) := by
  induction h with
  | refl => exact List.Perm.refl _
  | swap a b l _ =>
    simp only [List.flatMap_cons, ← List.append_assoc]
    exact List.Perm.append_right _ List.perm_append_comm
  | comment l => simp [List.flatMap_cons, BIt.ids]
  | outline l ho =>
    simp only [List.flatMap_cons, BIt.ids]
    exact List.Perm.append_right _ (oits_ids ho)
  | cons a _ ih => simp only [List.flatMap_cons]; exact List.Perm.append_left _ ih
  | trans _ _ ih1 ih2 => exact ih1.trans ih2

theorem items_ok {ok : Nat → Prop} {l l' : List BIt} (h : ItemsPerm l l') (hl : ∀ it, it ∈ l → it.OK ok) :
    ∀ it, it ∈ l' → it.OK ok := by
  induction h with
  | refl => exact hl
  | swap a b l _ =>
    simp only [List.forall_mem_cons] at hl ⊢
    exact ⟨hl.2.1, hl.1, hl.2.2⟩
  | comment l => exact List.forall_mem_cons.2 ⟨trivial, hl⟩
  | outline l ho =>
    rw [List.forall_mem_cons] at hl ⊢
    exact ⟨oits_ok ho hl.1, hl.2⟩
  | cons a _ ih =>
    rw [List.forall_mem_cons] at hl ⊢
    exact ⟨hl.1, ih hl.2⟩
  | trans _ _ ih1 ih2 => exact ih2 (ih1 hl)

/-- a counting predicate that does not see comments and does not look inside the outline -/
def Blind (p : BIt → Bool) : Prop := p .comment = false ∧ ∀ its its', p (.outline its) = p (.outline its')

theorem items_count {p : BIt → Bool} (hp : Blind p) {l l' : List BIt} (h : ItemsPerm l l') : l'.countP p = l.countP p := by
  induction h with
  | refl => rfl
  | swap a b l _ => simp only [List.countP_cons]; omega
  | comment l => simp [hp.1]
  | @outline its its' l _ => simp only [List.countP_cons, hp.2 its' its]
  | cons a _ ih => simp only [List.countP_cons, ih]
  | trans _ _ ih1 ih2 => rw [ih2, ih1]

theorem legalItems_perm {ok : Nat → Prop} {l l' : List BIt} (h : ItemsPerm l l') (hL : LegalItems ok l) : LegalItems ok l' :=
  have cnt {p : BIt → Bool} (hp : Blind p) (hc : l.countP p ≤ 1) : l'.countP p ≤ 1 := items_count hp h ▸ hc
  { valid := items_ok h hL.valid
    ids := (items_ids h).nodup_iff.1 hL.ids
    advance := cnt ⟨rfl, fun _ _ => rfl⟩ hL.advance
    outline := cnt ⟨rfl, fun _ _ => rfl⟩ hL.outline
    lib := cnt ⟨rfl, fun _ _ => rfl⟩ hL.lib
    note := cnt ⟨rfl, fun _ _ => rfl⟩ hL.note
    image := cnt ⟨rfl, fun _ _ => rfl⟩ hL.image }

theorem interp_perm (nc : Color → Color) (libD : Dict) (d : GlyphD) {items : List BIt} (h : ItemsPerm (itemsOf libD d) items)
    (pro tr : List Ev) (minor : Bool) :
    interp nc { prolog := pro, name := L d.name, minor := minor, items := items, trailer := tr } = glyphOf nc libD d := by
  rw [← interp_gdocOf]
  unfold interp gdocOf
  rw [foldl_applyB_g, foldl_applyB_g]
  exact items_fold nc h _

theorem evsPerm_refl : ∀ l : List Ev, EvsPerm l l
  | [] => .nil
  | e :: r => .cons (.refl e) (evsPerm_refl r)

section
variable {F : Fmt} {rd : Str → Option Nat} {nc : Color → Color} {ok : Nat → Prop}

/-- **any element order, comments anywhere, any attribute order**, in the grammar's rendering (defaults left out as norad's
    writer leaves them out; a free choice per default is `C05Mixed`): accepted, same glyph -/
theorem parse_any_order (hF : Codec F rd nc ok) (libD : Dict) (d : GlyphD) (hd : DescLegal ok nc d)
    {items : List BIt} (hi : ItemsPerm (itemsOf libD d) items)
    (pro tr : List Ev) (minor : Bool) (hp : ∀ e, e ∈ pro → isProlog e = true)
    (hol : ∀ v, dictGet objectLibsKey (glyphOf nc libD d).lib = some v → ∃ ol, v = PV.dict ol ∧ AllDicts ol)
    {evs : List Ev}
    (hperm : EvsPerm (render F { prolog := pro, name := L d.name, minor := minor, items := items, trailer := tr }) evs) :
    ∃ g, parseGlif rd evs = .ok g ∧ loadObjectLibs (glyphOf nc libD d) = .ok g := by
  have hI := interp_perm nc libD d hi pro tr minor
  have := legal_accepted hF { prolog := pro, name := L d.name, minor := minor, items := items, trailer := tr }
    hp hd.name (legalItems_perm hi (legalItems_of_descLegal libD hd)) (by rw [hI]; exact hol) hperm
  rwa [hI] at this

/-- the element order of `specWrite` itself -/
theorem parse_other_spellings (hF : Codec F rd nc ok) (libD : Dict) (d : GlyphD) (hd : DescLegal ok nc d)
    (pro tr : List Ev) (minor : Bool) (hp : ∀ e, e ∈ pro → isProlog e = true)
    (hol : ∀ v, dictGet objectLibsKey (glyphOf nc libD d).lib = some v → ∃ ol, v = PV.dict ol ∧ AllDicts ol)
    {evs : List Ev}
    (hperm : EvsPerm (render F { prolog := pro, name := L d.name, minor := minor, items := itemsOf libD d, trailer := tr }) evs) :
    ∃ g, parseGlif rd evs = .ok g ∧ loadObjectLibs (glyphOf nc libD d) = .ok g :=
  parse_any_order hF libD d hd (.refl _) pro tr minor hp hol hperm

end
end C05Bridge
