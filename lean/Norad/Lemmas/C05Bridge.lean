import Norad.Lemmas.C02
import Norad.Lemmas.C05
/-!
# Bridge between the independent UFO 3 vocabulary (C05) and the glif builder's models of norad (C02 / C12)

`Glif.encodeGlif` / `Glif.parseGlif` (Model/GlifWrite.lean, Model/Glif.lean) work on quick-xml event lists with
`List Char` names; `Ufo3.specRead` / `Ufo3.specWrite` (Spec/Ufo3Read.lean) on generic XML trees with `String` names taken
from `Ufo3Vocab`.  This file connects them in both directions: norad's encoder read by the specification's reader (`encTree`:
the tree of what the encoder writes, `spec_reads_*`), the specification's writer read by norad's attribute parsers
(`norad_parses_*`).
-/
namespace C05Bridge
open Ufo3 Glif

abbrev S (s : Str) : String := String.ofList s
def attrsS (as : List Attr) : List (String × String) := as.map fun a => (S a.1, S a.2)
def attrsL (as : List (String × String)) : List Attr := as.map fun a => (a.1.toList, a.2.toList)

@[simp] theorem toList_S (s : Str) : (S s).toList = s := by simp [S]
@[simp] theorem attrsL_attrsS (as : List Attr) : attrsL (attrsS as) = as := by
  induction as with
  | nil => rfl
  | cons a r ih => simp [attrsL, attrsS] at ih ⊢; exact ih

@[simp] theorem attrsS_nil : attrsS [] = [] := rfl
@[simp] theorem attrsS_cons (a : Attr) (r : List Attr) : attrsS (a :: r) = (S a.1, S a.2) :: attrsS r := rfl
@[simp] theorem attrsS_append (a b : List Attr) : attrsS (a ++ b) = attrsS a ++ attrsS b := by simp [attrsS]

theorem allowed_nil (el : String) : allowed el [] = true := Ufo3.allowed_nil el

theorem S_isEmpty (s : Str) : (S s).isEmpty = s.isEmpty := by
  cases s <;> simp [S]

theorem S_toList (k : String) : S k.toList = k := String.ofList_toList

/-! instances of `S_toList` for `simp`: unfolding `sGlyph` … next to `String.ofList` makes `whnf` evaluate the literal -/
@[simp] theorem S_sGlyph : S sGlyph = "glyph" := S_toList _
@[simp] theorem S_sOutline : S sOutline = "outline" := S_toList _
@[simp] theorem S_sLib : S sLib = "lib" := S_toList _
@[simp] theorem S_sNote : S sNote = "note" := S_toList _
@[simp] theorem S_sAdvance : S sAdvance = "advance" := S_toList _
@[simp] theorem S_sUnicode : S sUnicode = "unicode" := S_toList _
@[simp] theorem S_sAnchor : S sAnchor = "anchor" := S_toList _
@[simp] theorem S_sGuideline : S sGuideline = "guideline" := S_toList _
@[simp] theorem S_sImage : S sImage = "image" := S_toList _
@[simp] theorem S_sContour : S sContour = "contour" := S_toList _
@[simp] theorem S_sComponent : S sComponent = "component" := S_toList _
@[simp] theorem S_sPoint : S sPoint = "point" := S_toList _
@[simp] theorem S_sHex : S sHex = "hex" := S_toList _

def leaf (n : Str) (as : List Attr) : XNode := .elem (S n) (attrsS as) [] ""

/-- what is assumed of the independent lexer on the strings norad's number formatting produces
    (the counterpart of `Glif.Codec`, which assumes the same of Rust's own `parse`) -/
structure LexCodec (f : Fmt) (lx : Lex) (nc : Color → Color) (ok : Nat → Prop) : Prop where
  num : ∀ b, ok b → lx.nums (S (f.shw b)) = some [b]
  col : ∀ c, lx.nums (S (showColor f c)) = some [(nc c).r, (nc c).g, (nc c).b, (nc c).a]
  hex : ∀ c, ValidCodepoint c → lx.hex (S (showCodepoint c)) = some c

def colD (c : Color) : ColorD := ⟨c.r, c.g, c.b, c.a⟩
def affD (t : Transform) : Affine Nat := ⟨t.xScale, t.xyScale, t.yxScale, t.yScale, t.xOffset, t.yOffset⟩

def descAnchor (a : Anchor) : AnchorD := ⟨a.x, a.y, a.name.map S, a.color.map colD, a.ident.map S⟩

def descGuideline (g : Guideline) : GuidelineD :=
  match g.line with
  | .vertical x => ⟨some x, none, none, g.name.map S, g.color.map colD, g.ident.map S⟩
  | .horizontal y => ⟨none, some y, none, g.name.map S, g.color.map colD, g.ident.map S⟩
  | .angle x y d => ⟨some x, some y, some d, g.name.map S, g.color.map colD, g.ident.map S⟩

def descPT : C11.PT → PType
  | .move => .move | .line => .line | .off => .offcurve | .curve => .curve | .qcurve => .qcurve

def descPoint (p : Point) : PointD := ⟨p.x, p.y, descPT p.typ, p.smooth, p.name.map S, p.ident.map S⟩
def descContour (c : Contour) : ContourD := ⟨c.ident.map S, c.points.map descPoint⟩
def descComponent (k : Component) : ComponentD := ⟨S k.base, affD k.transform, k.ident.map S⟩
def descImage (i : Image) : ImageD := ⟨S i.fileName, affD i.transform, i.color.map colD⟩

/-- `showLib` renders a property list canonically -/
def descGlyph (showLib : Dict → String) (g : Glyph) : GlyphD :=
  { name := S g.name, width := g.width, height := g.height, unicodes := g.codepoints, note := g.note.map S,
    image := g.image.map descImage, guidelines := g.guidelines.map descGuideline,
    anchors := g.anchors.map descAnchor, contours := g.contours.map descContour,
    components := g.components.map descComponent,
    lib := if g.lib.isEmpty then none else some (showLib g.lib) }

theorem attrsS_optAttr (k : String) (o : Option Str) : attrsS (optAttr k o) = optA k (o.map S) := by
  cases o <;> simp [optAttr, optA, attrsS]

theorem attrsS_ite (c : Prop) [Decidable c] (a b : List Attr) :
    attrsS (if c then a else b) = if c then attrsS a else attrsS b := by split <;> rfl

theorem lookup_ite (c : Prop) [Decidable c] (a b : List (String × String)) (k : String) :
    (if c then a else b).lookup k = if c then a.lookup k else b.lookup k := by split <;> rfl

theorem allowed_ite (el : String) (c : Prop) [Decidable c] (a b : List (String × String)) :
    allowed el (if c then a else b) = if c then allowed el a else allowed el b := by split <;> rfl

section
variable {f : Fmt} {lx : Lex} {nc : Color → Color} {ok : Nat → Prop}

attribute [local simp] List.lookup_append List.lookup allowed_append allowed_cons allowed_nil allowed_optA lookup_ite
  allowed_ite

/-- what `Anchor::to_event` writes, read under the specification's names, is the anchor norad's own parser builds
    (`pAnchor`, cf. `Glif.anchor_roundtrip`); likewise the other elements below -/
theorem spec_reads_anchor (hc : LexCodec f lx nc ok) {a : Anchor} (hx : ok a.x) (hy : ok a.y) :
    readAnchor lx (leaf sAnchor (anchorAttrs f a)) = some (descAnchor (pAnchor nc a)) := by
  simp only [leaf, S_sAnchor, anchorAttrs, attrsS_append, attrsS_cons, attrsS_nil, attrsS_optAttr, S_toList]
  exact readAnchor_of lx (by simp [attrNames_anchor]) (numReq_eq lx (by simp; rfl) (hc.num _ hx))
    (numReq_eq lx (by simp; rfl) (hc.num _ hy))
    (colorOpt_eq lx (o := a.color) (fun x => colD (nc x)) (by simp [Option.map_map, Function.comp_def])
      (by simp [descAnchor, pAnchor, Option.map_map, Function.comp_def]) fun x _ => hc.col x)
    (by simp [descAnchor, pAnchor]) (by simp [descAnchor, pAnchor])

theorem spec_reads_guideline_parts (hc : LexCodec f lx nc ok) (x y d : Option Nat) (name : Option Str)
    (color : Option Color) (ident : Option Str) (hx : ∀ v, x = some v → ok v) (hy : ∀ v, y = some v → ok v)
    (hd : ∀ v, d = some v → ok v) :
    readGuideline lx (.elem "guideline" (optA "name" (name.map S) ++
        (optA "x" (x.map fun v => S (f.shw v)) ++ optA "y" (y.map fun v => S (f.shw v)) ++
          optA "angle" (d.map fun v => S (f.shw v))) ++
        optA "color" ((color.map (showColor f)).map S) ++ optA "identifier" (ident.map S)) [] "") =
      some ⟨x, y, d, name.map S, (color.map nc).map colD, ident.map S⟩ :=
  readGuideline_of lx (by simp [attrNames_guideline]) (numOpt_eq lx (by simp) fun v h => hc.num _ (hx v h))
    (numOpt_eq lx (by simp) fun v h => hc.num _ (hy v h)) (numOpt_eq lx (by simp) fun v h => hc.num _ (hd v h))
    (colorOpt_eq lx (o := color) (fun x => colD (nc x)) (by simp [Option.map_map, Function.comp_def])
      (by simp [Option.map_map, Function.comp_def]) fun x _ => hc.col x) (by simp) (by simp)

theorem spec_reads_guideline (hc : LexCodec f lx nc ok) {g : Guideline}
    (hl : match g.line with
      | .vertical x => ok x
      | .horizontal y => ok y
      | .angle x y d => ok x ∧ ok y ∧ ok d ∧ angleOk d = true) :
    readGuideline lx (leaf sGuideline (guidelineAttrs f g)) = some (descGuideline (pGuideline nc g)) := by
  obtain ⟨line, name, color, ident, lib⟩ := g
  simp only [leaf, S_sGuideline, guidelineAttrs, attrsS_append, attrsS_optAttr]
  cases line with
  | vertical x =>
    exact spec_reads_guideline_parts hc (some x) none none name color ident (fun _ h => Option.some.inj h ▸ hl) nofun nofun
  | horizontal y =>
    exact spec_reads_guideline_parts hc none (some y) none name color ident nofun (fun _ h => Option.some.inj h ▸ hl) nofun
  | angle x y d =>
    -- the range of the angle plays no part in reading it (`hl` is `GuidelineOK.line` as it stands)
    obtain ⟨hx, hy, hd, -⟩ := hl
    exact spec_reads_guideline_parts hc (some x) (some y) (some d) name color ident (fun _ h => Option.some.inj h ▸ hx)
      (fun _ h => Option.some.inj h ▸ hy) (fun _ h => Option.some.inj h ▸ hd)

theorem attrsS_pointTypeAttr (t : C11.PT) :
    attrsS (pointTypeAttr t) = optA "type" (if descPT t = .offcurve then none else some (descPT t).str) := by
  cases t <;> simp [pointTypeAttr, descPT, PType.str, optA]

/-- an off-curve point is written without `type`, a point that is not smooth without `smooth`, and the reader's
    defaults give both back -/
theorem spec_reads_point (hc : LexCodec f lx nc ok) {p : Point} (hx : ok p.x) (hy : ok p.y) :
    readPoint lx (leaf sPoint (pointAttrs f p)) = some (descPoint (pPoint p)) := by
  simp only [leaf, S_sPoint, pointAttrs, attrsS_append, attrsS_cons, attrsS_nil, attrsS_optAttr, attrsS_ite,
    attrsS_pointTypeAttr, S_toList]
  refine readPoint_of lx (by simp [attrNames_point]) (numReq_eq lx (by simp; rfl) (hc.num _ hx))
    (numReq_eq lx (by simp; rfl) (hc.num _ hy)) (readPType_eq ?_) (readSmooth_eq ?_) (by simp [descPoint, pPoint])
    (by simp [descPoint, pPoint])
  · by_cases h : descPT p.typ = .offcurve <;> simp [descPoint, pPoint, h]
  · cases h : p.smooth <;> simp [descPoint, pPoint, h]

/-- an attribute the encoder writes under a gate, read with the specification's default, gives `if gate then v else default`:
    exactly `normT`.  `hpre`, `hpost`: the six stand between attributes of other names. -/
theorem spec_reads_transform (hc : LexCodec f lx nc ok) {t : Transform} (ht : OkT ok t)
    (pre post : List (String × String)) (hpre : ∀ k ∈ Ufo3.transformAttrs, pre.lookup k = none)
    (hpost : ∀ k ∈ Ufo3.transformAttrs, post.lookup k = none) :
    readTransform lx (pre ++ attrsS (Glif.transformAttrs f t) ++ post) = some (affD (normT t)) := by
  have l (k : String) (hk : k ∈ Ufo3.transformAttrs := by simp [Ufo3.transformAttrs]) :
      (pre ++ attrsS (Glif.transformAttrs f t) ++ post).lookup k = (attrsS (Glif.transformAttrs f t)).lookup k := by
    simp only [List.lookup_append, hpre k hk, hpost k hk, Option.none_or, Option.or_none]
  simp only [Glif.transformAttrs, attrsS_append, attrsS_cons, attrsS_nil, attrsS_ite, S_toList] at l ⊢
  -- the specification's defaults meet the model's here, by unfolding: `oneBits` is `f64One`, `zeroBits` is `0` (`normT`)
  exact readTransform_of lx
    (numDflt_gate lx _ ((l "xScale").trans (by simp)) fun _ => hc.num _ (ht.get .xScale))
    (numDflt_gate lx _ ((l "xyScale").trans (by simp)) fun _ => hc.num _ (ht.get .xyScale))
    (numDflt_gate lx _ ((l "yxScale").trans (by simp)) fun _ => hc.num _ (ht.get .yxScale))
    (numDflt_gate lx _ ((l "yScale").trans (by simp)) fun _ => hc.num _ (ht.get .yScale))
    (numDflt_gate lx _ ((l "xOffset").trans (by simp)) fun _ => hc.num _ (ht.get .xOffset))
    (numDflt_gate lx _ ((l "yOffset").trans (by simp)) fun _ => hc.num _ (ht.get .yOffset))

theorem transform_allowed (el : String) (hel : ∀ k ∈ Ufo3.transformAttrs, k ∈ attrNames el)
    (t : Transform) : allowed el (attrsS (Glif.transformAttrs f t)) = true := by
  have h (k : String) (hk : k ∈ Ufo3.transformAttrs := by simp [Ufo3.transformAttrs]) := hel k hk
  simp only [Glif.transformAttrs, attrsS_append, attrsS_cons, attrsS_nil, attrsS_ite, S_toList]
  simp [h "xScale", h "xyScale", h "yxScale", h "yScale", h "xOffset", h "yOffset"]

theorem transform_lookup_other (k : String) (hk : k ∉ Ufo3.transformAttrs) (t : Transform) :
    (attrsS (Glif.transformAttrs f t)).lookup k = none := by
  have b (s : String) (h : s ∈ Ufo3.transformAttrs := by simp [Ufo3.transformAttrs]) : (k == s) = false :=
    beq_false_of_ne fun e => hk (e ▸ h)
  simp only [Glif.transformAttrs, attrsS_append, attrsS_cons, attrsS_nil, attrsS_ite, S_toList]
  simp [b "xScale", b "xyScale", b "yxScale", b "yScale", b "xOffset", b "yOffset"]

theorem spec_reads_component (hc : LexCodec f lx nc ok) {k : Component} (ht : OkT ok k.transform) :
    readComponent lx (leaf sComponent (componentAttrs f k)) = some (descComponent (pComponent k)) := by
  simp only [leaf, S_sComponent, componentAttrs, attrsS_append, attrsS_cons, attrsS_nil, attrsS_optAttr, S_toList]
  exact readComponent_of lx
    (by simp [attrNames_component, transform_allowed (f := f) "component" (by simp [attrNames_component, Ufo3.transformAttrs])])
    (by simp; rfl) (spec_reads_transform hc ht _ _ (by simp [Ufo3.transformAttrs]) (by simp [Ufo3.transformAttrs]))
    (by simp [transform_lookup_other (f := f) "identifier" (by simp [Ufo3.transformAttrs]), descComponent, pComponent])

theorem spec_reads_image (hc : LexCodec f lx nc ok) {i : Image} (ht : OkT ok i.transform) :
    readImage lx (leaf sImage (imageAttrs f i)) = some (descImage (pImage nc i)) := by
  simp only [leaf, S_sImage, imageAttrs, attrsS_append, attrsS_cons, attrsS_nil, attrsS_optAttr, S_toList]
  exact readImage_of lx
    (by simp [attrNames_image, transform_allowed (f := f) "image" (by simp [attrNames_image, Ufo3.transformAttrs])])
    (by simp; rfl) (spec_reads_transform hc ht _ _ (by simp [Ufo3.transformAttrs]) (by simp [Ufo3.transformAttrs]))
    (colorOpt_eq lx (o := i.color) (fun x => colD (nc x))
      (by simp [transform_lookup_other (f := f) "color" (by simp [Ufo3.transformAttrs]), Option.map_map, Function.comp_def])
      (by simp [descImage, pImage, Option.map_map, Function.comp_def]) fun x _ => hc.col x)

/-- `±0` is not written and the reader's default gives `0` -/
theorem spec_reads_advance (hc : LexCodec f lx nc ok) {w h : Nat} (hw : ok w) (hh : ok h) :
    readAdvance lx (leaf sAdvance (advanceAttrs f w h)) =
      some (if nonZero w then w else 0, if nonZero h then h else 0) := by
  simp only [leaf, S_sAdvance, advanceAttrs, attrsS_append, attrsS_cons, attrsS_nil, attrsS_ite, S_toList]
  exact readAdvance_of lx (by simp [attrNames_advance]) (numDflt_gate lx _ (by simp) fun _ => hc.num _ hw)
    (numDflt_gate lx _ (by simp) fun _ => hc.num _ hh)

theorem spec_reads_unicode (hc : LexCodec f lx nc ok) {c : Nat} (hv : ValidCodepoint c) :
    readUnicode lx (leaf sUnicode [(sHex, showCodepoint c)]) = some c := by
  simp [readUnicode, leaf, allowed, attrNames_unicode, List.lookup, hc.hex c hv]

def contourNode (f : Fmt) (c : Contour) : XNode :=
  .elem "contour" (attrsS (optAttr "identifier" c.ident)) (c.points.map fun p => leaf sPoint (pointAttrs f p)) ""

theorem spec_reads_contour (hc : LexCodec f lx nc ok) {c : Contour} (hp : ∀ p, p ∈ c.points → ok p.x ∧ ok p.y) :
    readContour lx (contourNode f c) = some (descContour (pContour c)) := by
  have hm := mapM_map_some_mem (readPoint lx) (fun p => leaf sPoint (pointAttrs f p)) (descPoint ∘ pPoint) c.points
    fun p h => spec_reads_point hc (hp p h).1 (hp p h).2
  simp [readContour, contourNode, attrsS_optAttr, attrNames_contour, hm, descContour, pContour]

def outlineNode (f : Fmt) (g : Glyph) : XNode :=
  .elem "outline" [] (g.contours.map (contourNode f) ++ g.components.map (fun k => leaf sComponent (componentAttrs f k))) ""

/-- the tree of what `encode_xml` writes, assembled from the encoder's own attribute functions; of the lib only the text
    `showLib` gives (the plist itself is compared elsewhere) -/
def encTree (f : Fmt) (showLib : Dict → String) (g : Glyph) : XNode :=
  .elem "glyph" (attrsS [("name".toList, g.name), ("format".toList, ['2'])])
    (g.codepoints.map (fun c => leaf sUnicode [(sHex, showCodepoint c)]) ++
     (if isNormal g.width || isNormal g.height then [leaf sAdvance (advanceAttrs f g.width g.height)] else []) ++
     (match g.image with | some i => [leaf sImage (imageAttrs f i)] | none => []) ++
     (if !g.contours.isEmpty || !g.components.isEmpty then [outlineNode f g] else []) ++
     g.anchors.map (fun a => leaf sAnchor (anchorAttrs f a)) ++
     g.guidelines.map (fun a => leaf sGuideline (guidelineAttrs f a)) ++
     (if (writtenLib g).isEmpty then [] else [.elem "lib" [] [] (showLib (reindentDict f.indent (writtenLib g)))]) ++
     (match g.note with | some n => [.elem "note" [] [] (S (trimText n))] | none => [])) ""

/-! the canonical event list of a glif tree: content-free elements self-closed, `outline` / `contour` / `note` /
`lib` / `glyph` with start and end tag, the lib as the plist verdict on its text -/

def leafEv : XNode → Ev
  | .elem t as _ _ => .empty t.toList (some (attrsL as))

def contourEvsOf : XNode → List Ev
  | .elem t as kids _ => .start t.toList (some (attrsL as)) :: (kids.map leafEv ++ [.close t.toList])

def outlineChildEvs (n : XNode) : List Ev := if n.tag = "contour" then contourEvsOf n else [leafEv n]

def glyphChildEvs (readLib : String → LibV) : XNode → List Ev
  | .elem t as kids text =>
    if t = "outline" then .start t.toList (some (attrsL as)) :: (kids.flatMap outlineChildEvs ++ [.close t.toList])
    else if t = "lib" then [.startLib (some (attrsL as)) (readLib text), .close t.toList]
    else if t = "note" then
      .start t.toList (some (attrsL as)) :: ((if text.isEmpty then [] else [.text (some text.toList)]) ++ [.close t.toList])
    else [.empty t.toList (some (attrsL as))]

def eventsOf (readLib : String → LibV) : XNode → List Ev
  | .elem t as kids _ =>
    .decl :: .start t.toList (some (attrsL as)) :: (kids.flatMap (glyphChildEvs readLib) ++ [.close t.toList])

def kidsOf : XNode → List XNode
  | .elem _ _ kids _ => kids

theorem toList_glyph : "glyph".toList = sGlyph := rfl
theorem toList_outline : "outline".toList = sOutline := rfl
theorem toList_contour : "contour".toList = sContour := rfl
theorem toList_lib : "lib".toList = sLib := rfl
theorem toList_note : "note".toList = sNote := rfl

theorem tag_leaf (n : Str) (as : List Attr) : (leaf n as).tag = S n := rfl
@[simp] theorem tag_contourNode (f : Fmt) (c : Contour) : (contourNode f c).tag = "contour" := rfl
@[simp] theorem tag_outlineNode (f : Fmt) (g : Glyph) : (outlineNode f g).tag = "outline" := rfl

theorem leafEv_leaf (n : Str) (as : List Attr) : leafEv (leaf n as) = .empty n (some as) := by
  simp [leafEv, leaf]

theorem glyphChildEvs_leaf (rl : String → LibV) {t : String} (as : List (String × String)) (kids : List XNode) (x : String)
    (ht : ["outline", "lib", "note"].contains t = false) :
    glyphChildEvs rl (.elem t as kids x) = [.empty t.toList (some (attrsL as))] := by
  simp only [List.contains_cons, List.contains_nil, Bool.or_false, Bool.or_eq_false_iff, beq_eq_false_iff_ne, ne_eq] at ht
  obtain ⟨hOutline, hLib, hNote⟩ := ht
  simp only [glyphChildEvs, if_neg hOutline, if_neg hLib, if_neg hNote]

theorem childEvs_leaf (rl : String → LibV) (n : Str) (as : List Attr)
    (ht : ["outline", "lib", "note"].contains (S n) = false) :
    glyphChildEvs rl (leaf n as) = [.empty n (some as)] := by
  rw [leaf, glyphChildEvs_leaf rl _ _ _ ht, toList_S, attrsL_attrsS]

theorem childEvs_lib (rl : String → LibV) (text : String) :
    glyphChildEvs rl (.elem "lib" [] [] text) = [.startLib (some []) (rl text), .close sLib] := by
  simp [glyphChildEvs, toList_lib, attrsL]

theorem childEvs_note (rl : String → LibV) (text : String) :
    glyphChildEvs rl (.elem "note" [] [] text) =
      .start sNote (some []) :: ((if text.isEmpty then [] else [.text (some text.toList)]) ++ [.close sNote]) := by
  simp [glyphChildEvs, toList_note, attrsL]

theorem contourEvsOf_node (f : Fmt) (c : Contour) : contourEvsOf (contourNode f c) = contourEvs f c := by
  simp [contourEvsOf, contourNode, contourEvs, toList_contour, List.map_map, Function.comp_def, leafEv_leaf, pointEv]

theorem outlineChildEvs_contours (f : Fmt) (cs : List Contour) :
    (cs.map (contourNode f)).flatMap outlineChildEvs = cs.flatMap (contourEvs f) := by
  rw [List.flatMap_map]
  exact congrArg (List.flatMap · cs) (funext fun c => (if_pos rfl).trans (contourEvsOf_node f c))

theorem outlineChildEvs_components (f : Fmt) (ks : List Component) :
    (ks.map (fun k => leaf sComponent (componentAttrs f k))).flatMap outlineChildEvs = ks.map (componentEv f) := by
  rw [List.flatMap_map, List.map_eq_flatMap]
  exact congrArg (List.flatMap · ks) (funext fun k => by simp [outlineChildEvs, tag_leaf, leafEv_leaf, componentEv])

theorem childEvs_map_leaf {α : Type} (rl : String → LibV) (n : Str) (w : α → List Attr) (l : List α)
    (ht : ["outline", "lib", "note"].contains (S n) = false) :
    (l.map fun x => leaf n (w x)).flatMap (glyphChildEvs rl) = l.map fun x => Ev.empty n (some (w x)) := by
  rw [List.flatMap_map, List.map_eq_flatMap]
  exact congrArg (List.flatMap · l) (funext fun x => childEvs_leaf rl n (w x) ht)

theorem events_of_encTree (f : Fmt) (showLib : Dict → String) (readLib : String → LibV)
    (hl : ∀ d, readLib (showLib d) = .dict d) (g : Glyph) :
    eventsOf readLib (encTree f showLib g) = encodeGlif f g := by
  have hU := childEvs_map_leaf readLib sUnicode (fun c => [(sHex, showCodepoint c)]) g.codepoints
    (by simp)
  have hA := childEvs_map_leaf readLib sAnchor (anchorAttrs f) g.anchors (by simp)
  have hG := childEvs_map_leaf readLib sGuideline (guidelineAttrs f) g.guidelines (by simp)
  have hAdv := childEvs_leaf readLib sAdvance (advanceAttrs f g.width g.height) (by simp)
  have hO : glyphChildEvs readLib (outlineNode f g) =
      .start sOutline (some []) :: (g.contours.flatMap (contourEvs f) ++ g.components.map (componentEv f) ++ [.close sOutline]) := by
    simp [glyphChildEvs, outlineNode, toList_outline, attrsL, List.flatMap_append, outlineChildEvs_contours,
          outlineChildEvs_components]
  have hImg := fun i => childEvs_leaf readLib sImage (imageAttrs f i) (by simp)
  have gate : ∀ (c : Prop) [Decidable c] (n : XNode),
      (if c then [n] else []).flatMap (glyphChildEvs readLib) = if c then glyphChildEvs readLib n else [] := by
    intro c _ n; split <;> simp
  have gate' : ∀ (c : Prop) [Decidable c] (n : XNode),
      (if c then [] else [n]).flatMap (glyphChildEvs readLib) = if c then [] else glyphChildEvs readLib n := by
    intro c _ n; split <;> simp
  unfold encodeGlif encTree eventsOf
  simp only [List.flatMap_append, hU, hA, hG, toList_glyph, attrsL_attrsS, gate, gate', hAdv, hO, childEvs_lib, hl]
  -- the image and the note are written by a `match`: with or without each, the two event lists are the same list
  cases g.image <;> cases g.note <;>
    simp [hImg, childEvs_note, S_isEmpty, imageEv, List.append_assoc] <;> rfl

theorem reindentDict_isEmpty (ind : Str) (d : Dict) : (reindentDict ind d).isEmpty = d.isEmpty := by
  cases d with
  | nil => simp [reindentDict]
  | cons a r => obtain ⟨k, v⟩ := a; simp [reindentDict]

theorem spec_reads_outline (hc : LexCodec f lx nc ok) {g : Glyph}
    (hcs : ∀ c, c ∈ g.contours → ContourOK' ok c) (hks : ∀ k, k ∈ g.components → ComponentOK ok k) :
    readOutline lx (outlineNode f g) =
      some (g.contours.map (fun c => descContour (pContour c)), g.components.map (fun k => descComponent (pComponent k))) := by
  have hc' := mapM_map_some_mem (readContour lx) (contourNode f) (fun c => descContour (pContour c)) g.contours
    (fun c hcm => spec_reads_contour hc (fun p hp => ⟨((hcs c hcm).points p hp).x, ((hcs c hcm).points p hp).y⟩))
  have hk' := mapM_map_some_mem (readComponent lx) (fun k => leaf sComponent (componentAttrs f k))
    (fun k => descComponent (pComponent k)) g.components (fun k hkm => spec_reads_component hc (hks k hkm).transform)
  simp [readOutline, outlineNode, List.all_append, List.filter_append, filter_hasTag_map, filter_true, filter_false,
    tag_leaf, hc', hk']

/-- `hne`: a contour WITHOUT points is written as `<contour></contour>`, which the independent reader reports as an empty
    contour while norad's parser drops it (`keepContours` in `preG`) -/
theorem spec_reads_encTree (hc : LexCodec f lx nc ok) (showLib : Dict → String) {g : Glyph} (hv : ValidGlyph ok g)
    (hnote : ∀ n, g.note = some n → (trimText n).isEmpty = false)
    (hne : ∀ c, c ∈ g.contours → c.points ≠ []) :
    specRead lx (encTree f showLib g) = some (descGlyph showLib (preG f nc g)) := by
  have mU := mapM_map_some_mem (readUnicode lx) (fun c : Nat => leaf sUnicode [(sHex, showCodepoint c)]) id g.codepoints
    (fun c hcm => spec_reads_unicode hc (hv.codepoints c hcm))
  have mA := mapM_map_some_mem (readAnchor lx) (fun a => leaf sAnchor (anchorAttrs f a)) (fun a => descAnchor (pAnchor nc a))
    g.anchors (fun a ham => spec_reads_anchor hc (hv.anchors a ham).x (hv.anchors a ham).y)
  have mG := mapM_map_some_mem (readGuideline lx) (fun a => leaf sGuideline (guidelineAttrs f a))
    (fun a => descGuideline (pGuideline nc a)) g.guidelines (fun a ham => spec_reads_guideline hc (hv.guidelines a ham).line)
  -- the two optional children that `encTree` writes by a `match`, as mapped lists like the other families
  have hI : (match g.image with | some i => [leaf sImage (imageAttrs f i)] | none => []) =
      g.image.toList.map fun i => leaf sImage (imageAttrs f i) := by cases g.image <;> rfl
  have hN : (match g.note with | some n => [XNode.elem "note" [] [] (S (trimText n))] | none => []) =
      g.note.toList.map fun n => XNode.elem "note" [] [] (S (trimText n)) := by cases g.note <;> rfl
  simp only [specRead, encTree, hI, hN]
  -- filtering the children by a tag picks that tag's family
  simp only [List.filter_append, filter_hasTag_map, filter_hasTag_ite, filter_hasTag_cons, List.filter_nil, tag_elem, tag_leaf,
    tag_outlineNode, S_sUnicode, S_sAdvance, S_sImage, S_sAnchor, S_sGuideline, String.reduceEq, if_true, if_false,
    decide_true, decide_false, filter_true, filter_false, List.map_nil, List.append_nil, List.nil_append, ite_self]
  rw [if_pos]
  · simp [mU, mA, mG, apply_ite (atMostOne _), ← apply_ite some, atMostOne_nil, atMostOne_one, spec_reads_advance hc hv.width hv.height,
      spec_reads_outline hc hv.contours hv.components, readLib,
      atMostOne_toList _ _ _ _ (fun i hi => spec_reads_image hc (hv.image i hi).transform),
      atMostOne_toList readNote (fun n => XNode.elem "note" [] [] (S (trimText n))) (fun n => S (trimText n)) _ (fun _ _ => rfl),
      descGlyph, preG, zeroBits, reindentDict_isEmpty, keepContours_of_nonempty hne]
    -- left: where no `advance` / `outline` element is written the advance is 0 and the outline lists are empty; the note
    refine ⟨?width, ?height, ?note, rfl, ?contours, ?components⟩
    case width => split <;> rfl
    case height => split <;> rfl
    case note =>
      cases hn : g.note with
      | none => rfl
      | some n => simp [pNote, hnote n hn]
    case contours => split <;> simp_all [Function.comp_def]
    case components => split <;> simp_all [Function.comp_def]
  · refine ⟨trivial, by simp [attrNames_glyph], by simp [List.lookup], by simp [List.lookup], ?_⟩
    have all_ite (c : Prop) [Decidable c] (a b : List XNode) (p : XNode → Bool) :
        (if c then a else b).all p = if c then a.all p else b.all p := by split <;> rfl
    simp only [List.all_append, List.all_map, Function.comp_def, all_ite, List.all_cons, List.all_nil, tag_leaf, tag_elem,
      tag_outlineNode, childTag (S sUnicode), childTag (S sGuideline), childTag (S sAnchor), childTag (S sImage),
      childTag (S sAdvance), childTag "outline", childTag "lib", childTag "note"]
    simp

end

/-! `Ufo3.specWrite` spells every attribute out (also the defaults: `type="offcurve"`, `smooth="no"`, all six coefficients, both
advance attributes), in its own order. -/

/-- what is assumed of Rust's `str::parse::<f64>` / `Color::from_str` / `from_str_radix` on the strings the
    specification-level renderer produces (the counterpart of `LexCodec`) -/
structure ParseCodec (rd : Str → Option Nat) (rdr : Render) (ok : Nat → Prop) : Prop where
  num : ∀ n, ok n → rd (rdr.nums [n]).toList = some n
  col : ∀ c : ColorD, (ok c.r ∧ unitOk c.r = true) → (ok c.g ∧ unitOk c.g = true) → (ok c.b ∧ unitOk c.b = true) →
    (ok c.a ∧ unitOk c.a = true) → readCol rd (rdr.nums [c.r, c.g, c.b, c.a]).toList = some ⟨c.r, c.g, c.b, c.a⟩
  hex : ∀ c, ValidCodepoint c → parseHex (rdr.hex c).toList = some c

def nodeAttrs : XNode → List Attr
  | .elem _ as _ _ => attrsL as

def L (s : String) : Str := s.toList
def colG (c : ColorD) : Color := ⟨c.r, c.g, c.b, c.a⟩
def trG (t : Affine Nat) : Transform := ⟨t.xScale, t.xyScale, t.yxScale, t.yScale, t.xOffset, t.yOffset⟩
def okColor (ok : Nat → Prop) (c : Option ColorD) : Prop :=
  ∀ x, c = some x → (ok x.r ∧ unitOk x.r = true) ∧ (ok x.g ∧ unitOk x.g = true) ∧ (ok x.b ∧ unitOk x.b = true) ∧
    (ok x.a ∧ unitOk x.a = true)

def lineOf (g : GuidelineD) : Option Line :=
  match g.x, g.y, g.angle with
  | some x, none, none => some (.vertical x)
  | none, some y, none => some (.horizontal y)
  | some x, some y, some d => some (.angle x y d)
  | _, _, _ => none

def ptG : PType → C11.PT
  | .move => .move | .line => .line | .offcurve => .off | .curve => .curve | .qcurve => .qcurve

def okAffine (ok : Nat → Prop) (t : Affine Nat) : Prop :=
  ok t.xScale ∧ ok t.xyScale ∧ ok t.yxScale ∧ ok t.yScale ∧ ok t.xOffset ∧ ok t.yOffset

def anchorG (a : AnchorD) : Anchor :=
  { x := a.x, y := a.y, name := a.name.map L, color := a.color.map colG, ident := a.identifier.map L }
/-- the default line is never reached where `lineOf g = some l` is asked (`DescOK.guidelines`) -/
def guidelineG (g : GuidelineD) : Guideline :=
  { line := (lineOf g).getD (.vertical 0), name := g.name.map L, color := g.color.map colG, ident := g.identifier.map L }
def pointG (p : PointD) : Point :=
  { x := p.x, y := p.y, typ := ptG p.typ, smooth := p.smooth, name := p.name.map L, ident := p.identifier.map L }
def componentG (k : ComponentD) : Component := { base := L k.base, transform := trG k.t, ident := k.identifier.map L }
def imageG (i : ImageD) : Image := { fileName := L i.fileName, color := i.color.map colG, transform := trG i.t }

/-- spell out `type="offcurve"` / `smooth="no"` at this point? -/
structure PtCh where
  typ : Bool
  smooth : Bool

/-- spell out a coefficient that has its default value? -/
abbrev TrCh := TKey → Bool

def coefA (rdr : Render) (spell : Bool) (k : String) (dflt v : Nat) : List (String × String) :=
  if spell || v != dflt then [(k, rdr.nums [v])] else []

def transformAWith (ch : TrCh) (rdr : Render) (t : Affine Nat) : List (String × String) :=
  coefA rdr (ch .xScale) "xScale" oneBits t.xScale ++ coefA rdr (ch .xyScale) "xyScale" zeroBits t.xyScale ++
  coefA rdr (ch .yxScale) "yxScale" zeroBits t.yxScale ++ coefA rdr (ch .yScale) "yScale" oneBits t.yScale ++
  coefA rdr (ch .xOffset) "xOffset" zeroBits t.xOffset ++ coefA rdr (ch .yOffset) "yOffset" zeroBits t.yOffset

def writePointWith (c : PtCh) (rdr : Render) (p : PointD) : XNode :=
  .elem "point" ([("x", rdr.nums [p.x]), ("y", rdr.nums [p.y])] ++
    (if c.typ || p.typ != .offcurve then [("type", p.typ.str)] else []) ++
    (if c.smooth || p.smooth then [("smooth", if p.smooth then "yes" else "no")] else []) ++
    optA "name" p.name ++ optA "identifier" p.identifier) [] ""

def writeComponentWith (ch : TrCh) (rdr : Render) (k : ComponentD) : XNode :=
  .elem "component" ([("base", k.base)] ++ transformAWith ch rdr k.t ++ optA "identifier" k.identifier) [] ""

def writeImageWith (ch : TrCh) (rdr : Render) (i : ImageD) : XNode :=
  .elem "image" ([("fileName", i.fileName)] ++ transformAWith ch rdr i.t ++ colorA rdr i.color) [] ""

theorem nodeAttrs_elem (t : String) (as : List (String × String)) (c : List XNode) (x : String) :
    nodeAttrs (.elem t as c x) = attrsL as := rfl

@[simp] theorem attrsL_append (a b : List (String × String)) : attrsL (a ++ b) = attrsL a ++ attrsL b := by simp [attrsL]

theorem attrsL_nil : attrsL [] = [] := rfl
theorem attrsL_cons (a : String × String) (r : List (String × String)) :
    attrsL (a :: r) = (a.1.toList, a.2.toList) :: attrsL r := rfl

theorem attrsL_optA (k : String) (o : Option String) : attrsL (optA k o) = optAttr k (o.map L) := by
  cases o <;> rfl

theorem attrsL_optN (rdr : Render) (k : String) (o : Option Nat) :
    attrsL (optN rdr k o) = optAttr k (o.map fun v => (rdr.nums [v]).toList) := by
  cases o <;> rfl

theorem attrsL_colorA (rdr : Render) (c : Option ColorD) :
    attrsL (colorA rdr c) = optAttr "color" (c.map fun c => (rdr.nums [c.r, c.g, c.b, c.a]).toList) := by
  cases c <;> rfl

theorem foldAttrs_coefA {σ : Type} (st : σ → Attr → Option σ) (acc : σ) (rdr : Render) (spell : Bool) (k : String)
    (dflt v : Nat) (upd : Nat → σ) (h0 : upd dflt = acc)
    (h1 : st acc (k.toList, (rdr.nums [v]).toList) = some (upd v)) :
    foldAttrs st acc (attrsL (coefA rdr spell k dflt v)) = some (upd v) := by
  rw [coefA, show attrsL (if (spell || v != dflt) = true then [(k, rdr.nums [v])] else []) =
    if spell || v != dflt then [(k.toList, (rdr.nums [v]).toList)] else [] from by split <;> rfl]
  exact foldAttrs_gate st acc _ _ (fun _ => h1) fun h => by
    have : v = dflt := by cases spell <;> simp_all
    rw [this, h0]

section
variable {rd : Str → Option Nat} {rdr : Render} {ok : Nat → Prop} {seen : List Str} {ver : Nat}

theorem readCol_spec (hP : ParseCodec rd rdr ok) {c : Option ColorD} (hcol : okColor ok c) (x : ColorD) (h : c = some x) :
    readCol rd (rdr.nums [x.r, x.g, x.b, x.a]).toList = some (colG x) := by
  obtain ⟨hr, hg, hb, ha⟩ := hcol x h
  exact hP.col x hr hg hb ha

theorem readIdent_fresh {o : Option String} (hi : FreshId seen (o.map L)) (i : String) (h : o = some i) :
    readIdent 2 seen (L i) = some (L i) :=
  readIdent_ok (hi _ (by rw [h]; rfl)).1 (hi _ (by rw [h]; rfl)).2

theorem norad_parses_spec_anchor (hP : ParseCodec rd rdr ok) (seen : List Str) {a : AnchorD} (hx : ok a.x) (hy : ok a.y)
    (hn : ∀ n, a.name = some n → validName (L n) = true) (hcol : okColor ok a.color)
    (hi : FreshId seen (a.identifier.map L)) :
    parseAnchor rd 2 seen (nodeAttrs (writeAnchor rdr a)) = some (anchorG a) := by
  simp only [parseAnchor, writeAnchor, nodeAttrs_elem, attrsL_append, attrsL_optA, attrsL_colorA, attrsL_cons, attrsL_nil]
  rw [foldAttrs_seq (foldAttrs_seq (foldAttrs_seq (aFold_xy (hP.num _ hx) (hP.num _ hy) {})
    (foldAttrs_optAttr _ _ "name" a.name L (fun s n => { s with name := n.map L }) rfl
      -- the vocabularies meet at each `xStep_name`: it fires only if the specification's literal is the model's name of the key
      fun n h => by simp only [aStep_name .name, aApply, hn n h, if_true, Option.map_some]))
    (foldAttrs_optAttr _ _ "color" a.color _ (fun s c => { s with color := c.map colG }) rfl
      fun c h => by simp only [aStep_name .color, aApply, readCol_spec hP hcol c h, Option.map_some]))
    (foldAttrs_optAttr _ _ "identifier" a.identifier L (fun s i => { s with ident := i.map L }) rfl
      fun i h => (aStep_name .ident _ _).trans (by simp only [aApply, readIdent_fresh hi i h, Option.map_some]))]
  rfl

theorem guFinish_lineOf {g : GuidelineD} {l : Line} (hl : lineOf g = some l) (n : Option Str) (c : Option Color)
    (i : Option Str) :
    guFinish { x := g.x, y := g.y, angle := g.angle, name := n, color := c, ident := i } =
      some { line := l, name := n, color := c, ident := i } := by
  obtain ⟨x, y, angle, _, _, _⟩ := g
  cases x <;> cases y <;> cases angle <;> cases hl <;> rfl

theorem norad_parses_spec_guideline (hP : ParseCodec rd rdr ok) (seen : List Str) {g : GuidelineD} {l : Line}
    (hl : lineOf g = some l) (hx : ∀ v, g.x = some v → ok v) (hy : ∀ v, g.y = some v → ok v)
    (ha : ∀ v, g.angle = some v → ok v ∧ angleOk v = true)
    (hn : ∀ n, g.name = some n → validName (L n) = true) (hcol : okColor ok g.color)
    (hi : FreshId seen (g.identifier.map L)) :
    parseGuideline rd 2 seen (nodeAttrs (writeGuideline rdr g)) =
      some { line := l, name := g.name.map L, color := g.color.map colG, ident := g.identifier.map L } := by
  simp only [parseGuideline, writeGuideline, nodeAttrs_elem, attrsL_append, attrsL_optN, attrsL_optA, attrsL_colorA]
  rw [foldAttrs_seq (foldAttrs_seq (foldAttrs_seq (foldAttrs_seq (foldAttrs_seq
    (foldAttrs_optAttr (guStep rd 2 seen) {} "x" g.x _ (fun s v => { s with x := v }) rfl
      fun v h => by simp only [guStep_name .x, guApply, hP.num _ (hx v h)])
    (foldAttrs_optAttr _ _ "y" g.y _ (fun s v => { s with y := v }) rfl
      fun v h => by simp only [guStep_name .y, guApply, hP.num _ (hy v h)]))
    (foldAttrs_optAttr _ _ "angle" g.angle _ (fun s v => { s with angle := v }) rfl
      fun v h => by simp only [guStep_name .angle, guApply, hP.num _ (ha v h).1, (ha v h).2, if_true]))
    (foldAttrs_optAttr _ _ "name" g.name L (fun s n => { s with name := n.map L }) rfl
      fun n h => by simp only [guStep_name .name, guApply, hn n h, if_true, Option.map_some]))
    (foldAttrs_optAttr _ _ "color" g.color _ (fun s c => { s with color := c.map colG }) rfl
      fun c h => by simp only [guStep_name .color, guApply, readCol_spec hP hcol c h, Option.map_some]))
    (foldAttrs_optAttr _ _ "identifier" g.identifier L (fun s i => { s with ident := i.map L }) rfl
      fun i h => (guStep_name .ident _ _).trans (by simp only [guApply, readIdent_fresh hi i h, Option.map_some]))]
  exact guFinish_lineOf hl _ _ _

theorem readPointType_str (t : PType) : readPointType t.str.toList = some (ptG t) := by
  obtain ⟨tm, tl, tc, tq⟩ := readPointType_names
  cases t with
  | move => exact tm
  | line => exact tl
  | offcurve => decide +kernel  -- norad's writer never spells it, so it is not among `readPointType_names`
  | curve => exact tc
  | qcurve => exact tq

theorem fold_point_type (c : Bool) (t : PType) (x y : Option Nat) (s : Bool) (n i : Option Str) :
    foldAttrs (pStep rd ver seen) { x := x, y := y, typ := .off, smooth := s, name := n, ident := i }
        (attrsL (if c || t != .offcurve then [("type", t.str)] else [])) =
      some { x := x, y := y, typ := ptG t, smooth := s, name := n, ident := i } := by
  split
  · exact (foldAttrs_one _ _ _).trans (by simp only [pStep_name .typ, pApply, readPointType_str])
  · have : t = .offcurve := by cases c <;> cases t <;> simp_all
    subst this; rfl

theorem fold_point_smooth (c s : Bool) (x y : Option Nat) (t : C11.PT) (n i : Option Str) :
    foldAttrs (pStep rd ver seen) { x := x, y := y, typ := t, smooth := false, name := n, ident := i }
        (attrsL (if c || s then [("smooth", if s then "yes" else "no")] else [])) =
      some { x := x, y := y, typ := t, smooth := s, name := n, ident := i } := by
  have yes (b : Bool) : decide ((if b then "yes" else "no").toList = "yes".toList) = b := by cases b <;> decide
  have written : foldAttrs (pStep rd ver seen) { x := x, y := y, typ := t, smooth := false, name := n, ident := i }
      (attrsL [("smooth", if s then "yes" else "no")]) = some { x := x, y := y, typ := t, smooth := s, name := n, ident := i } :=
    (foldAttrs_one _ _ _).trans (by simp only [pStep_name .smooth, pApply, yes])
  cases c with
  | true => exact written
  | false =>
    -- left out only when it is not smooth: the accumulator already holds `false`
    cases s with
    | true => exact written
    | false => rfl

/-- stated for any version; in format 2 `hid` follows from `FreshId` by `readIdent_fresh` -/
theorem norad_parses_point_with (hP : ParseCodec rd rdr ok) (c : PtCh) {ver : Nat} {seen : List Str} {p : PointD} (hx : ok p.x)
    (hy : ok p.y) (hn : ∀ n, p.name = some n → validName (L n) = true)
    (hid : ∀ i, p.identifier = some i → readIdent ver seen (L i) = some (L i)) :
    parsePoint rd ver seen (nodeAttrs (writePointWith c rdr p)) = some (pointG p) := by
  simp only [parsePoint, writePointWith, nodeAttrs_elem, attrsL_append, attrsL_optA, attrsL_cons, attrsL_nil]
  rw [foldAttrs_seq (foldAttrs_seq (foldAttrs_seq (foldAttrs_seq (pFold_xy (hP.num _ hx) (hP.num _ hy) {})
    (fold_point_type ..)) (fold_point_smooth ..))
    (foldAttrs_optAttr _ _ "name" p.name L (fun s n => { s with name := n.map L }) rfl
      fun n h => by simp only [pStep_name .name, pApply, hn n h, if_true, Option.map_some]))
    (foldAttrs_optAttr _ _ "identifier" p.identifier L (fun s i => { s with ident := i.map L }) rfl
      fun i h => (pStep_name .ident _ _).trans (by simp only [pApply, hid i h, Option.map_some]))]
  rfl

def tStr : TKey → String
  | .xScale => "xScale" | .xyScale => "xyScale" | .yxScale => "yxScale"
  | .yScale => "yScale" | .xOffset => "xOffset" | .yOffset => "yOffset"

/-- for any loop that treats the six coefficient names as `parse_component` and `parse_image` do (`mk t`: its accumulator with
    transformation `t`) -/
theorem transformAWith_fold {σ : Type} (st : σ → Attr → Option σ) (mk : Transform → σ)
    (hst : ∀ (t : Transform) (k : Str) (tk : TKey) (v : Str) (n : Nat), tKeyOf k = some tk → rd v = some n →
      st (mk t) (k, v) = some (mk (tSet tk n t)))
    (hP : ParseCodec rd rdr ok) (ch : TrCh) {t : Affine Nat} (ht : okAffine ok t) :
    foldAttrs st (mk {}) (attrsL (transformAWith ch rdr t)) = some (mk (trG t)) := by
  have hv : ∀ k, ok (tGet k (trG t)) := OkT.get (t := trG t) ht
  unfold transformAWith
  simp only [attrsL_append]
  -- a coefficient is written, or it is left out and has the value the loop starts with (`tStr k` and the specification's
  -- defaults must be the model's key name and `tGet k {}` for this to be `coef_fold`'s form)
  refine coef_fold mk hst (fun k => attrsL (coefA rdr (ch k) (tStr k) (tGet k {}) (tGet k (trG t)))) (fun k => tGet k (trG t))
    fun k => ?_
  unfold coefA
  split
  · exact .inl ⟨_, by cases k <;> rfl, hP.num _ (hv k)⟩
  · rename_i h
    exact .inr ⟨rfl, by cases hc : ch k <;> simp_all⟩

theorem norad_parses_component_with (hP : ParseCodec rd rdr ok) (ch : TrCh) {ver : Nat} {seen : List Str} {k : ComponentD}
    (hb : validName (L k.base) = true) (ht : okAffine ok k.t)
    (hid : ∀ i, k.identifier = some i → readIdent ver seen (L i) = some (L i)) :
    parseComponent rd ver seen (nodeAttrs (writeComponentWith ch rdr k)) = some (componentG k) := by
  simp only [parseComponent, writeComponentWith, nodeAttrs_elem, attrsL_append, attrsL_optA, attrsL_cons, attrsL_nil]
  rw [foldAttrs_seq (foldAttrs_seq
    ((foldAttrs_one _ {} _).trans ((cStep_name .base k.base.toList _).trans (if_pos hb)))
    (transformAWith_fold (cStep rd ver seen) (fun t => { base := some (L k.base), transform := t })
      (fun _ _ _ _ _ hk hv => cStep_t hk hv _) hP ch ht))
    (foldAttrs_optAttr _ _ "identifier" k.identifier L (fun s i => { s with ident := i.map L }) rfl
      fun i h => (cStep_name .ident _ _).trans (by simp only [cApply, hid i h, Option.map_some]))]
  rfl

theorem fold_image_spec (hP : ParseCodec rd rdr ok) (ch : TrCh) {i : ImageD} (ht : okAffine ok i.t)
    (hcol : okColor ok i.color) :
    foldAttrs (iStep rd) {} (attrsL ([("fileName", i.fileName)] ++ transformAWith ch rdr i.t ++ colorA rdr i.color)) =
      some { fileName := some (L i.fileName), color := i.color.map colG, transform := trG i.t } := by
  simp only [attrsL_append, attrsL_colorA, attrsL_cons, attrsL_nil]
  exact foldAttrs_seq
    (foldAttrs_seq ((foldAttrs_one _ {} _).trans (iStep_name .fileName _ _))
      (transformAWith_fold (iStep rd) (fun t => { fileName := some (L i.fileName), transform := t })
        (fun _ _ _ _ _ hk hv => iStep_t hk hv _) hP ch ht))
    (foldAttrs_optAttr (σ := ImageAcc) _ _ "color" i.color _ (fun s c => { s with color := c.map colG }) rfl
      fun c h => by simp only [iStep_name .color, iApply, readCol_spec hP hcol c h, Option.map_some])

theorem norad_parses_image_with (hP : ParseCodec rd rdr ok) (ch : TrCh) {i : ImageD}
    (hf : imageNameOk (L i.fileName) = true) (ht : okAffine ok i.t) (hcol : okColor ok i.color) :
    parseImage rd (nodeAttrs (writeImageWith ch rdr i)) = some (imageG i) := by
  unfold parseImage
  rw [writeImageWith, nodeAttrs_elem, fold_image_spec hP ch ht hcol]
  simp only [iFinish, hf, if_true]
  rfl

theorem norad_parses_advance_with (hP : ParseCodec rd rdr ok) (cw chh : Bool) {w h : Nat} (hw : ok w) (hh : ok h) :
    parseAdvance rd (attrsL (coefA rdr cw "width" zeroBits w ++ coefA rdr chh "height" zeroBits h)) = some (w, h) := by
  rw [attrsL_append]
  exact foldAttrs_seq
    (foldAttrs_coefA _ _ rdr cw "width" _ w (fun v => (v, 0)) rfl (by simp only [advStep_name .width, advApply, hP.num _ hw]))
    (foldAttrs_coefA _ _ rdr chh "height" _ h (fun v => (w, v)) rfl (by simp only [advStep_name .height, advApply, hP.num _ hh]))

theorem norad_parses_spec_unicode (hP : ParseCodec rd rdr ok) (cps : List Nat) {c : Nat} (hv : ValidCodepoint c) :
    parseUnicode cps (nodeAttrs (writeUnicode rdr c)) = some (cpInsert cps c) := by
  simp [nodeAttrs, writeUnicode, attrsL, parseUnicode, foldAttrs, uniStep, sHex_lit, hP.hex c hv]

theorem norad_parses_spec_contour_attrs (seen : List Str) (cid : Option String) (hi : FreshId seen (cid.map L)) :
    parseContourAttrs 2 seen (attrsL (optA "identifier" cid)) = some (cid.map L) := by
  rw [attrsL_optA]
  exact contourAttrs_roundtrip hi

theorem norad_parses_spec_glyph_attrs {name : String} (hn : validName (L name) = true) :
    parseGlyphAttrs (some (attrsL [("name", name), ("format", "2")])) = .ok (L name, 2) :=
  glyphAttrs_roundtrip hn

end
end C05Bridge
