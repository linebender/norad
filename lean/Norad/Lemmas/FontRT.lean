import Norad.Lemmas.RoundTrip
/-!
# Assembly lemmas for `font_roundtrip` (C01): what `loadFont (saveFont f)` is, part by part
-/
namespace RT

/-- What is assumed of the un-modelled parts — one NAMED field per hypothesis; `Props/C01Bridge.lean`
    says which theorem of which property discharges each of them for norad's own codecs. -/
structure PartLaws (P : Parts) where
  /-- guard of the glif round trip -/
  glyphOK : P.Glyph → Prop
  /-- what the parser returns for a written glyph (colour to 3 decimals, …) -/
  normGlyph : P.Glyph → P.Glyph
  /-- **glyph files** — C02 `glif_roundtrip_partial_no_object_libs` / `parse_encode` -/
  glyph_rt : ∀ g, glyphOK g → P.decGlyph (P.encGlyph g) = some (normGlyph g)
  /-- **other font-info fields** — serde field table ↔ plist dictionary for a valid value -/
  rest_rt : ∀ r, P.restValid r = true → P.decRest (P.encRest r) = some r

/-- needed for C04 only: a glyph that was read back is inside the guard again -/
structure NormLaws {P : Parts} (L : PartLaws P) : Prop where
  norm_ok : ∀ g, L.glyphOK g → L.glyphOK (L.normGlyph g)

def tokenLaws : PartLaws tokenParts where
  glyphOK := fun _ => True
  normGlyph := id
  glyph_rt := fun _ _ => rfl
  rest_rt := fun _ _ => rfl

theorem tokenNorm : NormLaws tokenLaws := ⟨fun _ _ => trivial⟩

variable {P : Parts} (L : PartLaws P)

theorem lookupKV_erase_ne (k j : String) (l : Dict) (h : j ≠ k) : lookupKV j (eraseKV k l) = lookupKV j l := by
  fun_induction eraseKV k l with
  | case1 => rfl
  | case2 v r ih => rw [ih, lookupKV, if_neg h.symm]
  | case3 k' v r hk ih => simp only [lookupKV, ih]

theorem lookupKV_erase_self (k : String) (l : Dict) : lookupKV k (eraseKV k l) = none := by
  fun_induction eraseKV k l with
  | case1 => rfl
  | case2 v r ih => exact ih
  | case3 k' v r hk ih => rw [lookupKV, if_neg hk, ih]

theorem lookup_sortDict (k : String) (d : Dict) : lookupKV k (sortDict d) = (lookupKV k d).map sortRec := by
  simp [sortDict, lookup_sortKV, lookup_sortRecL]

theorem sortDict_isEmpty (d : Dict) : (sortDict d).isEmpty = d.isEmpty := by
  have : (sortDict d).length = d.length := by simp [sortDict, length_sortKV, length_sortRecL]
  cases d <;> cases h : sortDict _ <;> simp_all

/-- a gate: a part is written only when it is not empty (`mkTree`), and a missing part is read as empty -/
theorem getD_gate {α β : Type} (F : List α → List β) (h : F [] = []) (l : List α) :
    (if l.isEmpty = true then none else some (F l)).getD [] = F l := by
  cases l <;> simp [h]

/-- what `FontInfo::dump_object_libs` puts under `public.objectLibs`: identifier ↦ lib, for the guidelines that have both -/
def objLibsOf : List Guide → Dict
  | [] => []
  | g :: r =>
    match g.lib, g.id with
    | some l, some i => (i, PV.dict l) :: objLibsOf r
    | _, _ => objLibsOf r

/-- the precondition of `dump_object_libs` (it unwraps the identifier of every guideline that has a lib) -/
def LibsHaveIds (gs : List Guide) : Prop := ∀ g ∈ gs, ∀ l, g.lib = some l → ∃ i, g.id = some i

theorem dumpObjectLibs_ok (gs : List Guide) (h : LibsHaveIds gs) : dumpObjectLibs gs = .ok (objLibsOf gs) := by
  induction gs with
  | nil => rfl
  | cons g r ih =>
    simp only [dumpObjectLibs, ih fun g' hg' => h g' (List.mem_cons_of_mem _ hg'), objLibsOf]
    cases hl : g.lib with
    | none => simp
    | some l =>
      obtain ⟨i, hi⟩ := h g (List.mem_cons_self ..) l hl
      simp [hi]

def sortGuide (g : Guide) : Guide := { g with lib := g.lib.map sortDict }
def toGuideF (g : Guide) : GuideF := { id := g.id, rest := g.rest }

theorem idsNodup_cons (o : Option String) (r : List (Option String)) :
    idsNodup (o :: r) = true ↔ (∀ i, o = some i → some i ∉ r) ∧ idsNodup r = true := by
  cases o <;> simp [idsNodup]

/-- the loop of `load_object_libs` gives every guideline its lib back.  Invariant (third hypothesis): the dictionary `d` still
    to be consumed holds, under the identifier of each guideline still to come, exactly that guideline's lib (sorted), and
    nothing under the identifier of one without a lib; a consumed entry is erased, which touches no other identifier -/
theorem attachLibs_spec (gs : List Guide) : ∀ (d : Dict), idsNodup (gs.map (·.id)) = true → LibsHaveIds gs →
    (∀ g ∈ gs, ∀ i, g.id = some i → lookupKV i d = g.lib.map (fun l => PV.dict (sortDict l))) →
    attachLibs (gs.map toGuideF) d = .ok (gs.map sortGuide) := by
  induction gs with
  | nil => intro d _ _ _; rfl
  | cons g r ih =>
    intro d hn hl hd
    obtain ⟨hfresh, hn'⟩ := (idsNodup_cons _ _).1 hn
    have hrec := fun d' => ih d' hn' fun g' hg' => hl g' (List.mem_cons_of_mem _ hg')
    cases hlib : g.lib with
    | none =>
      have := hrec d fun g' hg' => hd g' (List.mem_cons_of_mem _ hg')
      cases hid : g.id with
      | none => simp only [List.map_cons, attachLibs, toGuideF, sortGuide, hid, hlib, this, Option.map_none]
      | some i =>
        have hlk := hd g (List.mem_cons_self ..) i hid
        simp only [List.map_cons, attachLibs, toGuideF, sortGuide, hid, hlib, hlk, this, Option.map_none]
    | some l =>
      obtain ⟨i, hid⟩ := hl g (List.mem_cons_self ..) l hlib
      have hlk := hd g (List.mem_cons_self ..) i hid
      have := hrec (eraseKV i d) fun g' hg' j hj => by
        rw [lookupKV_erase_ne _ _ _ fun he : j = i => hfresh i hid (he ▸ hj ▸ List.mem_map_of_mem (f := (·.id)) hg')]
        exact hd g' (List.mem_cons_of_mem _ hg') j hj
      simp only [List.map_cons, attachLibs, toGuideF, sortGuide, hid, hlib, hlk, this, Option.map_some]

theorem lookupKV_objLibsOf_cons (g : Guide) (r : List Guide) (i : String) (h : g.id ≠ some i) :
    lookupKV i (objLibsOf (g :: r)) = lookupKV i (objLibsOf r) := by
  simp only [objLibsOf]
  split
  · rename_i hj
    rw [lookupKV, if_neg fun e : _ = i => h (e ▸ hj)]
  · rfl

theorem lookupKV_objLibsOf_none (i : String) : ∀ r : List Guide, some i ∉ r.map (·.id) → lookupKV i (objLibsOf r) = none
  | [], _ => rfl
  | x :: xs, hx => by
    simp only [List.map_cons, List.mem_cons, not_or] at hx
    rw [lookupKV_objLibsOf_cons x xs i (Ne.symm hx.1), lookupKV_objLibsOf_none i xs hx.2]

theorem lookup_objLibsOf (gs : List Guide) (hn : idsNodup (gs.map (·.id)) = true) :
    ∀ g ∈ gs, ∀ i, g.id = some i → lookupKV i (objLibsOf gs) = g.lib.map PV.dict := by
  induction gs with
  | nil => intro g hg; cases hg
  | cons g0 r ih =>
    obtain ⟨hfresh, hn'⟩ := (idsNodup_cons _ _).1 hn
    intro g hg i hi
    rcases List.mem_cons.1 hg with rfl | hg'
    · cases hl : g.lib with
      | some l => simp [objLibsOf, hl, hi, lookupKV]
      | none => simpa [objLibsOf, hl] using lookupKV_objLibsOf_none i r (hfresh i hi)
    · rw [lookupKV_objLibsOf_cons g0 r i fun e => hfresh i e (hi ▸ List.mem_map_of_mem (f := (·.id)) hg')]
      exact ih hn' g hg' i hi

theorem objLibsOf_nil_libs (gs : List Guide) (hn : idsNodup (gs.map (·.id)) = true) (hl : LibsHaveIds gs)
    (h : objLibsOf gs = []) : ∀ g ∈ gs, g.lib = none := by
  intro g hg
  cases hlib : g.lib with
  | none => rfl
  | some l =>
    obtain ⟨i, hi⟩ := hl g hg l hlib
    have := lookup_objLibsOf gs hn g hg i hi
    rw [h, hlib] at this
    cases this

theorem sortGuide_of_noLib (gs : List Guide) (h : ∀ g ∈ gs, g.lib = none) :
    plainGuides (gs.map toGuideF) = gs.map sortGuide := by
  simp only [plainGuides, List.map_map]
  apply List.map_congr_left
  intro g hg
  simp only [Function.comp, toGuideF, sortGuide, h g hg, Option.map_none]

/-- a colour after save + load: the four channels as `to_rgba_string` prints them, in thousandths -/
def milliCol (c : ColV) : ColV :=
  ColV.milli (saveColor c).1 (saveColor c).2.1 (saveColor c).2.2.1 (saveColor c).2.2.2

def normE (g : (GlyphE P)) : (GlyphE P) := { g with tok := L.normGlyph g.tok }

/-- what a layer is after save + load: colour to three decimals, lib with sorted keys -/
def rtLayer (l : (Layer P)) : (Layer P) :=
  { l with color := l.color.map milliCol, lib := sortDict l.lib, glyphs := l.glyphs.map (normE L) }

theorem loadGlyphs_spec (l : Layer P) (h : nodupS (l.glyphs.map (·.file)) = true)
    (hok : ∀ g ∈ l.glyphs, L.glyphOK g.tok) :
    ∀ xs : List (GlyphE P), (∀ x ∈ xs, x ∈ l.glyphs) →
      loadGlyphs (saveLayerDir l) (xs.map fun g => (g.name, g.file)) = some (xs.map (normE L)) := by
  intro xs
  induction xs with
  | nil => intro _; rfl
  | cons g r ih =>
    intro hx
    have hg : g ∈ l.glyphs := hx g (List.mem_cons_self ..)
    have hr := ih (fun x hx' => hx x (List.mem_cons_of_mem _ hx'))
    have hl : lookupS g.file (saveLayerDir l).glifs = some (P.encGlyph g.tok) := by
      simpa [saveLayerDir] using lookupS_is.map_of_mem (·.file) (fun x => P.encGlyph x.tok) ((nodupS_iff _).1 h) hg
    simp only [List.map_cons, loadGlyphs, hl, hr, Option.bind_some, L.glyph_rt g.tok (hok g hg), normE]

theorem saveLayerInfo_color (l : Layer P) : (saveLayerInfo l).bind (·.color) = l.color.map saveColor := by
  unfold saveLayerInfo
  cases l.color <;> cases l.lib <;> rfl

theorem saveLayerInfo_lib (l : Layer P) : ((saveLayerInfo l).bind (·.lib)).getD [] = sortDict l.lib := by
  unfold saveLayerInfo
  cases l.color <;> cases l.lib <;> rfl

theorem loadLayer_spec (l : Layer P) (h : nodupS (l.glyphs.map (·.file)) = true)
    (hok : ∀ g ∈ l.glyphs, L.glyphOK g.tok) :
    loadLayer l.name l.dir (saveLayerDir l) = some (rtLayer L l) := by
  unfold loadLayer
  rw [show (saveLayerDir l).contents = l.glyphs.map (fun g => (g.name, g.file)) from rfl,
    loadGlyphs_spec L l h hok l.glyphs fun _ hx => hx]
  simp only [saveLayerDir, saveLayerInfo_color, saveLayerInfo_lib, rtLayer, Option.map_map]
  rfl

theorem loadLayers_spec (ls : List (Layer P)) (t : Tree P)
    (ht : t.dirs = ls.map (fun l => (l.dir, saveLayerDir l)))
    (hd : nodupS (ls.map (·.dir)) = true)
    (hf : ∀ l ∈ ls, nodupS (l.glyphs.map (·.file)) = true)
    (hok : ∀ l ∈ ls, ∀ g ∈ l.glyphs, L.glyphOK g.tok) :
    ∀ xs : List (Layer P), (∀ x ∈ xs, x ∈ ls) →
      loadLayers t (xs.map fun l => (l.name, l.dir)) = .ok (xs.map (rtLayer L)) := by
  intro xs
  induction xs with
  | nil => intro _; rfl
  | cons l r ih =>
    intro hx
    have hl : l ∈ ls := hx l (List.mem_cons_self ..)
    have hr := ih (fun x hx' => hx x (List.mem_cons_of_mem _ hx'))
    have hlk : lookupS l.dir t.dirs = some (saveLayerDir l) := by
      rw [ht]; exact lookupS_is.map_of_mem (·.dir) saveLayerDir ((nodupS_iff _).1 hd) hl
    simp only [List.map_cons, loadLayers, hlk, loadLayer_spec L l (hf l hl) (hok l hl), hr]

/-- the validity that `Font::save` relies on, as far as this model sees it: format 3, the reserved lib
    key absent, guideline identifiers unique and present where a lib is attached (guaranteed by
    `replace_lib`), layer directories distinct with the default layer first and glif file names
    distinct inside a layer (the container invariant of C06) -/
structure ValidFont (f : (Font P)) : Prop where
  fv : f.fv = 3
  noKey : lookupKV objectLibsKey f.lib = none
  ids : idsNodup ((f.info.guides.getD []).map (·.id)) = true
  libIds : LibsHaveIds (f.info.guides.getD [])
  dirs : nodupS (f.layers.map (·.dir)) = true
  defFirst : ∃ l r, f.layers = l :: r ∧ l.dir = glyphsDir
  files : ∀ l ∈ f.layers, nodupS (l.glyphs.map (·.file)) = true
  /-- every glyph is inside the guard of the glif round trip (C02) -/
  glyphsOK : ∀ l ∈ f.layers, ∀ g ∈ l.glyphs, L.glyphOK g.tok
  /-- the other font-info fields pass `FontInfo::validate` (C13 `validate_iff_rules`: iff the rules hold) -/
  restValid : restOK f.info = true

/-- the object libs travelled in the lib under the reserved key and were taken out again by `load_object_libs` -/
def rtLib (f : (Font P)) : Dict :=
  if (objLibsOf (f.info.guides.getD [])).isEmpty then sortDict f.lib
  else eraseKV objectLibsKey (sortDict (f.lib ++ [(objectLibsKey, PV.dict (objLibsOf (f.info.guides.getD [])))]))

def rtInfo (i : (Info P)) : (Info P) :=
  { nums := loadNums (saveNums i.nums), upm := (i.upm.map (writeWith upmWrite)).map readNum,
    guides := i.guides.map (·.map sortGuide), rest := i.rest }

/-- the font that `load(save(f))` returns -/
def rtFont (f : (Font P)) : (Font P) :=
  { creator := some defaultCreator, fv := 3, minor := if f.creator = some defaultCreator then f.minor else 0,
    info := rtInfo f.info, lib := rtLib f, groups := f.groups,
    kerning := loadKerning (saveKerning f.kerning), features := crlfToLf f.features,
    layers := f.layers.map (rtLayer L), data := f.data, images := f.images }

theorem saveFont_ok (f : Font P) (hv : ValidFont L f) :
    saveFont f = .ok (mkTree f (objLibsOf (f.info.guides.getD []))) := by
  unfold saveFont
  simp [hv.fv, hv.noKey, hv.ids, hv.restValid, dumpObjectLibs_ok _ hv.libIds, hv.dirs]

theorem saveFont_tree (f : Font P) (t : Tree P) (h : saveFont f = .ok t) : ∃ ol, t = mkTree f ol := by
  revert h
  fun_cases saveFont f <;> intro h <;> cases h
  exact ⟨_, rfl⟩

theorem loadNums_saveNums (l : List (String × NumV)) :
    loadNums (saveNums l) =
      l.map fun e => (e.1, if isLenKey e.1 = true then e.2 else readNum (writeWith infoWrite e.2)) := by
  simp only [loadNums, saveNums, List.map_map]
  apply List.map_congr_left
  intro e _
  simp only [Function.comp]
  split <;> rfl

theorem loadKerning_saveKerning (k : List (String × List (String × NumV))) :
    loadKerning (saveKerning k) = k.map fun e => (e.1, e.2.map fun p => (p.1, readNum (writeWith kernWrite p.2))) := by
  simp [loadKerning, saveKerning, List.map_map, Function.comp_def]

theorem gate_kerning (k : List (String × List (String × NumV))) :
    ((if k.isEmpty = true then none else some (saveKerning k)).map loadKerning).getD [] = loadKerning (saveKerning k) := by
  cases k <;> simp [saveKerning, loadKerning]

theorem saveInfo_ids (i : Info P) :
    ((saveInfo i).guides.getD []).map (·.id) = (i.guides.getD []).map (·.id) := by
  unfold saveInfo
  cases i.guides <;> simp

theorem saveInfo_guides (i : Info P) : (saveInfo i).guides = i.guides.map (·.map toGuideF) := rfl

theorem sortRec_dict (l : Dict) : sortRec (PV.dict l) = PV.dict (sortDict l) := by simp [sortRec, sortDict]

theorem loadRest_saved (L : PartLaws P) (i : Info P) (h : restOK i = true) :
    loadRest (saveInfo i).rest = some i.rest := by
  revert h
  fun_cases restOK i <;> intro h <;> simp [saveInfo, loadRest, *, L.rest_rt]

theorem loadInfo_spec (f : Font P) (hv : ValidFont L f) :
    loadInfo (saveInfo f.info) (sortDict (if (objLibsOf (f.info.guides.getD [])).isEmpty = true then f.lib
      else f.lib ++ [(objectLibsKey, PV.dict (objLibsOf (f.info.guides.getD [])))])) = .ok (rtInfo f.info, rtLib f) := by
  unfold loadInfo
  rw [saveInfo_ids, hv.ids, loadRest_saved L f.info hv.restValid]
  simp only [Bool.not_true, Bool.false_eq_true, if_false, lookup_sortDict]
  by_cases hol : (objLibsOf (f.info.guides.getD [])).isEmpty = true
  · -- no object libs: the lib is written as it is (sorted), nothing to move back
    have hnl := objLibsOf_nil_libs _ hv.ids hv.libIds (List.isEmpty_iff.1 hol)
    have hg : (saveInfo f.info).guides.map plainGuides = f.info.guides.map (·.map sortGuide) := by
      rw [saveInfo_guides]
      cases hgs : f.info.guides with
      | none => rfl
      | some gs => rw [hgs] at hnl; exact congrArg some (sortGuide_of_noLib gs hnl)
    simp only [hol, if_true, hv.noKey, Option.map_none, rtInfo, rtLib, hg]
    rfl
  · -- object libs present: they travel under the reserved key and are handed back to the guidelines
    have hk : lookupKV objectLibsKey (f.lib ++ [(objectLibsKey, PV.dict (objLibsOf (f.info.guides.getD [])))]) =
        some (PV.dict (objLibsOf (f.info.guides.getD []))) := by
      rw [lookupKV_is.append, hv.noKey]; simp [lookupKV]
    simp only [hol, Bool.false_eq_true, if_false, hk, Option.map_some, sortRec_dict]
    cases hgs : f.info.guides with
    | none => rw [hgs] at hol; exact absurd rfl hol
    | some gs =>
      have hids : idsNodup (gs.map (·.id)) = true := by have := hv.ids; rwa [hgs] at this
      have hli : LibsHaveIds gs := by have := hv.libIds; rwa [hgs] at this
      have hat := attachLibs_spec gs (sortDict (objLibsOf gs)) hids hli fun g hg i hi => by
        rw [lookup_sortDict, lookup_objLibsOf gs hids g hg i hi]
        cases g.lib <;> simp [sortRec_dict]
      have hol2 : ¬ (objLibsOf gs).isEmpty = true := by simpa [hgs] using hol
      rw [saveInfo_guides, hgs]
      simp only [Option.map_some, Option.getD_some, hat, rtInfo, rtLib, hgs, hol2, saveInfo]
      rw [if_neg Bool.false_ne_true]  -- left over in `rtLib`: `if false = true then sortDict f.lib else …`

theorem guides_of_isEmpty {i : Info P} (h : i.isEmpty = true) : i.guides = none := by
  simp only [Info.isEmpty, Bool.and_eq_true, Option.isNone_iff_eq_none] at h
  exact h.1.2

theorem isEmpty_rtInfo (i : Info P) (h : i.isEmpty = true) : rtInfo i = {} := by
  cases i with
  | mk nums upm guides rest =>
    simp only [Info.isEmpty, Bool.and_eq_true, List.isEmpty_iff, Option.isNone_iff_eq_none] at h
    obtain ⟨⟨⟨h1, h2⟩, h3⟩, h4⟩ := h
    subst h1 h2 h3 h4
    simp [rtInfo, loadNums, saveNums]

/- the fields of `mkTree`, so that `save_load_eq` can rewrite them one by one without unfolding the tree -/
theorem mkTree_fontinfo (f : (Font P)) (ol : Dict) :
    (mkTree f ol).fontinfo = if f.info.isEmpty = true then none else some (saveInfo f.info) := rfl
theorem mkTree_lib (f : (Font P)) (ol : Dict) :
    (mkTree f ol).lib =
      if (if ol.isEmpty = true then f.lib else f.lib ++ [(objectLibsKey, PV.dict ol)]).isEmpty = true then none
      else some (sortDict (if ol.isEmpty = true then f.lib else f.lib ++ [(objectLibsKey, PV.dict ol)])) := rfl
theorem mkTree_groups (f : (Font P)) (ol : Dict) :
    (mkTree f ol).groups = if f.groups.isEmpty = true then none else some f.groups := rfl
theorem mkTree_kerning (f : (Font P)) (ol : Dict) :
    (mkTree f ol).kerning = if f.kerning.isEmpty = true then none else some (saveKerning f.kerning) := rfl
theorem mkTree_features (f : (Font P)) (ol : Dict) :
    (mkTree f ol).features = if f.features.isEmpty = true then none else some (crlfToLf f.features) := rfl
theorem mkTree_creator (f : Font P) (ol : Dict) : (mkTree f ol).creator = some defaultCreator := by
  simp only [mkTree]; split <;> simp_all
theorem mkTree_minor (f : (Font P)) (ol : Dict) :
    (mkTree f ol).minor = if f.creator = some defaultCreator then f.minor else 0 := rfl
theorem mkTree_data (f : (Font P)) (ol : Dict) : (mkTree f ol).data = f.data := rfl
theorem mkTree_images (f : (Font P)) (ol : Dict) : (mkTree f ol).images = f.images := rfl
theorem mkTree_layercontents (f : Font P) (ol : Dict) :
    (mkTree f ol).layercontents = f.layers.map fun l => (l.name, l.dir) := rfl

theorem save_load_eq (f : Font P) (hv : ValidFont L f) :
    ∃ t, saveFont f = .ok t ∧ loadFont t = .ok (rtFont L f) := by
  refine ⟨_, saveFont_ok L f hv, ?_⟩
  have hlay : loadLayers (mkTree f (objLibsOf (f.info.guides.getD []))) (f.layers.map fun l => (l.name, l.dir)) =
      .ok (f.layers.map (rtLayer L)) :=
    loadLayers_spec L f.layers _ rfl hv.dirs hv.files hv.glyphsOK f.layers (fun _ h => h)
  have hdf : defaultFirst (f.layers.map (rtLayer L)) = .ok (f.layers.map (rtLayer L)) := by
    obtain ⟨l, r, h1, h2⟩ := hv.defFirst
    rw [h1]
    exact layers_roundtrip_order (rtLayer L l) (r.map (rtLayer L)) h2
  unfold loadFont
  rw [mkTree_layercontents, hlay]
  -- the parts as `mkTree` wrote them, read back through the gates; after this and the font info the loaded record and
  -- `rtFont L f` agree field by field by `rfl`
  simp only [hdf, mkTree_fontinfo, mkTree_lib, mkTree_groups, mkTree_kerning, mkTree_features, mkTree_creator,
    mkTree_minor, mkTree_data, mkTree_images, getD_gate (fun x => x) rfl, gate_kerning, getD_gate crlfToLf rfl,
    getD_gate sortDict rfl]
  by_cases hie : f.info.isEmpty = true
  · -- no fontinfo.plist: no guidelines, so no object libs
    have hol : objLibsOf (f.info.guides.getD []) = [] := by rw [guides_of_isEmpty hie]; rfl
    simp only [hie, if_true, hol, List.isEmpty_nil]
    simp only [rtFont, isEmpty_rtInfo _ hie, rtLib, hol, List.isEmpty_nil, if_true]
  · simp only [hie, Bool.false_eq_true, if_false]
    rw [loadInfo_spec L f hv]
    rfl

end RT
