import Norad.Lemmas.GlifGen
import Norad.Lemmas.ObjectLibs
/-! C02: the writer's output is a document of the generative grammar: `itemsOf f g` is that document (`render_itemsOf`), legal
for a valid glyph (`legal_itemsOf`), and describes `preG f nc g` (`interp_itemsOf`); hence `parse_encode`.  What
`load_object_libs` then does with `preG` is in `Lemmas/ObjectLibs.lean`. -/
namespace Glif

section
variable {f : Fmt} {rd : Str → Option Nat} {nc : Color → Color} {ok : Nat → Prop}

/-- a contour of a glyph held in memory; unlike `ContourOK` of the parser invariant it may have no points -/
structure ContourOK' (ok : Nat → Prop) (c : Contour) : Prop where
  points : ∀ p, p ∈ c.points → PointOK ok p
  legal : C11.accepts (c.points.map toPt) = true
  ident : ∀ i, c.ident = some i → validIdent i = true

/-- the contours that come back: those with points, as the parser builds them (a contour without points is written as
    `<contour></contour>` and dropped by `end_path`) -/
def keepContours (cs : List Contour) : List Contour := (cs.filter (fun c => !c.points.isEmpty)).map pContour

theorem keepContours_of_nonempty {cs : List Contour} (h : ∀ c, c ∈ cs → c.points ≠ []) : keepContours cs = cs.map pContour := by
  unfold keepContours
  rw [List.filter_eq_self.2]
  intro c hc
  have := h c hc
  cases hp : c.points with
  | nil => exact absurd hp this
  | cons _ _ => simp

theorem toPt_pPoint (ps : List Point) : (ps.map pPoint).map toPt = ps.map toPt := by
  simp [List.map_map, Function.comp_def, toPt, pPoint]

def pNote : Option Str → Option Str
  | some n => if (trimText n).isEmpty then none else some (trimText n)
  | none => none

theorem foldl_cpInsert_nodup : ∀ (cs acc : List Nat), (acc ++ cs).Nodup → cs.foldl cpInsert acc = acc ++ cs := by
  intro cs
  induction cs with
  | nil => intro acc _; simp
  | cons c r ih =>
    intro acc h
    have hc : c ∉ acc := by
      intro hm
      exact (List.nodup_append.1 h).2.2 c hm c List.mem_cons_self rfl
    have : cpInsert acc c = acc ++ [c] := by simp [cpInsert, hc]
    rw [List.foldl_cons, this, ih (acc ++ [c]) (by simpa [List.append_assoc] using h)]
    simp [List.append_assoc]

structure ValidGlyph (ok : Nat → Prop) (g : Glyph) : Prop where
  name : validName g.name = true
  width : ok g.width
  height : ok g.height
  codepoints : ∀ c, c ∈ g.codepoints → ValidCodepoint c
  codepointsNodup : g.codepoints.Nodup
  image : ∀ i, g.image = some i → ValidImage ok i
  anchors : ∀ a, a ∈ g.anchors → AnchorOK ok a
  guidelines : ∀ a, a ∈ g.guidelines → GuidelineOK ok a
  contours : ∀ c, c ∈ g.contours → ContourOK' ok c
  components : ∀ k, k ∈ g.components → ComponentOK ok k
  idents : (Spec.glyphIdents g).Nodup

/-- the glyph the parser has built when it reaches `</glyph>`, before the object libs are moved -/
def preG (f : Fmt) (nc : Color → Color) (g : Glyph) : Glyph :=
  { name := g.name
    width := if isNormal g.width || isNormal g.height then (if nonZero g.width then g.width else 0) else 0
    height := if isNormal g.width || isNormal g.height then (if nonZero g.height then g.height else 0) else 0
    codepoints := g.codepoints
    note := pNote g.note
    guidelines := g.guidelines.map (pGuideline nc)
    anchors := g.anchors.map (pAnchor nc)
    components := g.components.map pComponent
    contours := keepContours g.contours
    image := g.image.map (pImage nc)
    lib := reindentDict f.indent (writtenLib g) }

theorem reindentDict_nil (ind : Str) : reindentDict ind [] = [] := by simp [reindentDict]

def oitsOf (g : Glyph) : List OIt :=
  g.contours.map (fun c => .contour c.ident (c.points.map .point)) ++ g.components.map .component

def itemsOf (f : Fmt) (g : Glyph) : List BIt :=
  g.codepoints.map .unicode ++
  (if isNormal g.width || isNormal g.height then [.advance g.width g.height] else []) ++
  (g.image.map BIt.image).toList ++
  (if !g.contours.isEmpty || !g.components.isEmpty then [.outline (oitsOf g)] else []) ++
  g.anchors.map .anchor ++ g.guidelines.map .guideline ++
  (if (writtenLib g).isEmpty then [] else [.lib (reindentDict f.indent (writtenLib g))]) ++
  (g.note.map fun n => BIt.note (pNote (some n))).toList

theorem flatMap_map_one {α β γ : Type} {g : β → List γ} {h : α → β} {k : α → γ} (e : ∀ a, g (h a) = [k a])
    (l : List α) : (l.map h).flatMap g = l.map k := by
  rw [List.flatMap_map, funext e, ← List.map_eq_flatMap]

theorem flatMap_map_opt {α β γ : Type} {g : β → List γ} {h : α → β} {k : α → Option γ}
    (e : ∀ a, g (h a) = (k a).toList) (l : List α) : (l.map h).flatMap g = l.filterMap k := by
  induction l with
  | nil => rfl
  | cons a r ih => rw [List.map_cons, List.flatMap_cons, e, ih]; cases h : k a <;> simp [h]

theorem flatMap_map_nil {α β γ : Type} {g : β → List γ} {h : α → β} (e : ∀ a, g (h a) = []) (l : List α) :
    (l.map h).flatMap g = [] := by
  rw [List.flatMap_map, funext e, List.flatMap_eq_nil_iff]; exact fun _ _ => rfl

theorem no_outline {g : Glyph} (h : ¬(!g.contours.isEmpty || !g.components.isEmpty) = true) :
    g.contours = [] ∧ g.components = [] := by
  cases hcs : g.contours <;> cases hks : g.components <;> simp_all

theorem render_itemsOf (f : Fmt) (g : Glyph) :
    render f ⟨[.decl], g.name, false, itemsOf f g, []⟩ = encodeGlif f g := by
  have hc : ∀ c : Contour, OIt.evs f (.contour c.ident (c.points.map .point)) = contourEvs f c := fun c => by
    rw [OIt.evs, flatMap_map_one (k := pointEv f) (fun _ => rfl), contourEvs]
  have ho : (oitsOf g).flatMap (OIt.evs f) =
      g.contours.flatMap (contourEvs f) ++ g.components.map (componentEv f) := by
    rw [oitsOf, List.flatMap_append, flatMap_map_one (k := componentEv f) (fun _ => rfl), List.flatMap_map]
    simp only [hc]
  have hu := flatMap_map_one (g := BIt.evs f) (h := BIt.unicode)
    (k := fun c => Ev.empty sUnicode (some [(sHex, showCodepoint c)])) (fun _ => rfl) g.codepoints
  have ha := flatMap_map_one (g := BIt.evs f) (h := BIt.anchor) (k := anchorEv f) (fun _ => rfl) g.anchors
  have hg := flatMap_map_one (g := BIt.evs f) (h := BIt.guideline) (k := guidelineEv f) (fun _ => rfl) g.guidelines
  have hn : ∀ n : Str, BIt.evs f (.note (pNote (some n))) =
      .start sNote (some []) :: ((if (trimText n).isEmpty then [] else [.text (some (trimText n))]) ++ [.close sNote]) :=
    fun n => by rw [pNote]; split <;> rfl
  unfold render encodeGlif itemsOf glyphStartAttrs
  -- two passes: first the blocks (with `hn` for the note), only then `BIt.evs` of the single items
  cases g.image <;> cases g.note <;>
    simp only [List.flatMap_append, apply_ite (List.flatMap (BIt.evs f)), List.flatMap_cons, List.flatMap_nil, List.append_nil, hn, hu, ha, hg,
      Option.map_none, Option.map_some, Option.toList_none, Option.toList_some, Bool.false_eq_true, if_false] <;>
    simp only [BIt.evs, ho, List.append_assoc, List.cons_append, List.nil_append]

theorem foldl_unicodes (nc : Color → Color) : ∀ (l : List Nat) (x : Glyph),
    (l.map BIt.unicode).foldl (applyG nc) x = { x with codepoints := l.foldl cpInsert x.codepoints }
  | [], _ => rfl
  | _ :: r, _ => foldl_unicodes nc r _

theorem foldl_anchors (nc : Color → Color) : ∀ (l : List Anchor) (x : Glyph),
    (l.map BIt.anchor).foldl (applyG nc) x = { x with anchors := x.anchors ++ l.map (pAnchor nc) }
  | [], x => by simp only [List.map_nil, List.append_nil, List.foldl_nil]
  | a :: r, x => by rw [List.map_cons, List.foldl_cons, foldl_anchors nc r, applyG, List.map_cons, List.append_assoc]; rfl

theorem foldl_guidelines (nc : Color → Color) : ∀ (l : List Guideline) (x : Glyph),
    (l.map BIt.guideline).foldl (applyG nc) x = { x with guidelines := x.guidelines ++ l.map (pGuideline nc) }
  | [], x => by simp only [List.map_nil, List.append_nil, List.foldl_nil]
  | a :: r, x => by
    rw [List.map_cons, List.foldl_cons, foldl_guidelines nc r, applyG, List.map_cons, List.append_assoc]; rfl

theorem foldl_components : ∀ (l : List Component) (ob : OB),
    (l.map OIt.component).foldl applyO ob = { ob with components := ob.components ++ l.map pComponent }
  | [], ob => by simp only [List.map_nil, List.append_nil, List.foldl_nil]
  | a :: r, ob => by rw [List.map_cons, List.foldl_cons, foldl_components r, applyO, List.map_cons, List.append_assoc]; rfl

theorem foldl_contours : ∀ (l : List Contour) (ob : OB),
    (l.map fun c => OIt.contour c.ident (c.points.map .point)).foldl applyO ob =
      { ob with contours := ob.contours ++ keepContours l }
  | [], ob => by simp only [keepContours, List.filter_nil, List.map_nil, List.append_nil, List.foldl_nil]
  | c :: r, ob => by
    have hp := flatMap_map_one (g := CIt.pts) (h := CIt.point) (k := pPoint) (fun _ => rfl) c.points
    rw [List.map_cons, List.foldl_cons, foldl_contours r, applyO, hp]
    cases hc : c.points <;> simp [keepContours, pContour, hc, List.append_assoc]

theorem interp_itemsOf (f : Fmt) (nc : Color → Color) {g : Glyph} (hcp : g.codepoints.Nodup) :
    interp nc ⟨[.decl], g.name, false, itemsOf f g, []⟩ = preG f nc g := by
  have hA : ∀ (x : Glyph) (c : Prop) [Decidable c] (w h : Nat),
      (if c then [BIt.advance w h] else []).foldl (applyG nc) x =
        { x with width := if c then (if nonZero w then w else 0) else x.width,
                 height := if c then (if nonZero h then h else 0) else x.height } := by
    intro x c _ w h
    by_cases hc : c <;> simp only [hc, if_true, if_false, List.foldl_cons, List.foldl_nil, applyG]
  have hI : ∀ x : Glyph, x.image = none →
      (g.image.map BIt.image).toList.foldl (applyG nc) x = { x with image := g.image.map (pImage nc) } := by
    intro x hx
    cases x; cases hx
    cases g.image <;> rfl
  have hO : ∀ x : Glyph,
      (if !g.contours.isEmpty || !g.components.isEmpty then [BIt.outline (oitsOf g)] else []).foldl (applyG nc) x =
        { x with contours := x.contours ++ keepContours g.contours,
                 components := x.components ++ g.components.map pComponent } := by
    intro x
    have ho : (oitsOf g).foldl applyO {} = { contours := keepContours g.contours, components := g.components.map pComponent } := by
      rw [oitsOf, List.foldl_append, foldl_contours, foldl_components]; rfl
    split
    · simp only [List.foldl_cons, List.foldl_nil, applyG, ho]
    · rename_i hc
      obtain ⟨h1, h2⟩ := no_outline hc
      simp only [h1, h2, keepContours, List.filter_nil, List.map_nil, List.append_nil, List.foldl_nil]
  have hL : ∀ x : Glyph, x.lib = [] →
      (if (writtenLib g).isEmpty then [] else [BIt.lib (reindentDict f.indent (writtenLib g))]).foldl (applyG nc) x =
        { x with lib := reindentDict f.indent (writtenLib g) } := by
    intro x hx
    cases x; cases hx
    split
    · rename_i he
      rw [List.isEmpty_iff.1 he, reindentDict_nil]; rfl
    · rfl
  have hN : ∀ x : Glyph, x.note = none →
      (g.note.map fun n => BIt.note (pNote (some n))).toList.foldl
        (applyG nc) x = { x with note := pNote g.note } := by
    intro x hx
    cases x; cases hx
    cases g.note with
    | none => rfl
    | some n =>
      simp only [Option.map_some, Option.toList_some, List.foldl_cons, List.foldl_nil, pNote]
      split <;> rfl
  rw [interp, foldl_applyB_g, itemsOf]
  simp only [List.foldl_append, foldl_unicodes, hA, hI, hO, foldl_anchors, foldl_guidelines, hL, hN]
  rw [show g.codepoints.foldl cpInsert [] = g.codepoints from by
    simpa using foldl_cpInsert_nodup g.codepoints [] (by simpa using hcp)]
  rfl

theorem countP_optMap {α β : Type} (p : β → Bool) (h : α → β) (o : Option α) :
    (o.map h).toList.countP p = if (o.map (fun a => p (h a))) = some true then 1 else 0 := by
  cases o with
  | none => rfl
  | some a => cases hp : p (h a) <;> simp [hp]

theorem legal_itemsOf (f : Fmt) {g : Glyph} (hv : ValidGlyph ok g) : LegalItems ok (itemsOf f g) := by
  refine ⟨?valid, ?ids, ?_, ?_, ?_, ?_, ?_⟩
  case valid =>
    intro it hit
    simp only [itemsOf, List.mem_append, List.mem_map, Option.mem_toList, Option.map_eq_some_iff, List.mem_ite_nil_right,
      List.mem_ite_nil_left, List.mem_singleton] at hit
    rcases hit with ((((((⟨c, hc, rfl⟩ | ⟨_, rfl⟩) | ⟨i, hi, rfl⟩) | ⟨_, rfl⟩) | ⟨a, ha, rfl⟩) | ⟨a, ha, rfl⟩) |
      ⟨_, rfl⟩) | ⟨n, _, rfl⟩
    · exact hv.codepoints c hc
    · exact ⟨hv.width, hv.height⟩
    · exact hv.image i hi
    · intro o ho
      rcases List.mem_append.1 ho with ho | ho
      · obtain ⟨c, hc, rfl⟩ := List.mem_map.1 ho
        refine ⟨fun it hit => ?_, ?_, (hv.contours c hc).ident⟩
        · obtain ⟨p, hp, rfl⟩ := List.mem_map.1 hit
          exact (hv.contours c hc).points p hp
        · rw [flatMap_map_one (g := CIt.pts) (k := pPoint) (fun _ => rfl), toPt_pPoint]
          exact (hv.contours c hc).legal
      · obtain ⟨k, hk, rfl⟩ := List.mem_map.1 ho
        exact hv.components k hk
    · exact hv.anchors a ha
    · exact hv.guidelines a ha
    · trivial
    · trivial
  case ids =>
    have e : (itemsOf f g).flatMap BIt.ids = (g.contours.flatMap cIds ++ g.components.filterMap (·.ident)) ++
        g.anchors.filterMap (·.ident) ++ g.guidelines.filterMap (·.ident) := by
      have hcs : ∀ c : Contour, OIt.ids (.contour c.ident (c.points.map .point)) = cIds c := fun c => by
        rw [OIt.ids, flatMap_map_opt (g := CIt.ids) (k := Point.ident) (fun _ => rfl), cIds]
      have hO : (if !g.contours.isEmpty || !g.components.isEmpty then [BIt.outline (oitsOf g)] else []).flatMap BIt.ids =
          g.contours.flatMap cIds ++ g.components.filterMap (·.ident) := by
        split
        · rw [List.flatMap_singleton, BIt.ids, oitsOf, List.flatMap_append, List.flatMap_map,
            flatMap_map_opt (g := OIt.ids) (k := Component.ident) (fun _ => rfl)]
          simp only [hcs]
        · rename_i hc
          obtain ⟨h1, h2⟩ := no_outline hc
          rw [h1, h2]; rfl
      unfold itemsOf
      cases g.image <;> cases g.note <;>
        simp only [List.flatMap_append, hO, apply_ite (List.flatMap BIt.ids), List.flatMap_cons, List.flatMap_nil, BIt.ids, List.append_nil,
          ite_self, Option.map_none, Option.map_some, Option.toList_none, Option.toList_some, List.nil_append,
          flatMap_map_nil (g := BIt.ids) (h := BIt.unicode) (fun _ => rfl),
          flatMap_map_opt (g := BIt.ids) (h := BIt.anchor) (k := Anchor.ident) (fun _ => rfl),
          flatMap_map_opt (g := BIt.ids) (h := BIt.guideline) (k := Guideline.ident) (fun _ => rfl)]
    have := hv.idents
    rw [Spec.glyphIdents, ← cIds_def, List.append_assoc] at this
    rw [e, List.append_assoc]
    exact List.perm_append_comm.nodup_iff.1 this
  -- each of advance, outline, lib, note, image comes from one summand of `itemsOf`, of at most one element; the others count 0
  all_goals
    simp only [itemsOf, List.countP_append, apply_ite (List.countP _), countP_optMap, List.countP_cons, List.countP_nil, BIt.isAdvance,
      BIt.isOutline, BIt.isLib, BIt.isNote, BIt.isImage, List.countP_map, Function.comp_def, List.countP_false, Function.const,
      Option.map_eq_some_iff, Bool.false_eq_true, and_false, exists_false, if_false, if_true, ite_self, Nat.zero_add, Nat.add_zero]
    split <;> decide

/-- **parse ∘ encode, up to the object libs**: for every valid glyph the parser gets through what the writer produces and
    arrives at `</glyph>` with exactly `preG`; what is returned is `load_object_libs` of it (which can be an error: `g.lib`
    itself may hold a `public.objectLibs` that is not a dictionary) -/
theorem parse_encode (hc : Codec f rd nc ok) {g : Glyph} (hv : ValidGlyph ok g) :
    parseGlif rd (encodeGlif f g) = loadObjectLibs (preG f nc g) := by
  rw [← render_itemsOf, ← interp_itemsOf f nc hv.codepointsNodup]
  exact legal_accepted_gdoc hc _ (fun e he => by cases List.mem_singleton.1 he; rfl) hv.name (legal_itemsOf f hv)

end

end Glif
