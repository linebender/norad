import Norad.Lemmas.FontInfo
/-! Source-level tie of the typed deserialisers (C13): the tables `tools/extract_fontinfo_deser.py` regenerates
    from the Rust are INTERPRETED here as an acceptor of file-level font info (`acceptUsed`), and the acceptor over
    the mirrored literals of the model is proved to be `(deser r).isSome` for every `r`.  Nothing here mentions the
    generated file; `Props/C13.lean` instantiates it. -/
namespace C13
open FI

/-- the tables of `Generated.FontInfoDeser` the model's `deser` has a counterpart for -/
structure DeserTables where
  aliases : List (String × String)
  typedFields : List (String × String)
  styleNamesRead : List (String × String)
  reprEnums : List (String × String × List Nat)
  fixedLen : List (String × String × Nat × List Nat)
  records : List (String × Bool × List (String × String))
  guidelineTable : List (Nat × Nat × Nat × Nat)
  guidelineAngleRange : Nat × Nat

/-- largest value of a Rust unsigned integer type (serde refuses a plist integer outside the type) -/
def primMax : String → Option Nat
  | "u8" => some 255
  | "u16" => some 65535
  | "u32" => some u32Max
  | _ => none

def vecElemMax : String → Option Nat
  | "Vec<u8>" => some 255
  | "Vec<u16>" => some 65535
  | "Vec<u32>" => some u32Max
  | _ => none

def lookupS {β} (t : List (String × β)) (k : String) : Option β :=
  match t.find? (fun p => p.1 == k) with
  | some p => some p.2
  | none => none

/-- what the acceptor needs, looked up the way serde resolves it: member -> type -> impl / derive -/
structure Used where
  gaspPpemMax : Nat
  selectionMax : Nat
  /-- (required length, element bound, indices read) -/
  familyClass : Nat × Nat × List Nat
  panose : Nat × Nat × List Nat
  /-- (bound of the repr type, discriminants) -/
  widthClass : Nat × List Nat
  charSet : Nat × List Nat
  styleNames : List String
  guideTable : List (Nat × Nat × Nat × Nat)
  angleRange : Nat × Nat
  deriving DecidableEq, Repr

def resolveTy (t : DeserTables) (s : String) : String :=
  match lookupS t.aliases s with
  | some r => r
  | none => s

def fixedOf (t : DeserTables) (member ty : String) : Option (Nat × Nat × List Nat) :=
  match lookupS t.typedFields member with
  | some ty' =>
    if ty' == ty then
      match lookupS t.fixedLen ty with
      | some (e, n, idx) =>
        (match primMax (resolveTy t e) with
         | some m => some (n, m, idx)
         | none => none)
      | none => none
    else none
  | none => none

def enumOf (t : DeserTables) (member ty : String) : Option (Nat × List Nat) :=
  match lookupS t.typedFields member with
  | some ty' =>
    if ty' == ty then
      match lookupS t.reprEnums ty with
      | some (rt, ds) =>
        (match primMax rt with
         | some m => some (m, ds)
         | none => none)
      | none => none
    else none
  | none => none

/-- `open_type_gasp_range_records: Vec<GaspRangeRecord>`, the record's `rangeMaxPPEM` -/
def gaspOf (t : DeserTables) : Option Nat :=
  match lookupS t.typedFields "open_type_gasp_range_records" with
  | some "Vec<GaspRangeRecord>" =>
    (match lookupS t.records "GaspRangeRecord" with
     | some (_, members) =>
       (match lookupS members "rangeMaxPPEM" with
        | some ty => primMax ty
        | none => none)
     | none => none)
  | _ => none

def usedBy (t : DeserTables) : Option Used :=
  match gaspOf t, (lookupS t.typedFields "open_type_os2_selection").bind vecElemMax,
        fixedOf t "open_type_os2_family_class" "Os2FamilyClass", fixedOf t "open_type_os2_panose" "Os2Panose",
        enumOf t "open_type_os2_width_class" "Os2WidthClass",
        enumOf t "postscript_windows_character_set" "PostscriptWindowsCharacterSet",
        lookupS t.typedFields "style_map_style_name", lookupS t.typedFields "guidelines" with
  | some g, some s, some fc, some pa, some wc, some cs, some "StyleMapStyle", some "Vec<Guideline>" =>
    some { gaspPpemMax := g, selectionMax := s, familyClass := fc, panose := pa, widthClass := wc, charSet := cs,
           styleNames := t.styleNamesRead.map (·.1), guideTable := t.guidelineTable,
           angleRange := t.guidelineAngleRange }
  | _, _, _, _, _, _, _, _ => none

def inU (m : Nat) (z : Int) : Bool := decide (0 ≤ z ∧ z ≤ Int.ofNat m)

def optAll {α} (f : α → Bool) : Option α → Bool
  | none => true
  | some a => f a

/-- `(lo..=hi).contains(&d)` for natural bounds: `-0.0` is inside exactly when `lo = 0`; every other negative value, NaN
    and the infinities are outside -/
def dblInRange (lo hi : Nat) : Dbl → Bool
  | .nan => false
  | .inf _ => false
  | .fin neg m up down =>
    if neg then m == 0 && lo == 0
    else decide (lo * Dbl.den down ≤ Dbl.num m up) && decide (Dbl.num m up ≤ hi * Dbl.den down)

/-- a key of the guideline truth table: member present = 1 -/
def b2n (b : Bool) : Nat := if b then 1 else 0

/-- the row of the truth table for (x, y, angle present): 0 vertical, 1 horizontal, 2 angled (range-tested), 3 refused;
    a combination without a row is refused -/
def guideOutcome (tab : List (Nat × Nat × Nat × Nat)) (x y a : Bool) : Nat :=
  match tab.find? (fun r => r.1 == b2n x && r.2.1 == b2n y && r.2.2.1 == b2n a) with
  | some r => r.2.2.2
  | none => 3

def guideOKWith (u : Used) (g : RawGuide) : Bool :=
  match guideOutcome u.guideTable g.x g.y g.angle.isSome, g.angle with
  | 0, _ => true
  | 1, _ => true
  | 2, some d => dblInRange u.angleRange.1 u.angleRange.2 d
  | _, _ => false

/-- the indices read (third component) do not enter the acceptor; only `usedBy GenDeser = some ModelUsed` compares them -/
def fixedOK (spec : Nat × Nat × List Nat) (v : List Int) : Bool :=
  v.all (inU spec.2.1) && v.length == spec.1

def enumOK (spec : Nat × List Nat) (z : Int) : Bool :=
  inU spec.1 z && spec.2.contains z.toNat

def acceptUsed (u : Used) (r : RawInfo) : Bool :=
  optAll (·.all (inU u.gaspPpemMax)) r.gasp &&
  optAll (·.all (guideOKWith u)) r.guidelines &&
  optAll (·.all (inU u.selectionMax)) r.selection &&
  optAll (fixedOK u.familyClass) r.familyClass &&
  optAll (fixedOK u.panose) r.panose &&
  optAll (enumOK u.widthClass) r.widthClass &&
  optAll (enumOK u.charSet) r.winCharSet &&
  optAll (fun s => u.styleNames.any (fun n => n.toList == s)) r.styleMap

/-- the literals of `Model/FontInfo.lean` (`deserWith`), mirrored -/
def ModelUsed : Used :=
  { gaspPpemMax := u32Max, selectionMax := 255,
    familyClass := (2, 255, [0, 1]),
    panose := (10, u32Max, [0, 1, 2, 3, 4, 5, 6, 7, 8, 9]),
    widthClass := (255, [1, 2, 3, 4, 5, 6, 7, 8, 9]),
    charSet := (255, [1, 2, 3, 4, 5, 6, 7, 8, 9, 10, 11, 12, 13, 14, 15, 16, 17, 18, 19, 20]),
    styleNames := ["bold", "bold italic", "italic", "regular"],
    guideTable := [(0, 0, 0, 3), (0, 0, 1, 3), (0, 1, 0, 1), (0, 1, 1, 3), (1, 0, 0, 0), (1, 0, 1, 3),
                   (1, 1, 0, 3), (1, 1, 1, 2)],
    angleRange := (0, 360) }

theorem inU_iff (m : Nat) (z : Int) : inU m z = true ↔ 0 ≤ z ∧ z ≤ (m : Int) := decide_eq_true_iff

theorem narrow_isSome (m : Nat) (z : Int) : (narrow m z).isSome = inU m z := by
  unfold narrow inU
  by_cases h : 0 ≤ z ∧ z ≤ Int.ofNat m
  · rw [if_pos h, decide_eq_true h]; rfl
  · rw [if_neg h, decide_eq_false h]; rfl

theorem mapAll_isSome {α β} (f : α → Option β) : ∀ l : List α,
    (mapAll f l).isSome = l.all (fun a => (f a).isSome)
  | [] => rfl
  | a :: r => by
    rw [mapAll, List.all_cons, ← mapAll_isSome f r]
    cases f a <;> cases mapAll f r <;> rfl

theorem mapAll_length {α β} {f : α → Option β} : ∀ {l : List α} {t : List β}, mapAll f l = some t →
    t.length = l.length
  | [], _, h => by cases h; rfl
  | a :: r, t, h => by
    rw [mapAll] at h
    cases h1 : f a <;> cases h2 : mapAll f r <;> rw [h1, h2] at h <;> cases h
    rw [List.length_cons, List.length_cons, mapAll_length h2]

theorem narrowAll_isSome (m : Nat) (l : List Int) : (narrowAll m l).isSome = l.all (inU m) := by
  rw [narrowAll_eq_mapAll, mapAll_isSome]
  congr 1; funext z; exact narrow_isSome m z

theorem optMap_isSome {α β} (f : α → Option β) (o : Option α) :
    (optMap f o).isSome = optAll (fun a => (f a).isSome) o := by
  cases o with
  | none => rfl
  | some a => simp [optMap, optAll]

theorem dblInRange_0_360 (d : Dbl) : dblInRange 0 360 d = d.in0to360 := by
  cases d with
  | nan => rfl
  | inf n => rfl
  | fin neg m up down => cases neg <;> simp [dblInRange, Dbl.in0to360]

theorem guideOK_model (g : RawGuide) : guideOKWith ModelUsed g = (deserGuide g).isSome := by
  obtain ⟨x, y, a, id⟩ := g
  cases x <;> cases y <;> cases a <;> try rfl
  -- x, y and an angle `d`: both sides test the range
  next d =>
  show dblInRange 0 360 d = _
  rw [dblInRange_0_360]
  simp only [deserGuide, shapeGuide, angleBad]
  by_cases h : d.in0to360 = true <;> simp [h]

theorem fixedOK_eq (spec : Nat × Nat × List Nat) (v : List Int) :
    fixedOK spec v = match narrowAll spec.2.1 v with | some t => t.length == spec.1 | none => false := by
  unfold fixedOK
  rw [← narrowAll_isSome]
  cases hn : narrowAll spec.2.1 v with
  | none => rfl
  | some t => rw [← mapAll_length (narrowAll_eq_mapAll _ v ▸ hn)]; rfl

theorem familyClass_model (v : List Int) :
    fixedOK ModelUsed.familyClass v = (deserFamilyClass v).isSome := by
  rw [fixedOK_eq, deserFamilyClass]
  show (match narrowAll 255 v with | some t => t.length == 2 | none => false) = _
  cases narrowAll 255 v with
  | none => rfl
  | some t => match t with
    | [] | [_] | [_, _] => rfl
    | _ :: _ :: _ :: _ => simp

theorem panose_model (v : List Int) : fixedOK ModelUsed.panose v = deserPanoseOk v := fixedOK_eq _ v

open DeserRuleTable in
theorem enumOK_range (m lo hi : Nat) (h : hi ≤ m) (w : Int) :
    enumOK (m, rangeList (lo, hi)) w = decide ((lo : Int) ≤ w ∧ w ≤ hi) := by
  rw [Bool.eq_iff_iff, enumOK, Bool.and_eq_true, inU_iff, decide_eq_true_iff, List.contains_iff_mem, rangeList,
    List.mem_range'_1]
  omega

theorem widthClass_model (w : Int) : enumOK ModelUsed.widthClass w = decide (1 ≤ w ∧ w ≤ 9) :=
  enumOK_range 255 1 9 (by decide) w

theorem charSet_model (w : Int) : enumOK ModelUsed.charSet w = decide (1 ≤ w ∧ w ≤ 20) :=
  enumOK_range 255 1 20 (by decide) w

theorem styleMap_model (s : List Char) :
    ModelUsed.styleNames.any (fun n => n.toList == s) = styleNames.contains s := by
  simp only [ModelUsed, styleNames, List.any_cons, List.any_nil, List.contains_cons, List.contains_nil,
    Bool.or_false]
  rw [Bool.eq_iff_iff]
  simp only [Bool.or_eq_true, beq_iff_eq, eq_comm (a := s)]
  constructor <;> rintro (h | h | h | h) <;> simp [h]

theorem deser_isSome (r : RawInfo) : (deser r).isSome =
    ((optMap (narrowAll u32Max) r.gasp).isSome && (optMap (deserGuides true) r.guidelines).isSome &&
     (optMap (narrowAll 255) r.selection).isSome && (optMap deserFamilyClass r.familyClass).isSome &&
     optAll deserPanoseOk r.panose && optAll (fun w => decide (1 ≤ w ∧ w ≤ 9)) r.widthClass &&
     optAll (fun w => decide (1 ≤ w ∧ w ≤ 20)) r.winCharSet && optAll styleNames.contains r.styleMap) := by
  have ite_isSome : ∀ (c : Bool) (x : Info), (if c = true then some x else none).isSome = c := fun c x => by
    cases c <;> rfl
  unfold deser deserWith
  -- the outer match yields a value exactly when all four narrowings do ...
  cases optMap (narrowAll u32Max) r.gasp <;> cases optMap (deserGuides true) r.guidelines <;>
    cases optMap (narrowAll 255) r.selection <;> cases optMap deserFamilyClass r.familyClass <;>
    simp only [ite_isSome, Option.isSome_some, Option.isSome_none, Bool.true_and, Bool.false_and, Bool.and_false]
  -- ... and then the condition of the `if`: each of its four matches on an optional member is an `optAll`
  cases r.panose <;> cases r.widthClass <;> cases r.winCharSet <;> cases r.styleMap <;> rfl

/-- over the mirrored literals the interpreted acceptor is the typed layer of the model, for every value -/
theorem model_deser_tables_describe_deser (r : RawInfo) : acceptUsed ModelUsed r = (deser r).isSome := by
  have style : styleNames.contains = fun s => ModelUsed.styleNames.any (fun n => n.toList == s) :=
    funext fun s => (styleMap_model s).symm
  have panose : deserPanoseOk = fixedOK ModelUsed.panose := funext fun v => (panose_model v).symm
  simp only [deser_isSome, optMap_isSome, narrowAll_isSome, deserGuides, if_true, mapAll_isSome, ← guideOK_model,
    ← familyClass_model, ← widthClass_model, ← charSet_model, style, panose]
  rfl

end C13
