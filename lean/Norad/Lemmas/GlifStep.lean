import Norad.Model.Glif
/-!
`step` dispatches on the mode of the state, then on the event, then on the element name.  Where the model then takes the
attributes apart by an inline `match`, the level function gets an equation with the `match`es folded into `elemArm`;
from these, `step_…` for a state whose mode is known.  The other arms are plain `if`s in the model and are read as they
stand.  No other module unfolds `step` or takes such a `match` apart.
-/
namespace Glif

/-- each name `bodyEmpty` tests against those tested before it; `bodyOnly`: the glyph-level names against the others -/
structure ElemNamesNe : Prop where
  advance : sAdvance ≠ sOutline
  unicode : sUnicode ≠ sOutline ∧ sUnicode ≠ sAdvance
  anchor : sAnchor ≠ sOutline ∧ sAnchor ≠ sAdvance ∧ sAnchor ≠ sUnicode
  guideline : sGuideline ≠ sOutline ∧ sGuideline ≠ sAdvance ∧ sGuideline ≠ sUnicode ∧ sGuideline ≠ sAnchor
  image : sImage ≠ sOutline ∧ sImage ≠ sAdvance ∧ sImage ≠ sUnicode ∧ sImage ≠ sAnchor ∧ sImage ≠ sGuideline
  bodyOnly : ∀ n ∈ [sOutline, sAdvance, sUnicode, sAnchor, sGuideline, sImage], n ≠ sContour ∧ n ≠ sComponent ∧ n ≠ sPoint ∧
    n ≠ sNote ∧ n ≠ sLib ∧ n ≠ sGlyph
  note : sNote ≠ sOutline
  component : sComponent ≠ sContour

theorem elemNames : ElemNamesNe := by
  constructor <;>
  · dsimp only [sGlyph, sOutline, sLib, sNote, sAdvance, sUnicode, sAnchor, sGuideline, sImage, sContour, sComponent, sPoint]
    -- as lists of characters the names are compared without decoding a string literal
    repeat rw [String.toList_ofList]
    decide +kernel

def elemArm {β : Type} (nm : String) (p : List Attr → Option β) (k : β → PS) (a : Option (List Attr)) : StepRes :=
  match a with
  | none => .error .xml
  | some as => match p as with
    | none => .error (.badElement nm)
    | some x => cont (k x)

section
variable {β : Type} {nm : String} {p : List Attr → Option β} {k : β → PS}

theorem elemArm_some {as : List Attr} {x : β} (h : p as = some x) : elemArm nm p k (some as) = .ok (.inl (k x)) := by
  simp only [elemArm, h, cont]

theorem elemArm_none {as : List Attr} (h : p as = none) : elemArm nm p k (some as) = .error (.badElement nm) := by
  simp only [elemArm, h]

theorem elemArm_error {a : Option (List Attr)} (h : ∀ as, a = some as → p as = none) : ∃ e, elemArm nm p k a = .error e := by
  rcases a with _ | as
  · exact ⟨_, rfl⟩
  · exact ⟨_, elemArm_none (h as rfl)⟩

theorem elemArm_ok {a : Option (List Attr)} {r : PS ⊕ Glyph} (h : elemArm nm p k a = .ok r) :
    ∃ as x, a = some as ∧ p as = some x ∧ r = .inl (k x) := by
  rcases a with _ | as
  · cases h
  · cases hx : p as with
    | none => rw [elemArm_none hx] at h; cases h
    | some x => rw [elemArm_some hx] at h; cases h; exact ⟨as, x, rfl, hx, rfl⟩

theorem elemArm_congr {as as' : List Attr} (h : p as = p as') : elemArm nm p k (some as) = elemArm nm p k (some as') := by
  simp only [elemArm, h]

end

section
variable {rd : Str → Option Nat}

theorem bodyEmpty_eq (s : PS) (n : Str) (a : Option (List Attr)) : bodyEmpty rd s n a =
    if n = sOutline then
      (if s.seenOutline then .error (.duplicateElement "outline") else cont { s with seenOutline := true })
    else if n = sAdvance then
      (if s.seenAdvance then .error (.duplicateElement "advance") else
        elemArm "advance" (parseAdvance rd)
          (fun wh => { s with seenAdvance := true, g := { s.g with width := wh.1, height := wh.2 } }) a)
    else if n = sUnicode then
      elemArm "unicode" (parseUnicode s.g.codepoints) (fun cps => { s with g := { s.g with codepoints := cps } }) a
    else if n = sAnchor then
      (if s.ver = 1 then .error (.unexpectedV1Element "anchor") else
        elemArm "anchor" (parseAnchor rd s.ver s.seen)
          (fun x => { s with seen := addSeen s.seen x.ident, g := { s.g with anchors := s.g.anchors ++ [x] } }) a)
    else if n = sGuideline then
      (if s.ver = 1 then .error (.unexpectedV1Element "guideline") else
        elemArm "guideline" (parseGuideline rd s.ver s.seen)
          (fun x => { s with seen := addSeen s.seen x.ident, g := { s.g with guidelines := s.g.guidelines ++ [x] } }) a)
    else if n = sImage then
      (if s.ver = 1 then .error (.unexpectedV1Element "image")
       else if s.g.image.isSome then .error (.duplicateElement "image") else
        elemArm "image" (parseImage rd) (fun x => { s with g := { s.g with image := some x } }) a)
    else .error .unexpectedElement := by
  unfold bodyEmpty
  rcases a with _ | as
  · rfl
  · -- one line per name tested; what is left under the `if`s is `match p as with …` against `elemArm … (some as)`:
    -- the same two cases, under another matcher
    refine ite_congr rfl (fun _ => rfl) fun _ =>
      ite_congr rfl (fun _ => ite_congr rfl (fun _ => rfl) fun _ => ?advance) fun _ =>
      ite_congr rfl (fun _ => ?unicode) fun _ =>
      ite_congr rfl (fun _ => ite_congr rfl (fun _ => rfl) fun _ => ?anchor) fun _ =>
      ite_congr rfl (fun _ => ite_congr rfl (fun _ => rfl) fun _ => ?guideline) fun _ =>
      ite_congr rfl (fun _ => ite_congr rfl (fun _ => rfl) fun _ => ite_congr rfl (fun _ => rfl) fun _ => ?image) fun _ => rfl
    all_goals dsimp only [elemArm]
    case advance => rcases parseAdvance rd as with _ | ⟨w, h⟩ <;> rfl
    case unicode => cases parseUnicode s.g.codepoints as <;> rfl
    case anchor => cases parseAnchor rd s.ver s.seen as <;> rfl
    case guideline => cases parseGuideline rd s.ver s.seen as <;> rfl
    case image => cases parseImage rd as <;> rfl

section
variable (s : PS) (a : Option (List Attr))

theorem bodyEmpty_outline : bodyEmpty rd s sOutline a =
    if s.seenOutline then .error (.duplicateElement "outline") else cont { s with seenOutline := true } := by
  rw [bodyEmpty_eq, if_pos rfl]

theorem bodyEmpty_advance : bodyEmpty rd s sAdvance a =
    if s.seenAdvance then .error (.duplicateElement "advance") else
    elemArm "advance" (parseAdvance rd)
      (fun wh => { s with seenAdvance := true, g := { s.g with width := wh.1, height := wh.2 } }) a := by
  rw [bodyEmpty_eq, if_neg elemNames.advance, if_pos rfl]

theorem bodyEmpty_unicode : bodyEmpty rd s sUnicode a =
    elemArm "unicode" (parseUnicode s.g.codepoints) (fun cps => { s with g := { s.g with codepoints := cps } }) a := by
  obtain ⟨h1, h2⟩ := elemNames.unicode
  rw [bodyEmpty_eq, if_neg h1, if_neg h2, if_pos rfl]

theorem bodyEmpty_anchor : bodyEmpty rd s sAnchor a =
    if s.ver = 1 then .error (.unexpectedV1Element "anchor") else
    elemArm "anchor" (parseAnchor rd s.ver s.seen)
      (fun x => { s with seen := addSeen s.seen x.ident, g := { s.g with anchors := s.g.anchors ++ [x] } }) a := by
  obtain ⟨h1, h2, h3⟩ := elemNames.anchor
  rw [bodyEmpty_eq, if_neg h1, if_neg h2, if_neg h3, if_pos rfl]

theorem bodyEmpty_guideline : bodyEmpty rd s sGuideline a =
    if s.ver = 1 then .error (.unexpectedV1Element "guideline") else
    elemArm "guideline" (parseGuideline rd s.ver s.seen)
      (fun x => { s with seen := addSeen s.seen x.ident, g := { s.g with guidelines := s.g.guidelines ++ [x] } }) a := by
  obtain ⟨h1, h2, h3, h4⟩ := elemNames.guideline
  rw [bodyEmpty_eq, if_neg h1, if_neg h2, if_neg h3, if_neg h4, if_pos rfl]

theorem bodyEmpty_image : bodyEmpty rd s sImage a =
    if s.ver = 1 then .error (.unexpectedV1Element "image")
    else if s.g.image.isSome then .error (.duplicateElement "image") else
    elemArm "image" (parseImage rd) (fun x => { s with g := { s.g with image := some x } }) a := by
  obtain ⟨h1, h2, h3, h4, h5⟩ := elemNames.image
  rw [bodyEmpty_eq, if_neg h1, if_neg h2, if_neg h3, if_neg h4, if_neg h5, if_pos rfl]

end

theorem bodyStart_outline (s : PS) : bodyStart s sOutline =
    if s.seenOutline then .error (.duplicateElement "outline") else cont { s with seenOutline := true, mode := .outline {} } := by
  rw [bodyStart, if_pos rfl]

theorem bodyStart_note (s : PS) : bodyStart s sNote =
    if s.ver = 1 then .error (.unexpectedV1Element "note")
    else if s.g.note.isSome then .error (.duplicateElement "note") else cont { s with mode := .note } := by
  rw [bodyStart, if_neg elemNames.note, if_pos rfl]

section
variable {s : PS} (hm : s.mode = .body)
include hm

theorem step_body (e : Ev) : step rd s e = stepBody rd s e := by rw [step, hm]

theorem step_empty (n : Str) (a : Option (List Attr)) : step rd s (.empty n a) = bodyEmpty rd s n a := step_body hm _
theorem step_start (n : Str) (a : Option (List Attr)) : step rd s (.start n a) = bodyStart s n := step_body hm _

theorem step_startLib (a : Option (List Attr)) (v : LibV) : step rd s (.startLib a v) =
    if s.seenLib then .error (.duplicateElement "lib") else cont { s with seenLib := true, mode := .lib v } := step_body hm _

theorem step_start_outline (a : Option (List Attr)) : step rd s (.start sOutline a) =
    if s.seenOutline then .error (.duplicateElement "outline") else cont { s with seenOutline := true, mode := .outline {} } :=
  (step_start hm _ a).trans (bodyStart_outline s)

theorem step_close_glyph : step rd s (.close sGlyph) =
    match loadObjectLibs s.g with
    | .ok g => .ok (.inr g)
    | .error k => .error k := by
  rw [step_body hm]; dsimp only [stepBody]; rw [if_pos rfl]
  cases loadObjectLibs s.g <;> rfl

end

theorem step_comment (s : PS) : step rd s .comment = .ok (.inl s) := by
  unfold step
  cases s.mode <;> rfl

theorem stepOutline_start (s : PS) (ob : OB) (n : Str) (a : Option (List Attr)) : stepOutline rd s ob (.start n a) =
    if n = sContour then
      elemArm "contour" (parseContourAttrs s.ver s.seen)
        (fun cid => { s with seen := addSeen s.seen cid, mode := .contour ob cid [] }) a
    else .error .unexpectedElement := by
  refine ite_congr rfl (fun _ => ?_) fun _ => rfl
  rcases a with _ | as
  · rfl
  · dsimp only [elemArm]; cases parseContourAttrs s.ver s.seen as <;> rfl

theorem stepOutline_empty (s : PS) (ob : OB) (n : Str) (a : Option (List Attr)) : stepOutline rd s ob (.empty n a) =
    if n = sContour then cont s
    else if n = sComponent then
      elemArm "component" (parseComponent rd s.ver s.seen)
        (fun c => { s with seen := addSeen s.seen c.ident, mode := .outline { ob with components := ob.components ++ [c] } }) a
    else .error .unexpectedElement := by
  refine ite_congr rfl (fun _ => rfl) fun _ => ite_congr rfl (fun _ => ?_) fun _ => rfl
  rcases a with _ | as
  · rfl
  · dsimp only [elemArm]; cases parseComponent rd s.ver s.seen as <;> rfl

section
variable {s : PS} {ob : OB} (hm : s.mode = .outline ob)
include hm

theorem step_outline (e : Ev) : step rd s e = stepOutline rd s ob e := by rw [step, hm]

theorem step_start_contour (a : Option (List Attr)) : step rd s (.start sContour a) =
    elemArm "contour" (parseContourAttrs s.ver s.seen)
      (fun cid => { s with seen := addSeen s.seen cid, mode := .contour ob cid [] }) a := by
  rw [step_outline hm, stepOutline_start, if_pos rfl]

theorem step_empty_contour (a : Option (List Attr)) : step rd s (.empty sContour a) = .ok (.inl s) := by
  rw [step_outline hm, stepOutline_empty, if_pos rfl]; rfl

theorem step_empty_component (a : Option (List Attr)) : step rd s (.empty sComponent a) =
    elemArm "component" (parseComponent rd s.ver s.seen)
      (fun c => { s with seen := addSeen s.seen c.ident, mode := .outline { ob with components := ob.components ++ [c] } })
      a := by
  rw [step_outline hm, stepOutline_empty, if_neg elemNames.component, if_pos rfl]

theorem step_close_outline : step rd s (.close sOutline) = .ok (.inl (finishOutline s ob)) := by
  rw [step_outline hm]; dsimp only [stepOutline]; rw [if_pos rfl]; rfl

end

theorem stepContour_empty (s : PS) (ob : OB) (cid : Option Str) (pts : List Point) (n : Str) (a : Option (List Attr)) :
    stepContour rd s ob cid pts (.empty n a) =
    if n = sPoint then
      elemArm "point" (parsePoint rd s.ver s.seen)
        (fun p => { s with seen := addSeen s.seen p.ident, mode := .contour ob cid (pts ++ [p]) }) a
    else .error .unexpectedElement := by
  refine ite_congr rfl (fun _ => ?_) fun _ => rfl
  rcases a with _ | as
  · rfl
  · dsimp only [elemArm]; cases parsePoint rd s.ver s.seen as <;> rfl

section
variable {s : PS} {ob : OB} {cid : Option Str} {pts : List Point} (hm : s.mode = .contour ob cid pts)
include hm

theorem step_contour (e : Ev) : step rd s e = stepContour rd s ob cid pts e := by rw [step, hm]

theorem step_empty_point (a : Option (List Attr)) : step rd s (.empty sPoint a) =
    elemArm "point" (parsePoint rd s.ver s.seen)
      (fun p => { s with seen := addSeen s.seen p.ident, mode := .contour ob cid (pts ++ [p]) }) a := by
  rw [step_contour hm, stepContour_empty, if_pos rfl]

theorem step_close_contour : step rd s (.close sContour) =
    if C11.accepts (pts.map toPt) then
      cont { s with mode := .outline (if pts.isEmpty then ob else
        { ob with contours := ob.contours ++ [{ points := pts, ident := cid }] }) }
    else .error .contour := by
  rw [step_contour hm]; dsimp only [stepContour]; rw [if_pos rfl]

end

section
variable {s : PS} {v : LibV} (hm : s.mode = .lib v)
include hm

theorem step_lib (e : Ev) : step rd s e = stepLib s v e := by rw [step, hm]

theorem step_close_lib : step rd s (.close sLib) =
    match (generalizing := false) v with
    | .bad => .error .badLib
    | .notDict => .error .libMustBeDictionary
    | .dict d => cont { s with mode := .body, g := { s.g with lib := d } } := by
  rw [step_lib hm]; dsimp only [stepLib]; rw [if_pos rfl]
  cases v <;> rfl

end

def libSkips : Ev → Bool
  | .error => false
  | .close n => n != sLib
  | _ => true

theorem step_lib_skip {s : PS} {v : LibV} (hm : s.mode = .lib v) {e : Ev} (he : libSkips e = true) :
    step rd s e = .ok (.inl s) := by
  rw [step_lib hm]
  cases e with
  | error => cases he
  | close n => dsimp only [stepLib]; rw [if_neg (by simpa [libSkips] using he)]; rfl
  | _ => rfl

section
variable {s : PS} (hm : s.mode = .note)
include hm

theorem step_note (e : Ev) : step rd s e = stepNote s e := by rw [step, hm]

theorem step_close_note : step rd s (.close sNote) = .ok (.inl { s with mode := .body }) := by
  rw [step_note hm]; dsimp only [stepNote]; rw [if_pos rfl]; rfl

theorem step_text (t : Str) : step rd s (.text (some t)) = .ok (.inl { s with g := { s.g with note := some t } }) :=
  step_note hm _

end

end

section
variable {rd : Str → Option Nat}

/-- the glyph level is left to the caller (`bodyEmpty_eq`, `elemArm_congr`) -/
theorem step_empty_congr (s : PS) (n : Str) {as as' : List Attr}
    (hb : s.mode = .body → bodyEmpty rd s n (some as) = bodyEmpty rd s n (some as'))
    (hc : n = sComponent → parseComponent rd s.ver s.seen as = parseComponent rd s.ver s.seen as')
    (hp : n = sPoint → parsePoint rd s.ver s.seen as = parsePoint rd s.ver s.seen as') :
    step rd s (.empty n (some as)) = step rd s (.empty n (some as')) := by
  unfold step
  cases hm : s.mode with
  | body => exact hb hm
  | outline ob =>
    dsimp only; rw [stepOutline_empty, stepOutline_empty]
    exact ite_congr rfl (fun _ => rfl) fun _ => ite_congr rfl (fun h => elemArm_congr (hc h)) fun _ => rfl
  | contour ob cid pts =>
    dsimp only; rw [stepContour_empty, stepContour_empty]
    exact ite_congr rfl (fun h => elemArm_congr (hp h)) fun _ => rfl
  | _ => rfl

theorem step_start_congr (s : PS) (n : Str) {as as' : List Attr}
    (h : parseContourAttrs s.ver s.seen as = parseContourAttrs s.ver s.seen as') :
    step rd s (.start n (some as)) = step rd s (.start n (some as')) := by
  unfold step
  cases s.mode with
  | outline ob =>
    dsimp only; rw [stepOutline_start, stepOutline_start]
    exact ite_congr rfl (fun _ => elemArm_congr h) fun _ => rfl
  | _ => rfl

end

section
variable (rd : Str → Option Nat)

inductive Reach : PS → List Ev → PS → Prop
  | nil (s : PS) : Reach s [] s
  | cons {s s' s'' : PS} {e : Ev} {es : List Ev} :
      step rd s e = .ok (.inl s') → Reach s' es s'' → Reach s (e :: es) s''

theorem run_of_reach {s s' : PS} {pre : List Ev} (h : Reach rd s pre s') (rest : List Ev) :
    run rd s (pre ++ rest) = run rd s' rest := by
  induction h with
  | nil s => rfl
  | cons hs _ ih => simp only [List.cons_append, run, hs]; exact ih

theorem run_error_of_step {s : PS} {e : Ev} {k : Kind} (h : step rd s e = .error k) (es : List Ev) :
    run rd s (e :: es) = .error k := by
  simp only [run, h]

theorem run_ok {s : PS} {evs : List Ev} {g : Glyph} (h : run rd s evs = .ok g) :
    ∃ pre s' e post, evs = pre ++ e :: post ∧ Reach rd s pre s' ∧ step rd s' e = .ok (.inr g) := by
  induction evs generalizing s with
  | nil => cases h
  | cons e es ih =>
    simp only [run] at h
    cases hs : step rd s e with
    | error k => rw [hs] at h; cases h
    | ok r =>
      rw [hs] at h
      cases r with
      | inr g' => cases h; exact ⟨[], s, e, es, rfl, Reach.nil s, hs⟩
      | inl s1 =>
        obtain ⟨pre, s', e', post, he, hr, hd⟩ := ih h
        exact ⟨e :: pre, s', e', post, by rw [he]; rfl, Reach.cons hs hr, hd⟩

end

section
variable {rd : Str → Option Nat}

theorem Reach.cast {s s' s'' : PS} {evs : List Ev} (h : Reach rd s evs s') (e : s' = s'') : Reach rd s evs s'' := e ▸ h

theorem Reach.append {s s' s'' : PS} {e₁ e₂ : List Ev} (h₁ : Reach rd s e₁ s') (h₂ : Reach rd s' e₂ s'') :
    Reach rd s (e₁ ++ e₂) s'' := by
  induction h₁ with
  | nil s => exact h₂
  | cons hs _ ih => exact Reach.cons hs (ih h₂)

theorem Reach.one {s s' : PS} {e : Ev} (h : step rd s e = .ok (.inl s')) : Reach rd s [e] s' :=
  Reach.cons h (Reach.nil s')

theorem rejected_of_step {s : PS} {e : Ev} {k : Kind} (h : step rd s e = .error k) (rest : List Ev) :
    accepted (run rd s (e :: rest)) = false := by
  rw [run_error_of_step rd h]
  rfl

end
end Glif
