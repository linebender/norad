import Norad.Model.DSCodec
/-!
# C18 — Hinnant's calendar conversions are inverse to each other, for all day numbers and all years

The day of a 400-year era is written in mixed radix as century `p`, four-year cycle `s`, year of the cycle `r` and day of
the year `d` (`doe = 36524·p + 1461·s + 365·r + d`): in these coordinates the year-of-era formula, the first day of a
year and its length are linear, and `omega` settles them (`yoeOf_split`).  Years begin on March 1: January 1 is day 306
of such a year and month index 10 (`mpOf`), and from there on the civil year is the March-based year + 1 (in year 399 of
the era: from day 146 037 = `baseOf 399 + 306`).  The last conjuncts of `yoeOf_spec`, `mpOf_spec`, `monthOfMp_table` and
`era_inverse` carry this from the day number to the civil date.
-/
namespace C18

theorem baseOf_split (p s r : Nat) (hs : s < 25) (hr : r < 4) :
    baseOf (100 * p + 4 * s + r) = 36524 * p + 1461 * s + 365 * r := by
  unfold baseOf; omega

theorem yearLen_split (p s r : Nat) (hp : p < 4) (hs : s < 25) (hr : r < 4) :
    yearLen (100 * p + 4 * s + r) = if r = 3 ∧ (s = 24 → p = 3) then 366 else 365 := by
  unfold yearLen; split <;> split <;> omega

theorem yearLen_le (y : Nat) : yearLen y ≤ 366 := by
  unfold yearLen; split <;> omega

/-- at each level (century, cycle, year) the last part takes the odd day, hence `min … 3` -/
theorem era_split (doe : Nat) (h : doe < 146097) : ∃ y d, y < 400 ∧ d < yearLen y ∧ doe = baseOf y + d := by
  obtain ⟨p, c, hp, hc, rfl⟩ : ∃ p c, p < 4 ∧ (c < 36524 ∨ p = 3 ∧ c = 36524) ∧ doe = 36524 * p + c :=
    ⟨min (doe / 36524) 3, doe - 36524 * min (doe / 36524) 3, by omega, by omega, by omega⟩
  have hs : c / 1461 < 25 := by omega
  have hr : min (c % 1461 / 365) 3 < 4 := by omega
  refine ⟨100 * p + 4 * (c / 1461) + min (c % 1461 / 365) 3, c % 1461 - 365 * min (c % 1461 / 365) 3,
    by omega, ?_, by rw [baseOf_split p _ _ hs hr]; omega⟩
  rw [yearLen_split p _ _ hp hs hr]
  split <;> omega

/-- `yoeOf doe = (doe - doe / 1460 + doe / 36524 - doe / 146096) / 365`: `doe / 1460` counts the leap days passed, at
    most one too many (`k`) -/
theorem yoeOf_split (p s r d : Nat) (hp : p < 4) (hs : s < 25) (hr : r < 4)
    (hd : d < yearLen (100 * p + 4 * s + r)) :
    yoeOf (36524 * p + 1461 * s + 365 * r + d) = 100 * p + 4 * s + r := by
  have hd' : d < 366 ∧ (d = 365 → r = 3 ∧ (s = 24 → p = 3)) := by
    rw [yearLen_split p s r hp hs hr] at hd; split at hd <;> omega
  unfold yoeOf
  generalize hdoe : 36524 * p + 1461 * s + 365 * r + d = doe
  have hc : doe / 146096 ≤ doe / 36524 ∧ doe / 36524 - doe / 146096 = p := by omega
  obtain ⟨k, ha, hk⟩ : ∃ k, doe / 1460 = 25 * p + s + k ∧ k ≤ d ∧ d < 365 + k := by
    -- `doe = 1460 * (25 * p + s) + (24 * p + s + 365 * r + d)` with a remainder below `2 * 1460`
    by_cases ht : 24 * p + s + 365 * r + d < 1460
    · exact ⟨0, by omega, by omega⟩
    · exact ⟨1, by omega, by omega⟩
  generalize doe / 146096 = e at hc
  generalize doe / 36524 = b at hc
  omega

theorem yoeOf_base_add (y d : Nat) (hy : y < 400) (hd : d < yearLen y) :
    baseOf y + d < 146097 ∧ yoeOf (baseOf y + d) = y := by
  obtain ⟨p, s, r, hp, hs, hr, rfl⟩ : ∃ p s r, p < 4 ∧ s < 25 ∧ r < 4 ∧ y = 100 * p + 4 * s + r :=
    ⟨y / 100, y % 100 / 4, y % 4, by omega, by omega, by omega, by omega⟩
  have hl := yearLen_le (100 * p + 4 * s + r)
  rw [baseOf_split p s r hs hr]
  exact ⟨by omega, yoeOf_split p s r d hp hs hr hd⟩

theorem yoeOf_spec (doe : Nat) (h : doe < 146097) :
    baseOf (yoeOf doe) ≤ doe ∧ doe < baseOf (yoeOf doe) + yearLen (yoeOf doe) ∧ yoeOf doe < 400 ∧
    (146037 ≤ doe ↔ (yoeOf doe = 399 ∧ baseOf (yoeOf doe) + 306 ≤ doe)) := by
  obtain ⟨y, d, hy, hd, rfl⟩ := era_split doe h
  have hl := yearLen_le y
  rw [(yoeOf_base_add y d hy hd).2]
  unfold baseOf at h ⊢
  omega

theorem mpOf_spec (doy : Nat) (h : doy < 366) :
    mpOf doy ≤ 11 ∧ dpreOf (mpOf doy) ≤ doy ∧ doy - dpreOf (mpOf doy) ≤ 30 ∧ (10 ≤ mpOf doy ↔ 306 ≤ doy) := by
  simp only [mpOf, dpreOf]
  omega

theorem mpOf_dpreOf_add (mp k : Nat) (h : dpreOf mp + k < dpreOf (mp + 1)) : mpOf (dpreOf mp + k) = mp := by
  simp only [mpOf, dpreOf] at h ⊢
  omega

theorem monthOfMp_table : ∀ mp, mp ≤ 11 → mpOfMonth (monthOfMp mp) = mp ∧ 1 ≤ monthOfMp mp ∧
    monthOfMp mp ≤ 12 ∧ (monthOfMp mp ≤ 2 ↔ 10 ≤ mp) := by
  decide

/-- the "February" of `dpreOf` has 30 days (the year ends first); every other month is over by day 337, where
    February begins -/
theorem mpOfMonth_table : ∀ m, m ≤ 12 → 1 ≤ m → monthOfMp (mpOfMonth m) = m ∧
    dpreOf (mpOfMonth m) + (if m = 2 then 30 else if m = 4 ∨ m = 6 ∨ m = 9 ∨ m = 11 then 30 else 31) =
      dpreOf (mpOfMonth m + 1) ∧ (m = 2 ∨ dpreOf (mpOfMonth m + 1) ≤ 337) := by
  decide

theorem era_inverse (doe : Nat) (h : doe < 146097) :
    (civilOfDoe doe).1 < 400 ∧ 1 ≤ (civilOfDoe doe).2.1 ∧ (civilOfDoe doe).2.1 ≤ 12 ∧
    1 ≤ (civilOfDoe doe).2.2 ∧ (civilOfDoe doe).2.2 ≤ 31 ∧
    doeOfCivil (civilOfDoe doe).1 (civilOfDoe doe).2.1 (civilOfDoe doe).2.2 = doe ∧
    (146037 ≤ doe ↔ ((civilOfDoe doe).1 = 399 ∧ (civilOfDoe doe).2.1 ≤ 2)) := by
  obtain ⟨a1, a2, a3, a4⟩ := yoeOf_spec doe h
  have hl := yearLen_le (yoeOf doe)
  obtain ⟨b1, b2, b3, b7⟩ := mpOf_spec (doe - baseOf (yoeOf doe)) (by omega)
  obtain ⟨b4, b5, b6, b8⟩ := monthOfMp_table _ b1
  simp only [civilOfDoe, doeOfCivil, b4, b8, b7]
  -- `b7`, `b8` went into the `simp only`; left in the context they make every `omega` below split four ways
  clear b7 b8
  exact ⟨a3, b5, b6, by omega, by omega, by omega, by omega⟩

theorem civilOfDoe_doeOfCivil (yoe m d : Nat) (hy : yoe < 400) (hm1 : 1 ≤ m) (hm : m ≤ 12) (hd1 : 1 ≤ d)
    (hd : dpreOf (mpOfMonth m) + d ≤ dpreOf (mpOfMonth m + 1)) (hfit : dpreOf (mpOfMonth m) + d ≤ yearLen yoe) :
    doeOfCivil yoe m d < 146097 ∧ civilOfDoe (doeOfCivil yoe m d) = (yoe, m, d) := by
  have hdoy : dpreOf (mpOfMonth m) + d - 1 = dpreOf (mpOfMonth m) + (d - 1) := by omega
  unfold doeOfCivil
  rw [hdoy]
  obtain ⟨hlt, hyoe⟩ := yoeOf_base_add yoe (dpreOf (mpOfMonth m) + (d - 1)) hy (by omega)
  have hmp := mpOf_dpreOf_add (mpOfMonth m) (d - 1) (by omega)
  simp only [civilOfDoe, hyoe, Nat.add_sub_cancel_left, hmp, (mpOfMonth_table m hm hm1).1, Nat.sub_add_cancel hd1]
  exact ⟨hlt, trivial⟩

theorem civilFromDays_era (era : Int) (doe : Nat) (h : doe < 146097) :
    civilFromDays (era * 146097 + doe - 719468) =
      ((civilOfDoe doe).1 + era * 400 + (if (civilOfDoe doe).2.1 ≤ 2 then 1 else 0),
        (civilOfDoe doe).2.1, (civilOfDoe doe).2.2) := by
  have he : (era * 146097 + doe - 719468 + 719468) / 146097 = era := by omega
  have hd : (era * 146097 + doe - 719468 + 719468 - era * 146097).toNat = doe := by omega
  simp only [civilFromDays, he, hd]

theorem daysFromCivil_era (era : Int) (yoe m d : Nat) (h : yoe < 400) :
    daysFromCivil (yoe + era * 400 + (if m ≤ 2 then 1 else 0)) m d =
      era * 146097 + doeOfCivil yoe m d - 719468 := by
  have hy : (if m ≤ 2 then (yoe : Int) + era * 400 + (if m ≤ 2 then 1 else 0) - 1
      else yoe + era * 400 + (if m ≤ 2 then 1 else 0)) = yoe + era * 400 := by split <;> omega
  have he : ((yoe : Int) + era * 400) / 400 = era := by omega
  have hyoe : ((yoe : Int) + era * 400 - era * 400).toNat = yoe := by omega
  simp only [daysFromCivil, hy, he, hyoe]

theorem exists_era (z : Int) : ∃ (era : Int) (doe : Nat), doe < 146097 ∧ z = era * 146097 + doe - 719468 :=
  ⟨(z + 719468) / 146097, ((z + 719468) % 146097).toNat, by omega, by omega⟩

theorem civilFromDays_spec (z : Int) :
    1 ≤ (civilFromDays z).2.1 ∧ (civilFromDays z).2.1 ≤ 12 ∧
    1 ≤ (civilFromDays z).2.2 ∧ (civilFromDays z).2.2 ≤ 31 ∧
    daysFromCivil (civilFromDays z).1 (civilFromDays z).2.1 (civilFromDays z).2.2 = z ∧
    (-719528 ≤ z → z ≤ 2932896 → 0 ≤ (civilFromDays z).1 ∧ (civilFromDays z).1 < 10000) := by
  obtain ⟨era, doe, hdoe, rfl⟩ := exists_era z
  obtain ⟨e1, e2, e3, e4, e5, e6, e7⟩ := era_inverse doe hdoe
  rw [civilFromDays_era era doe hdoe]
  refine ⟨e2, e3, e4, e5, (daysFromCivil_era era _ _ _ e1).trans (by rw [e6]), fun hlo hhi => ?_⟩
  show 0 ≤ ((civilOfDoe doe).1 : Int) + era * 400 + (if (civilOfDoe doe).2.1 ≤ 2 then 1 else 0) ∧
    ((civilOfDoe doe).1 : Int) + era * 400 + (if (civilOfDoe doe).2.1 ≤ 2 then 1 else 0) < 10000
  split <;> omega

/-- what the date codec (C18Codec) needs of the calendar: on the day numbers of years 0000–9999 (−719 528 is
    0000-01-01, 2 932 896 is 9999-12-31) Hinnant's `civil_from_days` yields a calendar date with fields in range whose
    `days_from_civil` is the day number again.  The conversion is compared with the `time` crate on every date
    of every run (driver tag `date-impl-differs`). -/
def CalendarInverse : Prop :=
  ∀ z : Int, -719528 ≤ z → z ≤ 2932896 →
    0 ≤ (civilFromDays z).1 ∧ (civilFromDays z).1 < 10000 ∧
    1 ≤ (civilFromDays z).2.1 ∧ (civilFromDays z).2.1 ≤ 12 ∧
    1 ≤ (civilFromDays z).2.2 ∧ (civilFromDays z).2.2 ≤ 31 ∧
    daysFromCivil (civilFromDays z).1 (civilFromDays z).2.1 (civilFromDays z).2.2 = z

/-- **calendar_inverse**: the range of day numbers only matters for the bounds on the year -/
theorem calendar_inverse : CalendarInverse := by
  intro z hlo hhi
  obtain ⟨m1, m12, d1, d31, hinv, hyear⟩ := civilFromDays_spec z
  exact ⟨(hyear hlo hhi).1, (hyear hlo hhi).2, m1, m12, d1, d31, hinv⟩

/-- the March-based year `yoe` of era `era` holds the February of the civil year `yoe + era * 400 + 1` -/
theorem yearLen_eq (era : Int) (yoe : Nat) : yearLen yoe = if isLeap (yoe + era * 400 + 1) then 366 else 365 := by
  have h4 : ((yoe : Int) + era * 400 + 1) % 4 = ((yoe + 1) % 4 : Nat) := by omega
  have h100 : ((yoe : Int) + era * 400 + 1) % 100 = ((yoe + 1) % 100 : Nat) := by omega
  have h400 : ((yoe : Int) + era * 400 + 1) % 400 = ((yoe + 1) % 400 : Nat) := by omega
  simp only [yearLen, isLeap, decide_eq_true_eq, h4, h100, h400, Int.natCast_eq_zero, ne_eq]

theorem month_fits (era : Int) (yoe m : Nat) (hm1 : 1 ≤ m) (hm : m ≤ 12) :
    dpreOf (mpOfMonth m) + daysInMonth (yoe + era * 400 + (if m ≤ 2 then 1 else 0)) m ≤ dpreOf (mpOfMonth m + 1) ∧
    dpreOf (mpOfMonth m) + daysInMonth (yoe + era * 400 + (if m ≤ 2 then 1 else 0)) m ≤ yearLen yoe := by
  obtain ⟨-, hlen, hnext⟩ := mpOfMonth_table m hm hm1
  by_cases h2 : m = 2
  · subst h2
    rw [yearLen_eq era]
    simp only [daysInMonth, Nat.le_refl, if_true]
    generalize isLeap _ = leap
    cases leap <;> decide
  · have hyear : 365 ≤ yearLen yoe := by unfold yearLen; split <;> omega
    simp only [daysInMonth, h2, if_false, false_or] at hlen hnext ⊢
    omega

/-- **calendar_inverse_converse**: for every valid civil date of every year (Gregorian leap rule) -/
theorem calendar_inverse_converse (y : Int) (m d : Nat) (hm1 : 1 ≤ m) (hm : m ≤ 12) (hd1 : 1 ≤ d)
    (hd : d ≤ daysInMonth y m) : civilFromDays (daysFromCivil y m d) = (y, m, d) := by
  obtain ⟨era, yoe, hyoe, rfl⟩ :
      ∃ (era : Int) (yoe : Nat), yoe < 400 ∧ y = yoe + era * 400 + (if m ≤ 2 then 1 else 0) :=
    ⟨(y - (if m ≤ 2 then 1 else 0)) / 400, ((y - (if m ≤ 2 then 1 else 0)) % 400).toNat, by omega, by omega⟩
  obtain ⟨hd', hfit⟩ := month_fits era yoe m hm1 hm
  obtain ⟨hlt, hciv⟩ := civilOfDoe_doeOfCivil yoe m d hyoe hm1 hm hd1 (by omega) (by omega)
  rw [daysFromCivil_era era yoe m d hyoe, civilFromDays_era era _ hlt, hciv]

end C18
