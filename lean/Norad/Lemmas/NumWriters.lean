import Norad.Model.RoundTrip
import Mathlib.Data.Rat.Floor
import Mathlib.Tactic.Linarith
import Mathlib.Tactic.NormNum
/-!
# The int-or-float writers on exact rationals: tolerance lemmas (C01)
-/
namespace RT

/-- strictly relative tolerance of DESIGN section 8 -/
def Close (a b : ℚ) : Prop := |a - b| ≤ (1 / 1000000000) * max |a| |b|

/-- guard of the number lemma: zero, or of magnitude above `f64::EPSILON` -/
def NumGuard (v : ℚ) : Prop := v = 0 ∨ eps < |v|

theorem absQ_eq (x : ℚ) : absQ x = |x| := by
  unfold absQ
  split
  · rw [abs_of_nonneg (by assumption)]
  · rw [abs_of_neg (by linarith)]

theorem floor_eq (x : ℚ) : x.floor = ⌊x⌋ := rfl

theorem eps_pos : 0 < eps := by unfold eps; norm_num
theorem eps_small : eps < 1 / 1000000000 := by unfold eps; norm_num

theorem close_refl (x : ℚ) : Close x x := by
  unfold Close; rw [sub_self, abs_zero]; positivity

theorem truncQ_zero : truncQ 0 = 0 := by decide +kernel

theorem roundQ_zero : roundQ 0 = 0 := by decide +kernel

theorem one_le_abs_intCast {n : ℤ} (h : n ≠ 0) : (1 : ℚ) ≤ |(n : ℚ)| := by
  exact_mod_cast Int.one_le_abs h

theorem sat32_id (n : ℤ) (h1 : i32Min ≤ n) (h2 : n ≤ i32Max) : sat32 n = n := by
  unfold sat32; split
  · omega
  · split
    · omega
    · rfl

theorem fits32_iff (x : ℚ) : fits32 x = true ↔ ((i32Min : ℤ) : ℚ) ≤ x ∧ x ≤ ((i32Max : ℤ) : ℚ) := by
  unfold fits32; simp

theorem truncQ_bounds (v : ℚ) (a b : ℤ) (ha : a ≤ 0) (hb : 0 ≤ b) (h1 : (a : ℚ) ≤ v) (h2 : v ≤ (b : ℚ)) :
    a ≤ truncQ v ∧ truncQ v ≤ b := by
  unfold truncQ
  split
  · rename_i h
    exact ⟨ha.trans (Int.floor_nonneg.2 h), Int.cast_le.1 ((Int.floor_le v).trans h2)⟩
  · rename_i h
    have hneg : 0 ≤ -v := neg_nonneg.2 (not_le.1 h).le
    refine ⟨le_neg.2 (Int.cast_le.1 ((Int.floor_le (-v)).trans ?_)), (neg_nonpos.2 (Int.floor_nonneg.2 hneg)).trans hb⟩
    rw [Int.cast_neg]; exact neg_le_neg h1

/-- the integer path of the three writers: `n` is within ε of `v` (`v` rounded or truncated, `0` for `0`), `v` is not tiny, and
    `n` fits an `i32`, so the saturating cast is the identity and the relative error is at most ε -/
theorem close_sat32 (v : ℚ) (n : ℤ) (hn : |v - n| ≤ eps) (h0 : v = 0 → n = 0) (hv : NumGuard v)
    (h : i32Min ≤ n ∧ n ≤ i32Max) : Close (Num.int (sat32 n)).val v := by
  rw [sat32_id n h.1 h.2]
  rcases hv with hv | hv
  · subst hv; rw [h0 rfl]; exact close_refl _
  · have hne : n ≠ 0 := by
      intro h; subst h; simp at hn; linarith
    calc |(n : ℚ) - v| = |v - n| := abs_sub_comm _ _
      _ ≤ 1 / 1000000000 * 1 := by rw [mul_one]; exact hn.trans eps_small.le
      _ ≤ 1 / 1000000000 * max |(n : ℚ)| |v| :=
        mul_le_mul_of_nonneg_left ((one_le_abs_intCast hne).trans (le_max_left _ _)) (by norm_num)

theorem kern_close (v : ℚ) (hv : NumGuard v) : Close (kernWrite v).val v := by
  unfold kernWrite
  split
  · rename_i h
    rw [absQ_eq, fits32_iff] at h
    exact close_sat32 v _ h.1.le (fun h => by subst h; exact roundQ_zero) hv (by exact_mod_cast h.2)
  · exact close_refl v

theorem fract_abs (v : ℚ) : absQ (fractQ v) = |v - (truncQ v : ℤ)| := by
  rw [absQ_eq]; rfl

theorem info_close (v : ℚ) (hv : NumGuard v) : Close (infoWrite v).val v := by
  unfold infoWrite
  split
  · rename_i h
    rw [fract_abs, fits32_iff] at h
    exact close_sat32 v _ h.1 (fun h => by subst h; exact truncQ_zero) hv
      (truncQ_bounds v i32Min i32Max (by decide) (by decide) h.2.1 h.2.2)
  · exact close_refl v

theorem upm_close (v : ℚ) (h0 : 0 ≤ v) (hv : NumGuard v) : Close (upmWrite v).val v := by
  unfold upmWrite
  split
  · rename_i h
    rw [fract_abs] at h
    exact close_sat32 v _ h.1.le (fun h => by subst h; exact truncQ_zero) hv
      (truncQ_bounds v i32Min i32Max (by decide) (by decide) (le_trans (by unfold i32Min; norm_num) h0) h.2)
  · exact close_refl v

theorem readNum_writeWith (w : ℚ → Num) (v : NumV) :
    readNum (writeWith w v) = v ∨
      ∃ q k, v.val? = some q ∧ w q = .int k ∧ readNum (writeWith w v) = .ofInt k := by
  unfold writeWith
  cases hq : v.val? with
  | none => exact .inl rfl
  | some q =>
    simp only
    cases hw : w q with
    | int k => exact .inr ⟨q, k, rfl, hw, rfl⟩
    | real x => exact .inl rfl

end RT
