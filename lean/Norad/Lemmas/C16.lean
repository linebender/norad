import Norad.Model.C16
import Norad.Lemmas.Path
import Norad.Lemmas.Basic
/-! The invariant of a store, what a passed validation guarantees, and the preservation of the invariant by each
    store operation. -/
namespace C16
open Path

structure KeysOK (kind : Kind) (ks : List Key) : Prop where
  nonEmpty : ∀ k ∈ ks, k ≠ []
  relative : ∀ k ∈ ks, (parse k).abs = false
  distinct : (ks.map parse).Nodup
  prefixFree : ∀ a ∈ ks, ∀ b ∈ ks, (parse b).startsWith (parse a) = true → parse a = parse b
  imageFlat : kind = .image → ∀ k ∈ ks, (parse k).comps.length = 1

structure Inv (s : Store) : Prop where
  keysOK : KeysOK s.kind (keys s)
  imagePng : s.kind = .image → ∀ e ∈ s.items, ∀ b, e.2 = .loaded b → pngSig <+: b

theorem startsWith_self (p : P) : p.startsWith p = true := isPrefixOf_self p.full

variable {kind : Kind} {s : Store} {disk : Disk} {items : Items} {ks : List Key} {k k' k0 : Key} {c : Cell}
  {e : Key × Cell} {b : Bytes} {p q : P}

theorem hasKey_iff : hasKey items p = true ↔ ∃ e ∈ items, parse e.1 = p := by
  unfold hasKey
  rw [List.any_eq_true]
  simp only [beq_iff_eq]

theorem hasKey_eq_any_keys (items : Items) (p : P) :
    hasKey items p = (items.map (·.1)).any fun k => parse k == p := by
  rw [List.any_map]; rfl

theorem descendantInStore_eq_any_keys (items : Items) (p : P) : descendantInStore items p =
    (items.map (·.1)).any fun x => (parse x).startsWith p && parse x != p := by
  rw [List.any_map]; rfl

theorem find?_mem (h : find? items k = some e) : e ∈ items ∧ parse e.1 = parse k :=
  ⟨List.mem_of_find?_eq_some h, by simpa using List.find?_some h⟩

theorem find?_hasKey (h : find? items k = some e) : hasKey items (parse k) = true :=
  hasKey_iff.2 ⟨e, find?_mem h⟩

theorem find?_isSome (items : Items) (k : Key) : (find? items k).isSome = hasKey items (parse k) := by
  unfold find? hasKey
  rw [Bool.eq_iff_iff, List.find?_isSome, List.any_eq_true]

theorem find?_congr (h : parse k' = parse k) : find? items k' = find? items k := by
  unfold find?; rw [h]

theorem find?_self_of_nodup (hn : (items.map fun e => parse e.1).Nodup)
    (he : e ∈ items) : find? items e.1 = some e := by
  induction items with
  | nil => cases he
  | cons x r ih =>
    unfold find? at ih ⊢
    rw [List.map_cons, List.nodup_cons] at hn
    rcases List.mem_cons.1 he with rfl | her
    · exact List.find?_cons_of_pos (beq_self_eq_true (parse e.1))
    · rw [List.find?_cons_of_neg fun hx => hn.1 (by rw [beq_iff_eq.1 hx]; exact List.mem_map_of_mem her)]
      exact ih hn.2 her

/-- the function `setCell` maps over the entries when the key is present -/
def upd (k : Key) (c : Cell) (e : Key × Cell) : Key × Cell :=
  if parse e.1 == parse k then (e.1, c) else e

theorem upd_fst (k : Key) (c : Cell) (e : Key × Cell) : (upd k c e).1 = e.1 := by
  unfold upd; split <;> rfl

theorem upd_same (h : parse e.1 = parse k) : upd k c e = (e.1, c) :=
  if_pos (beq_iff_eq.2 h)

theorem upd_other (h : parse e.1 ≠ parse k) : upd k c e = e :=
  if_neg fun hc => h (beq_iff_eq.1 hc)

theorem keys_map_upd (items : Items) (k : Key) (c : Cell) :
    (items.map (upd k c)).map (·.1) = items.map (·.1) := by
  rw [List.map_map]
  exact List.map_congr_left fun e _ => upd_fst k c e

theorem setCell_of_hasKey (h : hasKey items (parse k) = true) : setCell items k c = items.map (upd k c) :=
  if_pos h

theorem setCell_of_not (h : hasKey items (parse k) = false) : setCell items k c = items ++ [(k, c)] :=
  if_neg (Bool.eq_false_iff.1 h)

theorem mem_setCell (h : e ∈ setCell items k c) : e ∈ items ∨ e.2 = c := by
  cases hk : hasKey items (parse k) with
  | true =>
    rw [setCell_of_hasKey hk] at h
    obtain ⟨x, hx, rfl⟩ := List.mem_map.1 h
    by_cases hp : parse x.1 = parse k
    · rw [upd_same hp]; exact Or.inr rfl
    · rw [upd_other hp]; exact Or.inl hx
  | false =>
    rw [setCell_of_not hk] at h
    exact (List.mem_append.1 h).imp_right fun h => by rw [List.mem_singleton.1 h]

theorem find?_map_upd (items : Items) (k k' : Key) (c : Cell) :
    find? (items.map (upd k' c)) k = (find? items k).map (upd k' c) := by
  unfold find?
  rw [List.find?_map]
  congr 2
  funext e
  exact congrArg (fun x => parse x == parse k) (upd_fst k' c e)

theorem get_of_none (h : find? s.items k = none) : get s disk k = (s, none) := by
  unfold get; rw [h]

theorem get_of_lazy (h : find? s.items k = some (k0, .notLoaded)) :
    get s disk k = (⟨s.kind, s.items.map (upd k (loadItem s.kind disk k s.items))⟩,
      some (cellResult (loadItem s.kind disk k s.items))) := by
  rw [← setCell_of_hasKey (find?_hasKey h)]
  unfold get; rw [h]

theorem get_settled_ignores_disk (s : Store) (disk : Disk) (k k0 : Key) (c : Cell)
    (h : find? s.items k = some (k0, c)) (hc : c ≠ .notLoaded) : get s disk k = (s, some (cellResult c)) := by
  unfold get
  rw [h]
  cases c with
  | notLoaded => exact absurd rfl hc
  | loaded b => rfl
  | error e => rfl

theorem get_fst (s : Store) (disk : Disk) (k : Key) :
    (get s disk k).1 = s ∨ ∃ k0, find? s.items k = some (k0, .notLoaded) ∧
      (get s disk k).1 = ⟨s.kind, s.items.map (upd k (loadItem s.kind disk k s.items))⟩ := by
  fun_cases get s disk k
  · exact .inl rfl
  next k0 hf _ => exact .inr ⟨k0, hf, by rw [← setCell_of_hasKey (find?_hasKey hf)]⟩
  · exact .inl rfl

theorem find?_ne_none_of_get {r : Except Err Bytes} (h : (get s disk k).2 = some r) : find? s.items k ≠ none :=
  fun hf => by rw [get_of_none hf] at h; cases h

theorem loadItem_loaded :
    loadItem kind disk k items = .loaded b ↔ disk k = some b ∧ validate kind k items b = .ok () := by
  fun_cases loadItem kind disk k items
  next hd => exact ⟨nofun, fun h => by rw [hd] at h; cases h.1⟩
  next b' hd u hv =>
    exact ⟨fun h => by cases h; exact ⟨hd, hv⟩, fun h => by rw [hd] at h; cases h.1; rfl⟩
  next b' hd e hv =>
    exact ⟨nofun, fun h => by rw [hd] at h; cases h.1; rw [hv] at h; cases h.2⟩

theorem loadItem_ne_notLoaded (kind : Kind) (disk : Disk) (k : Key) (items : Items) :
    loadItem kind disk k items ≠ .notLoaded := by
  fun_cases loadItem kind disk k items <;> exact Cell.noConfusion

theorem keys_get (s : Store) (disk : Disk) (k : Key) : keys (get s disk k).1 = keys s := by
  rcases get_fst s disk k with h | ⟨_, _, h⟩ <;> rw [h]
  exact keys_map_upd ..

theorem kind_get (s : Store) (disk : Disk) (k : Key) : (get s disk k).1.kind = s.kind := by
  rcases get_fst s disk k with h | ⟨_, _, h⟩ <;> rw [h]

theorem iterFrom_preserves {Q : Store → Prop} (hget : ∀ s k, Q s → Q (get s disk k).1)
    (ks : List Key) (h : Q s) : Q (iterFrom s disk ks).1 := by
  induction ks generalizing s with
  | nil => exact h
  | cons k r ih => exact ih (hget s k h)

theorem forceUntilError_preserves {Q : Store → Prop} (hget : ∀ s k, Q s → Q (get s disk k).1)
    (ks : List Key) (h : Q s) : Q (forceUntilError s disk ks).1 := by
  fun_induction forceUntilError s disk ks with
  | case1 => exact h
  | case2 s k r s1 b heq ih => exact ih (by have := hget s k h; rwa [heq] at this)
  | case3 s k r s1 v _ heq => have := hget s k h; rwa [heq] at this

theorem keys_iterFrom (s : Store) (disk : Disk) (ks : List Key) : keys (iterFrom s disk ks).1 = keys s :=
  iterFrom_preserves (Q := fun s' => keys s' = keys s) (fun s' k h => (keys_get s' disk k).trans h) ks rfl

/-- `datastore.rs:178-182` in terms of `starts_with`; the code skips the empty ancestor, and an absolute key is no
    ancestor of a relative path: hence the two guards -/
theorem ancestorInStore_eq_false_iff (hp : p.abs = false) :
    ancestorInStore items p = false ↔ ∀ e ∈ items, e.1 ≠ [] → (parse e.1).abs = false →
      p.startsWith (parse e.1) = true → parse e.1 = p := by
  have : ancestorInStore items p = true ↔ ∃ e ∈ items, e.1 ≠ [] ∧ (parse e.1).abs = false ∧
      p.startsWith (parse e.1) = true ∧ parse e.1 ≠ p := by
    unfold ancestorInStore
    simp only [List.any_eq_true, Bool.and_eq_true, Bool.not_eq_true', hasKey_iff, mem_properAncestors]
    constructor
    · rintro ⟨a, ⟨ha, hpre, hne⟩, hemp, e, he, rfl⟩
      refine ⟨e, he, fun h => ?_, ha.trans hp, (startsWith_rel (ha.trans hp) hp).2 hpre, fun h => hne (h ▸ rfl)⟩
      rw [(parse_isEmpty_iff e.1).2 h] at hemp
      cases hemp
    · rintro ⟨e, he, hne, hrel, hsw, hneq⟩
      refine ⟨parse e.1, ⟨hrel.trans hp.symm, (startsWith_rel hrel hp).1 hsw,
        fun h => hneq (P.ext (hrel.trans hp.symm) h)⟩, ?_, e, he, rfl⟩
      rw [← Bool.not_eq_true, parse_isEmpty_iff]
      exact hne
  rw [← Bool.not_eq_true, this]
  simp only [not_exists, not_and, ne_eq, Decidable.not_not]

theorem descendantInStore_eq_false_iff :
    descendantInStore items p = false ↔ ∀ e ∈ items, (parse e.1).startsWith p = true → parse e.1 = p := by
  unfold descendantInStore
  simp only [List.any_eq_false, Bool.and_eq_true, bne_iff_ne, ne_eq, not_and, Decidable.not_not]

theorem hasDirPart_eq_false_iff (h1 : p.comps ≠ []) (h2 : p.abs = false) :
    hasDirPart p = false ↔ p.comps.length = 1 := by
  unfold hasDirPart P.parent? P.isEmpty
  rw [if_neg (by simpa using h1), h2]
  cases hc : p.comps with
  | nil => exact absurd hc h1
  | cons a r => cases r <;> simp

theorem KeysOK.nil (kind : Kind) : KeysOK kind [] :=
  ⟨nofun, nofun, List.nodup_nil, nofun, fun _ => nofun⟩

theorem KeysOK.sublist {l l' : List Key} (hs : l'.Sublist l) (h : KeysOK kind l) : KeysOK kind l' where
  nonEmpty k hk := h.nonEmpty k (hs.subset hk)
  relative k hk := h.relative k (hs.subset hk)
  distinct := h.distinct.sublist (hs.map _)
  prefixFree a ha b hb := h.prefixFree a (hs.subset ha) b (hs.subset hb)
  imageFlat hk k hkm := h.imageFlat hk k (hs.subset hkm)

theorem KeysOK.pairwise_ne (h : KeysOK kind ks) : ks.Pairwise fun a b => parse a ≠ parse b :=
  List.pairwise_map.1 h.distinct

/-- what the two `validate_entry` ask of a key against the keys `ks` of the store (`above`: `datastore.rs:178-182`, with
    the two guards of `ancestorInStore_eq_false_iff`; `below`: the symmetric clause) -/
structure Fits (kind : Kind) (ks : List Key) (k : Key) : Prop where
  nonEmpty : k ≠ []
  relative : (parse k).abs = false
  above : kind = .data → ∀ a ∈ ks, a ≠ [] → (parse a).abs = false →
    (parse k).startsWith (parse a) = true → parse a = parse k
  below : kind = .data → ∀ b ∈ ks, (parse b).startsWith (parse k) = true → parse b = parse k
  flat : kind = .image → (parse k).comps.length = 1

theorem validate_ok_iff :
    validate kind k items b = .ok () ↔ Fits kind (items.map (·.1)) k ∧ (kind = .image → pngSig <+: b) := by
  cases kind with
  | data =>
    show validateData k items = .ok () ↔ _
    unfold validateData
    simp only [ite_error_eq_ok, Bool.not_eq_true, List.isEmpty_eq_false_iff, and_true]
    -- `ite_error_eq_ok` (Lemmas/Basic) has turned the chain of early returns into a conjunction: the four clauses of
    -- `<Data as DataType>::validate_entry` are the fields of `Fits`, one by one
    constructor
    · rintro ⟨h1, h2, h3, h4⟩
      exact ⟨{ nonEmpty := h1, relative := h2, flat := nofun
               above := fun _ => List.forall_mem_map.2 ((ancestorInStore_eq_false_iff h2).1 h3)
               below := fun _ => List.forall_mem_map.2 (descendantInStore_eq_false_iff.1 h4) }, nofun⟩
    · rintro ⟨hf, _⟩
      exact ⟨hf.nonEmpty, hf.relative, (ancestorInStore_eq_false_iff hf.relative).2 (List.forall_mem_map.1 (hf.above rfl)),
        descendantInStore_eq_false_iff.2 (List.forall_mem_map.1 (hf.below rfl))⟩
  | image =>
    show validateImage k b = .ok () ↔ _
    have hpath : validateImagePath k = .ok () ↔ Fits .image (items.map (·.1)) k := by
      unfold validateImagePath
      simp only [ite_error_eq_ok, Bool.not_eq_true, List.isEmpty_eq_false_iff, and_true]
      exact ⟨fun ⟨h1, h2, h3⟩ => { nonEmpty := h1, relative := h2, above := nofun, below := nofun
                                   flat := fun _ => (hasDirPart_eq_false_iff (parse_comps_ne_nil h1 h2) h2).1 h3 },
        fun hf => ⟨hf.nonEmpty, hf.relative,
          (hasDirPart_eq_false_iff (parse_comps_ne_nil hf.nonEmpty hf.relative) hf.relative).2 (hf.flat rfl)⟩⟩
    rw [← hpath, ← List.isPrefixOf_iff_prefix]
    unfold validateImage
    cases validateImagePath k with
    | error e => exact ⟨nofun, fun h => nomatch h.1⟩
    | ok u => simp only [ite_eq_left_iff, true_and, reduceCtorEq, imp_false, Decidable.not_not, forall_const]

theorem KeysOK.fits (h : KeysOK kind ks) (hk : k ∈ ks) : Fits kind ks k where
  nonEmpty := h.nonEmpty k hk
  relative := h.relative k hk
  above _ a ha _ _ := h.prefixFree a ha k hk
  below _ b hb hsw := (h.prefixFree k hk b hb hsw).symm
  flat hi := h.imageFlat hi k hk

/-- for images `Fits` has no prefix clause: the two of `prefixFree` follow from flatness -/
theorem KeysOK.concat (h : KeysOK kind ks) (hk : Fits kind ks k) (hnew : parse k ∉ ks.map parse) :
    KeysOK kind (ks ++ [k]) := by
  have compat : ∀ a ∈ ks, ((parse k).startsWith (parse a) = true → parse a = parse k) ∧
      ((parse a).startsWith (parse k) = true → parse k = parse a) := fun a ha => by
    cases kind with
    | data => exact ⟨hk.above rfl a ha (h.nonEmpty a ha) (h.relative a ha), fun hsw => (hk.below rfl a ha hsw).symm⟩
    | image => exact
      ⟨eq_of_flat_prefix (h.relative a ha) hk.relative (h.imageFlat rfl a ha) (hk.flat rfl),
       eq_of_flat_prefix hk.relative (h.relative a ha) (hk.flat rfl) (h.imageFlat rfl a ha)⟩
  exact {
    nonEmpty := List.forall_mem_append.2 ⟨h.nonEmpty, List.forall_mem_singleton.2 hk.nonEmpty⟩
    relative := List.forall_mem_append.2 ⟨h.relative, List.forall_mem_singleton.2 hk.relative⟩
    distinct := by
      rw [List.map_append, List.nodup_append]
      exact ⟨h.distinct, List.pairwise_singleton _ _, fun a ha b hb hab => hnew (List.mem_singleton.1 hb ▸ hab ▸ ha)⟩
    prefixFree := List.forall_mem_append.2
      ⟨fun a ha => List.forall_mem_append.2 ⟨h.prefixFree a ha, List.forall_mem_singleton.2 (compat a ha).1⟩,
       List.forall_mem_singleton.2 (List.forall_mem_append.2
         ⟨fun a ha => (compat a ha).2, List.forall_mem_singleton.2 fun _ => rfl⟩)⟩
    imageFlat := fun hi => List.forall_mem_append.2 ⟨h.imageFlat hi, List.forall_mem_singleton.2 (hk.flat hi)⟩ }

theorem not_mem_keys_of_hasKey (h : hasKey items p = false) : p ∉ (items.map (·.1)).map parse := fun hm => by
  rw [List.map_map] at hm
  obtain ⟨e, he, heq⟩ := List.mem_map.1 hm
  rw [hasKey_iff.2 ⟨e, he, heq⟩] at h
  cases h

theorem Inv.find?_self (h : Inv s) (he : e ∈ s.items) : find? s.items e.1 = some e :=
  find?_self_of_nodup (by have := h.keysOK.distinct; rwa [keys, List.map_map] at this) he

theorem inv_empty (kind : Kind) : Inv ⟨kind, []⟩ :=
  ⟨KeysOK.nil kind, fun _ _ he => nomatch he⟩

theorem inv_clear (s : Store) : Inv (clear s) := inv_empty s.kind

theorem inv_remove (s : Store) (k : Key) (h : Inv s) : Inv (remove s k) :=
  ⟨h.keysOK.sublist (List.filter_sublist.map _), fun hk e he => h.imagePng hk e (List.mem_filter.1 he).1⟩

/-- `hk`: `get` writes under a stored key, `insert` under a validated one -/
theorem inv_setCell (h : Inv s)
    (hk : hasKey s.items (parse k) = true ∨ ∃ b, validate s.kind k s.items b = .ok ())
    (hc : s.kind = .image → ∀ b, c = .loaded b → pngSig <+: b) : Inv ⟨s.kind, setCell s.items k c⟩ := by
  refine ⟨?_, fun hkind e he b hb => ?_⟩
  · show KeysOK s.kind ((setCell s.items k c).map (·.1))
    cases hh : hasKey s.items (parse k) with
    | true => rw [setCell_of_hasKey hh, keys_map_upd]; exact h.keysOK
    | false =>
      obtain ⟨b, hv⟩ := hk.resolve_left (by rw [hh]; exact Bool.false_ne_true)
      rw [setCell_of_not hh, List.map_append]
      exact h.keysOK.concat (validate_ok_iff.1 hv).1 (not_mem_keys_of_hasKey hh)
  · rcases mem_setCell he with he | he
    · exact h.imagePng hkind e he b hb
    · exact hc hkind b (he ▸ hb)

theorem inv_insert (s : Store) (k : Key) (b : Bytes) (h : Inv s) : Inv (insert s k b).1 := by
  fun_cases insert s k b
  · exact h
  next u hv => exact inv_setCell h (Or.inr ⟨b, hv⟩) fun hk b' hb => by cases hb; exact (validate_ok_iff.1 hv).2 hk

theorem inv_get (s : Store) (disk : Disk) (k : Key) (h : Inv s) : Inv (get s disk k).1 := by
  rcases get_fst s disk k with hg | ⟨k0, hf, hg⟩ <;> rw [hg]
  · exact h
  · rw [← setCell_of_hasKey (find?_hasKey hf)]
    exact inv_setCell h (Or.inl (find?_hasKey hf)) fun hk b hb => (validate_ok_iff.1 (loadItem_loaded.1 hb).2).2 hk

theorem inv_iterFrom (s : Store) (disk : Disk) (ks : List Key) (h : Inv s) : Inv (iterFrom s disk ks).1 :=
  iterFrom_preserves (fun s k => inv_get s disk k) ks h

theorem inv_forceUntilError (s : Store) (disk : Disk) (ks : List Key) (h : Inv s) :
    Inv (forceUntilError s disk ks).1 :=
  forceUntilError_preserves (fun s k => inv_get s disk k) ks h

theorem mem_keys_step {st : State} {op : Op} (h : k ∈ keys (step st op).1.store) :
    k ∈ keys st.store ∨ ∃ b, op = .insert k b := by
  cases op with
  | insert k' b =>
    change k ∈ keys (insert st.store k' b).1 at h
    unfold insert at h
    split at h
    · exact Or.inl h
    · change k ∈ (setCell st.store.items k' (.loaded b)).map (·.1) at h
      cases hh : hasKey st.store.items (parse k') with
      | true => rw [setCell_of_hasKey hh, keys_map_upd] at h; exact Or.inl h
      | false =>
        rw [setCell_of_not hh, List.map_append] at h
        exact (List.mem_append.1 h).imp_right fun h => ⟨b, by rw [List.mem_singleton.1 h]⟩
  | remove k' => exact Or.inl ((List.filter_sublist.map _).subset h)
  | get k' => exact Or.inl (keys_get .. ▸ h)
  | clear => cases h
  | iter => exact Or.inl (keys_iterFrom st.store st.disk _ ▸ h)
  | _ => exact Or.inl h

end C16
