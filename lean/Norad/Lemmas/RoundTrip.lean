import Norad.Model.RoundTrip
import Norad.Lemmas.Assoc
/-!
# Per-part lemmas for the font round trip (C01/C04): key sorting, line endings, default layer
-/
namespace RT

variable {P : Parts}

theorem nodupS_cons (a : String) (r : List String) : nodupS (a :: r) = true ↔ a ∉ r ∧ nodupS r = true := by
  simp [nodupS]

theorem nodupS_iff (l : List String) : nodupS l = true ↔ l.Nodup := by
  induction l with
  | nil => simp [nodupS]
  | cons a r ih => simp [nodupS, ih]

theorem lookupKV_is : IsLookup lookupKV := ⟨fun _ => rfl, fun _ _ _ _ => rfl⟩

theorem lookupS_is {α : Type} : IsLookup (lookupS (α := α)) := ⟨fun _ => rfl, fun _ _ _ _ => rfl⟩

theorem lookup_insertKV (k : String) (a : String × PV) (l : Dict) :
    lookupKV k (insertKV a l) = if a.1 = k then some a.2 else lookupKV k l := by
  fun_induction insertKV a l with
  | case1 => rfl
  | case2 b r hlt ih =>
    rw [lookupKV, ih, lookupKV]
    -- `b` stays in front of `a`: if its key is `k`, the key of `a`, being greater, is not
    split
    next hb => rw [if_neg fun ha => String.lt_irrefl _ (hb.trans ha.symm ▸ hlt)]
    next => rfl
  | case3 => rfl

theorem lookup_sortKV (k : String) (l : Dict) : lookupKV k (sortKV l) = lookupKV k l := by
  induction l with
  | nil => rfl
  | cons a r ih =>
    obtain ⟨ak, av⟩ := a
    simp only [sortKV, lookup_insertKV, ih, lookupKV]

theorem lookup_sortRecL (k : String) (l : Dict) : lookupKV k (sortRecL l) = (lookupKV k l).map sortRec := by
  induction l with
  | nil => simp [sortRecL, lookupKV]
  | cons a r ih =>
    obtain ⟨ak, av⟩ := a
    simp only [sortRecL, lookupKV, ih]
    split <;> simp

theorem length_insertKV (a : String × PV) (l : Dict) : (insertKV a l).length = l.length + 1 := by
  fun_induction insertKV a l <;> simp [*]

theorem length_sortKV (l : Dict) : (sortKV l).length = l.length := by
  induction l with
  | nil => rfl
  | cons a r ih => simp [sortKV, length_insertKV, ih]

theorem length_sortRecL (l : Dict) : (sortRecL l).length = l.length := by
  induction l with
  | nil => simp [sortRecL]
  | cons a r ih => obtain ⟨ak, av⟩ := a; simp [sortRecL, ih]

theorem leaf_sortRec (a : PV) : (sortRec a).leaf = a.leaf := by
  cases a <;> simp [sortRec, PV.leaf, length_sortKV, length_sortRecL]

theorem sortRec_get_leaf (p : List Seg) : ∀ a : PV,
    ((sortRec a).get p).map PV.leaf = (a.get p).map PV.leaf := by
  induction p with
  | nil => intro a; simp [PV.get, leaf_sortRec]
  | cons s p ih =>
    intro a
    cases a with
    | dict l =>
      cases s with
      | key k =>
        simp only [sortRec, PV.get, lookup_sortKV, lookup_sortRecL]
        cases lookupKV k l with
        | none => rfl
        | some v => exact ih v
      | idx i => simp [sortRec, PV.get]
    | _ => simp [sortRec]

theorem startsCRsLF_crlfToLf (s : List Char) : startsCRsLF (crlfToLf s) = startsCRsLF s := by
  fun_induction crlfToLf s with
  | case1 r ih => rfl
  | case2 c r hne ih =>
    by_cases h1 : c = '\r'
    · subst h1; simp only [startsCRsLF, ih]
    · by_cases h2 : c = '\n'
      · subst h2; rfl
      · rw [startsCRsLF.eq_3, startsCRsLF.eq_3] <;> simp [h1, h2]
  | case3 => rfl

/-- The containers hold only fonts whose first layer is the default one (C06); such a font loads with its layers in
    the saved order. -/
theorem layers_roundtrip_order (l : (Layer P)) (r : List (Layer P)) (h : l.dir = glyphsDir) :
    defaultFirst (l :: r) = .ok (l :: r) := by
  simp [defaultFirst, findDefault, h]

theorem findDefault_spec (ls : List (Layer P)) (i : Nat) (h : findDefault ls = some i) :
    ∃ d, ls[i]? = some d ∧ d.dir = glyphsDir := by
  fun_induction findDefault ls generalizing i with
  | case1 => cases h
  | case2 l r hd => cases h; exact ⟨l, rfl, hd⟩
  | case3 l r hd ih =>
    obtain ⟨k, hk, rfl⟩ := Option.map_eq_some_iff.1 h
    exact ih k hk

end RT
