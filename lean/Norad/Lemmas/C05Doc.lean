import Norad.Lemmas.C05Bridge
import Norad.Lemmas.GlifGen
import Norad.Props.C11
/-!
# The document a description stands for (C05)

`itemsOf`/`gdocOf` is the document of the glif builder's generative grammar for a description, `glyphOf` the glyph it
describes in closed form, `DescLegal` the decidable rules on the description from which the grammar's legality follows
(`legalItems_of_descLegal`).  `Props.C11` is imported for `C11.accepts_iff_legal`.
-/
namespace C05Bridge
open Ufo3 Glif

section
variable (rd : Str → Option Nat)

/-- no theorem outside this block uses it: the document theorems of `C05Mixed` follow the writer's own events item by item -/
def StepSame (e e' : Ev) : Prop := ∀ s : PS, s.ver = 2 → step rd s e = step rd s e'

inductive EvsSame : List Ev → List Ev → Prop
  | nil : EvsSame [] []
  | cons {e e' : Ev} {l l' : List Ev} : StepSame rd e e' → EvsSame l l' → EvsSame (e :: l) (e' :: l')

theorem EvsSame.append {a a' b b' : List Ev} (h1 : EvsSame rd a a') (h2 : EvsSame rd b b') : EvsSame rd (a ++ b) (a' ++ b') := by
  induction h1 with
  | nil => exact h2
  | cons he _ ih => exact .cons he ih

theorem EvsSame.flatMap {α : Type} (w w' : α → List Ev) : ∀ l : List α, (∀ x, x ∈ l → EvsSame rd (w x) (w' x)) →
    EvsSame rd (l.flatMap w) (l.flatMap w')
  | [], _ => .nil
  | a :: r, h => by
    simp only [List.flatMap_cons]
    exact EvsSame.append rd (h a List.mem_cons_self) (EvsSame.flatMap w w' r (fun x hx => h x (List.mem_cons_of_mem _ hx)))

end

/-- the colour survives norad's three-decimal string (`nc`) -/
def ncFixed (nc : Color → Color) (c : Option ColorD) : Prop := ∀ x, c = some x → nc (colG x) = colG x

/-- `scaleStd`, `offsetStd`: a coefficient the encoder's gate would drop is the default itself (no value within 2⁻⁵² of 1 other
    than 1, no NaN; no `-0`) -/
def scaleStd (b : Nat) : Prop := farFromOne b = true ∨ b = f64One
def offsetStd (b : Nat) : Prop := nonZero b = true ∨ b = 0
def affineStd (t : Affine Nat) : Prop :=
  scaleStd t.xScale ∧ offsetStd t.xyScale ∧ offsetStd t.yxScale ∧ scaleStd t.yScale ∧ offsetStd t.xOffset ∧ offsetStd t.yOffset

section
variable {nc : Color → Color} {ok : Nat → Prop}

theorem valid_map_L {o : Option String} (h : ∀ n, o = some n → validName (L n) = true) :
    ∀ n, o.map L = some n → validName n = true := by
  cases o with
  | none => intro n hn; cases hn
  | some m => intro n hn; cases hn; exact h m rfl

theorem map_nc_fixed {c : Option ColorD} (h : ncFixed nc c) : (c.map colG).map nc = c.map colG := by
  cases c with
  | none => rfl
  | some x => exact congrArg some (h x rfl)

theorem guidelineG_line {g : GuidelineD} {l : Line} (hl : lineOf g = some l) (hx : ∀ v, g.x = some v → ok v)
    (hy : ∀ v, g.y = some v → ok v) (ha : ∀ v, g.angle = some v → ok v ∧ angleOk v = true) :
    match (guidelineG g).line with
    | .vertical x => ok x
    | .horizontal y => ok y
    | .angle x y d => ok x ∧ ok y ∧ ok d ∧ angleOk d = true := by
  obtain ⟨x, y, angle, name, color, ident⟩ := g
  simp only at hx hy ha
  cases x <;> cases y <;> cases angle <;> cases hl
  · exact hy _ rfl
  · exact hx _ rfl
  · exact ⟨hx _ rfl, hy _ rfl, ha _ rfl⟩

theorem offset_std {b : Nat} (h : offsetStd b) : (if nonZero b then b else 0) = b := by
  rcases h with h | rfl
  · rw [if_pos h]
  · rfl

theorem scale_std {b : Nat} (h : scaleStd b) : (if farFromOne b then b else f64One) = b := by
  rcases h with h | rfl
  · rw [if_pos h]
  · rfl

theorem normT_std {t : Affine Nat} (h : affineStd t) : normT (trG t) = trG t := by
  obtain ⟨h1, h2, h3, h4, h5, h6⟩ := h
  unfold normT
  rw [scale_std (b := (trG t).xScale) h1, offset_std (b := (trG t).xyScale) h2, offset_std (b := (trG t).yxScale) h3,
    scale_std (b := (trG t).yScale) h4, offset_std (b := (trG t).xOffset) h5, offset_std (b := (trG t).yOffset) h6]

/-- the static rules a description obeys (numbers in the codec's domain, valid names, colours in 0..1 that survive three
    decimals, coefficients the encoder's gates would not alter, no `-0` advance); identifier and contour legality are in
    `Glif.LegalItems` of the document -/
structure DescOK (ok : Nat → Prop) (nc : Color → Color) (d : GlyphD) : Prop where
  width : ok d.width
  height : ok d.height
  wstd : offsetStd d.width
  hstd : offsetStd d.height
  unicodes : ∀ c, c ∈ d.unicodes → ValidCodepoint c
  image : ∀ i, d.image = some i → okAffine ok i.t ∧ affineStd i.t ∧ okColor ok i.color ∧ ncFixed nc i.color
  guidelines : ∀ g, g ∈ d.guidelines → (∃ l, lineOf g = some l) ∧ (∀ v, g.x = some v → ok v) ∧ (∀ v, g.y = some v → ok v) ∧
    (∀ v, g.angle = some v → ok v ∧ angleOk v = true) ∧ (∀ n, g.name = some n → validName (L n) = true) ∧
    okColor ok g.color ∧ ncFixed nc g.color
  anchors : ∀ a, a ∈ d.anchors → ok a.x ∧ ok a.y ∧ (∀ n, a.name = some n → validName (L n) = true) ∧
    okColor ok a.color ∧ ncFixed nc a.color
  points : ∀ c, c ∈ d.contours → ∀ p, p ∈ c.points → ok p.x ∧ ok p.y ∧ (∀ n, p.name = some n → validName (L n) = true)
  components : ∀ k, k ∈ d.components → validName (L k.base) = true ∧ okAffine ok k.t ∧ affineStd k.t

def oitsOf (d : GlyphD) : List OIt :=
  d.contours.map (fun c => OIt.contour (c.identifier.map L) (c.points.map fun p => CIt.point (pointG p))) ++
  d.components.map (fun k => OIt.component (componentG k))

/-- items in the order `specWrite` writes them -/
def itemsOf (libD : Dict) (d : GlyphD) : List BIt :=
  [BIt.advance d.width d.height] ++ d.unicodes.map BIt.unicode ++
  (match d.note with | none => [] | some n => [BIt.note (if n.isEmpty then none else some (L n))]) ++
  (match d.image with | none => [] | some i => [BIt.image (imageG i)]) ++
  d.guidelines.map (fun g => BIt.guideline (guidelineG g)) ++ d.anchors.map (fun a => BIt.anchor (anchorG a)) ++
  [BIt.outline (oitsOf d)] ++
  (match d.lib with | none => [] | some _ => [BIt.lib libD])

def gdocOf (libD : Dict) (d : GlyphD) : GDoc :=
  { prolog := [.decl], name := L d.name, minor := false, items := itemsOf libD d, trailer := [] }

def contourG (c : ContourD) : Contour :=
  { points := c.points.map (fun p => pPoint (pointG p)), ident := c.identifier.map L }

/-- the glyph `specWrite rdr d` describes, as norad's parser builds it (before the object libs are moved out of the lib):
    colours through `nc`, gated coefficients through `normT` (both the identity under `DescOK`), contours without points
    dropped, repeated code points kept once -/
def glyphOf (nc : Color → Color) (libD : Dict) (d : GlyphD) : Glyph :=
  { name := L d.name
    width := if nonZero d.width then d.width else 0
    height := if nonZero d.height then d.height else 0
    codepoints := d.unicodes.foldl cpInsert []
    note := match d.note with | none => none | some n => if n.isEmpty then none else some (L n)
    guidelines := d.guidelines.map (fun g => pGuideline nc (guidelineG g))
    anchors := d.anchors.map (fun a => pAnchor nc (anchorG a))
    components := d.components.map (fun k => pComponent (componentG k))
    contours := (d.contours.filter (fun c => !c.points.isEmpty)).map contourG
    image := d.image.map (fun i => pImage nc (imageG i))
    lib := match d.lib with | none => [] | some _ => libD }

theorem pts_points (ps : List PointD) :
    (ps.map fun p => CIt.point (pointG p)).flatMap CIt.pts = ps.map (fun p => pPoint (pointG p)) := by
  rw [List.flatMap_map, List.map_eq_flatMap]
  rfl

theorem foldl_descContours : ∀ (cs : List ContourD) (ob : OB),
    (cs.map fun c => OIt.contour (c.identifier.map L) (c.points.map fun p => CIt.point (pointG p))).foldl applyO ob =
      { ob with contours := ob.contours ++ (cs.filter (fun c => !c.points.isEmpty)).map contourG } := by
  intro cs
  induction cs with
  | nil => intro ob; simp
  | cons c r ih =>
    intro ob
    simp only [List.map_cons, List.foldl_cons, ih, applyO, pts_points]
    cases hp : c.points <;> simp [hp, contourG]

theorem interp_gdocOf (nc : Color → Color) (libD : Dict) (d : GlyphD) :
    interp nc (gdocOf libD d) = glyphOf nc libD d := by
  have eG : d.guidelines.map (fun g => BIt.guideline (guidelineG g)) = (d.guidelines.map guidelineG).map BIt.guideline :=
    (List.map_map ..).symm
  have eA : d.anchors.map (fun a => BIt.anchor (anchorG a)) = (d.anchors.map anchorG).map BIt.anchor :=
    (List.map_map ..).symm
  have eK : d.components.map (fun k => OIt.component (componentG k)) = (d.components.map componentG).map OIt.component :=
    (List.map_map ..).symm
  unfold interp gdocOf itemsOf oitsOf glyphOf
  rw [foldl_applyB_g, eG, eA, eK]
  -- split on the optional items first: folded as option lists (`itemsOf_eq`) the record updates pile up unevaluated
  rcases d.note with _ | n
  · cases d.image <;> cases d.lib <;>
      simp only [List.foldl_append, List.foldl_cons, List.foldl_nil, foldl_unicodes, foldl_guidelines, foldl_anchors, applyG,
        foldl_descContours, foldl_components] <;>
      simp [Function.comp_def]
  · by_cases he : n = "" <;> cases d.image <;> cases d.lib <;>
      simp only [List.foldl_append, List.foldl_cons, List.foldl_nil, foldl_unicodes, foldl_guidelines, foldl_anchors, applyG,
        foldl_descContours, foldl_components] <;>
      simp [he, Function.comp_def, L]

def descIdents (d : GlyphD) : List Str :=
  d.guidelines.flatMap (fun g => (g.identifier.map L).toList) ++ d.anchors.flatMap (fun a => (a.identifier.map L).toList) ++
  d.contours.flatMap (fun c => (c.identifier.map L).toList ++ c.points.flatMap (fun p => (p.identifier.map L).toList)) ++
  d.components.flatMap (fun k => (k.identifier.map L).toList)

def descPt (p : PointD) : C11.Pt := ⟨ptG p.typ, p.smooth⟩

/-- **the rules of a legal glyph, on the description alone**: `DescOK`, a valid glyph name, an image file name without
    directory, identifiers valid and pairwise different across ALL objects, every contour legal (`C11.Legal`, the
    declarative rule of C11) -/
structure DescLegal (ok : Nat → Prop) (nc : Color → Color) (d : GlyphD) : Prop where
  name : validName (L d.name) = true
  desc : DescOK ok nc d
  imageName : ∀ i, d.image = some i → imageNameOk (L i.fileName) = true
  identsValid : ∀ i, i ∈ descIdents d → validIdent i = true
  identsNodup : (descIdents d).Nodup
  contours : ∀ c, c ∈ d.contours → C11.Legal (c.points.map descPt)

theorem ids_oits (d : GlyphD) :
    (oitsOf d).flatMap OIt.ids =
      d.contours.flatMap (fun c => (c.identifier.map L).toList ++ c.points.flatMap (fun p => (p.identifier.map L).toList)) ++
      d.components.flatMap (fun k => (k.identifier.map L).toList) := by
  simp only [oitsOf, List.flatMap_append, List.flatMap_map, OIt.ids]
  rfl

/-- `itemsOf` with its optional items as mapped option lists, so that what is computed over the items (identifiers, counts)
    needs no case split on which of them are present -/
theorem itemsOf_eq (libD : Dict) (d : GlyphD) : itemsOf libD d =
    [BIt.advance d.width d.height] ++ d.unicodes.map BIt.unicode ++
    d.note.toList.map (fun n => BIt.note (if n.isEmpty then none else some (L n))) ++
    d.image.toList.map (fun i => BIt.image (imageG i)) ++
    d.guidelines.map (fun g => BIt.guideline (guidelineG g)) ++ d.anchors.map (fun a => BIt.anchor (anchorG a)) ++
    [BIt.outline (oitsOf d)] ++ d.lib.toList.map (fun _ => BIt.lib libD) := by
  unfold itemsOf
  cases d.note <;> cases d.image <;> cases d.lib <;> rfl

theorem ids_items (libD : Dict) (d : GlyphD) : (itemsOf libD d).flatMap BIt.ids = descIdents d := by
  have z {α : Type} (l : List α) : l.flatMap (fun _ => ([] : List Str)) = [] := List.flatMap_eq_nil_iff.2 fun _ _ => rfl
  simp only [itemsOf_eq, descIdents, List.flatMap_append, List.flatMap_map, List.flatMap_cons, List.flatMap_nil, BIt.ids, z,
    ids_oits, List.append_nil, List.nil_append, List.append_assoc]
  rfl

theorem toPt_points (ps : List PointD) :
    ((ps.map fun p => CIt.point (pointG p)).flatMap CIt.pts).map toPt = ps.map descPt := by
  rw [pts_points, List.map_map]
  rfl

theorem legalItems_of_descLegal {ok : Nat → Prop} {nc : Color → Color} (libD : Dict) {d : GlyphD}
    (h : DescLegal ok nc d) : LegalItems ok (itemsOf libD d) := by
  have hv := h.desc
  have count : ∀ p, p ∈ [BIt.isAdvance, BIt.isOutline, BIt.isLib, BIt.isNote, BIt.isImage] →
      (itemsOf libD d).countP p ≤ 1 := by
    intro p hp
    simp only [List.mem_cons, List.not_mem_nil, or_false] at hp
    -- each predicate is false on seven of the eight segments and the eighth has at most one item
    rcases hp with rfl | rfl | rfl | rfl | rfl <;>
      simp [itemsOf_eq, List.countP_append, List.countP_cons, List.countP_map, Function.comp_def, BIt.isAdvance, BIt.isOutline,
        BIt.isLib, BIt.isNote, BIt.isImage, List.countP_false, List.countP_true, Option.length_toList_le]
  refine ⟨?_, by rw [ids_items]; exact h.identsNodup, count _ (by simp), count _ (by simp), count _ (by simp),
    count _ (by simp), count _ (by simp)⟩
  intro it hit
  have hid : ∀ i, i ∈ it.ids → validIdent i = true := fun i hi =>
    h.identsValid i (ids_items libD d ▸ List.mem_flatMap.2 ⟨it, hit, hi⟩)
  rw [itemsOf_eq] at hit
  simp only [List.mem_append, List.mem_map, List.mem_singleton, Option.mem_toList] at hit
  rcases hit with ((((((rfl | ⟨c, hc, rfl⟩) | ⟨n, -, rfl⟩) | ⟨i, hi, rfl⟩) | ⟨g, hg, rfl⟩) | ⟨a, ha, rfl⟩) | rfl) | ⟨t, -, rfl⟩
  · exact ⟨hv.width, hv.height⟩  -- advance
  · exact hv.unicodes c hc  -- unicode
  · trivial  -- note
  · exact ⟨h.imageName i hi, (hv.image i hi).1⟩  -- image
  · -- guideline
    obtain ⟨⟨l, h0⟩, h1, h2, h3, h4, _, _⟩ := hv.guidelines g hg
    exact ⟨guidelineG_line h0 h1 h2 h3, valid_map_L h4, fun i hi => hid i (by simp [BIt.ids, hi])⟩
  · -- anchor
    obtain ⟨h1, h2, h3, _, _⟩ := hv.anchors a ha
    exact ⟨h1, h2, valid_map_L h3, fun i hi => hid i (by simp [BIt.ids, hi])⟩
  · -- outline: its contours with their points, its components
    intro oit ho
    have hio : ∀ i, i ∈ oit.ids → validIdent i = true := fun i hi => hid i (List.mem_flatMap.2 ⟨oit, ho, hi⟩)
    unfold oitsOf at ho
    simp only [List.mem_append, List.mem_map] at ho
    rcases ho with ⟨c, hc, rfl⟩ | ⟨k, hk, rfl⟩
    · refine ⟨?_, ?_, fun i hi => hio i (by simp [OIt.ids, hi])⟩
      · intro cit hcit
        obtain ⟨p, hp, rfl⟩ := List.mem_map.1 hcit
        obtain ⟨h1, h2, h3⟩ := hv.points c hc p hp
        exact ⟨h1, h2, valid_map_L h3, fun i hi =>
          hio i (List.mem_append_right _ (List.mem_flatMap.2 ⟨_, hcit, by simp [CIt.ids, hi]⟩))⟩
      · rw [toPt_points]
        exact (C11.accepts_iff_legal _).2 (h.contours c hc)
    · obtain ⟨h1, h2, _⟩ := hv.components k hk
      exact ⟨h1, h2, fun i hi => hio i (by simp [OIt.ids, hi])⟩
  · trivial  -- lib

instance (c : Nat) : Decidable (ValidCodepoint c) := by unfold ValidCodepoint; infer_instance
instance (b : Nat) : Decidable (scaleStd b) := by unfold scaleStd; infer_instance
instance (b : Nat) : Decidable (offsetStd b) := by unfold offsetStd; infer_instance
instance (t : Affine Nat) : Decidable (affineStd t) := by unfold affineStd; infer_instance
instance (pts : List C11.Pt) : Decidable (C11.Legal pts) := decidable_of_iff _ (C11.accepts_iff_legal pts)
instance (g : GuidelineD) : Decidable (∃ l, lineOf g = some l) :=
  decidable_of_iff ((lineOf g).isSome = true) (by cases lineOf g <;> simp)

section
variable (ok : Nat → Prop) [DecidablePred ok] (nc : Color → Color)

instance (t : Affine Nat) : Decidable (okAffine ok t) := by unfold okAffine; infer_instance
instance (c : Option ColorD) : Decidable (okColor ok c) := by
  unfold okColor
  cases c with
  | none => exact isTrue (by intro x hx; cases hx)
  | some x =>
    exact decidable_of_iff ((ok x.r ∧ unitOk x.r = true) ∧ (ok x.g ∧ unitOk x.g = true) ∧ (ok x.b ∧ unitOk x.b = true) ∧
      (ok x.a ∧ unitOk x.a = true)) ⟨fun h y hy => by cases hy; exact h, fun h => h x rfl⟩
instance (c : Option ColorD) : Decidable (ncFixed nc c) := by
  unfold ncFixed
  cases c with
  | none => exact isTrue (by intro x hx; cases hx)
  | some x => exact decidable_of_iff (nc (colG x) = colG x) ⟨fun h y hy => by cases hy; exact h, fun h => h x rfl⟩

instance optForall {α : Type} (o : Option α) (p : α → Prop) [DecidablePred p] : Decidable (∀ v, o = some v → p v) := by
  cases o with
  | none => exact isTrue (by intro v hv; cases hv)
  | some x => exact decidable_of_iff (p x) ⟨fun h v hv => by cases hv; exact h, fun h => h x rfl⟩

instance (d : GlyphD) : Decidable (DescOK ok nc d) :=
  decidable_of_iff
    (ok d.width ∧ ok d.height ∧ offsetStd d.width ∧ offsetStd d.height ∧ (∀ c, c ∈ d.unicodes → ValidCodepoint c) ∧
     (∀ i, d.image = some i → okAffine ok i.t ∧ affineStd i.t ∧ okColor ok i.color ∧ ncFixed nc i.color) ∧
     (∀ g, g ∈ d.guidelines → (∃ l, lineOf g = some l) ∧ (∀ v, g.x = some v → ok v) ∧ (∀ v, g.y = some v → ok v) ∧
       (∀ v, g.angle = some v → ok v ∧ angleOk v = true) ∧ (∀ n, g.name = some n → validName (L n) = true) ∧
       okColor ok g.color ∧ ncFixed nc g.color) ∧
     (∀ a, a ∈ d.anchors → ok a.x ∧ ok a.y ∧ (∀ n, a.name = some n → validName (L n) = true) ∧
       okColor ok a.color ∧ ncFixed nc a.color) ∧
     (∀ c, c ∈ d.contours → ∀ p, p ∈ c.points → ok p.x ∧ ok p.y ∧ (∀ n, p.name = some n → validName (L n) = true)) ∧
     (∀ k, k ∈ d.components → validName (L k.base) = true ∧ okAffine ok k.t ∧ affineStd k.t))
    ⟨fun ⟨a, b, c, e, f, g, h, i, j, k⟩ => ⟨a, b, c, e, f, g, h, i, j, k⟩,
     fun ⟨a, b, c, e, f, g, h, i, j, k⟩ => ⟨a, b, c, e, f, g, h, i, j, k⟩⟩

instance (d : GlyphD) : Decidable (DescLegal ok nc d) :=
  decidable_of_iff
    (validName (L d.name) = true ∧ DescOK ok nc d ∧ (∀ i, d.image = some i → imageNameOk (L i.fileName) = true) ∧
     (∀ i, i ∈ descIdents d → validIdent i = true) ∧ (descIdents d).Nodup ∧
     (∀ c, c ∈ d.contours → C11.Legal (c.points.map descPt)))
    ⟨fun ⟨a, b, c, e, f, g⟩ => ⟨a, b, c, e, f, g⟩, fun ⟨a, b, c, e, f, g⟩ => ⟨a, b, c, e, f, g⟩⟩

def descLegalB (d : GlyphD) : Bool := decide (DescLegal ok nc d)

omit [DecidablePred ok] in
theorem descLegalB_iff' (d : GlyphD) [Decidable (DescLegal ok nc d)] : decide (DescLegal ok nc d) = true ↔ DescLegal ok nc d := by
  simp

theorem descLegalB_iff (d : GlyphD) : descLegalB ok nc d = true ↔ DescLegal ok nc d := by
  simp [descLegalB]

end

end
end C05Bridge
