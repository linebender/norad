import Norad.Model.FontSave
import Norad.Lemmas.Basic
/-!
`validatePhase`, `safePaths` and `saveImpl` read clause by clause; the forcing of store cells.
-/
namespace FontSave
open AbsFS

variable {β : Type}

theorem validatePhase_eq_ok {cfg : Cfg β} {f : AFont β} {fs : FS β} {d i : List (Path.P × β)} :
    validatePhase cfg f fs = .ok (d, i) ↔
      f.version = 3 ∧ hasObjectLibsKey f.lib = false ∧ f.groupsValid = true ∧ f.info.valid = true ∧
      forceStore cfg .data fs f.data = some d ∧ forceStore cfg .images fs f.images = some i := by
  simp only [validatePhase, ite_error_eq_ok, Decidable.not_not, Bool.not_eq_true, Bool.not_eq_true', Bool.not_eq_false]
  cases forceStore cfg .data fs f.data <;> cases forceStore cfg .images fs f.images <;> simp

/-- the guard of C09, clause by clause -/
theorem safePaths_iff {f : AFont β} : safePaths f = true ↔
    (∀ l ∈ f.layers, safeRel (Path.parse l.dir) = true ∧ ∀ e ∈ l.entries, safeRel (Path.parse e.file) = true) ∧
    (∀ kc ∈ f.data.items, safeRel kc.1 = true) ∧ (∀ kc ∈ f.images.items, safeRel kc.1 = true) := by
  simp only [safePaths, Bool.and_eq_true, List.all_eq_true, and_assoc]

theorem saveImpl_ok {cfg : Cfg β} {f : AFont β} {fs fs' : FS β} {t : APath}
    (h : saveImpl cfg f fs t = (none, fs')) :
    ∃ d i fs1, validatePhase cfg f fs = .ok (d, i) ∧ wipe fs t = .ok fs1 ∧
      runEffs (plan cfg f d i t) fs1 = (none, fs') := by
  revert h
  fun_cases saveImpl cfg f fs t <;> intro h
  · cases h
  · cases h
  · exact ⟨_, _, _, ‹_›, ‹_›, h⟩

theorem forceList_some {cfg : Cfg β} {kind : StoreKind} {fs : FS β} {root : APath} {keys : List Path.P} :
    ∀ {items : List (Path.P × Cell β)} {d : List (Path.P × β)}, forceList cfg kind fs root keys items = some d →
      items.map (fun kc => (kc.1, forceCell cfg kind fs root keys kc.1 kc.2)) = d.map fun kb => (kb.1, .loaded kb.2) := by
  intro items d
  fun_induction forceList cfg kind fs root keys items generalizing d <;> intro h <;> cases h
  · rfl
  · rename_i hc _ hr ih
    simp only [List.map_cons, hc, ih hr]

theorem forceList_keys {cfg : Cfg β} {kind : StoreKind} {fs : FS β} {root : APath} {keys : List Path.P}
    {items : List (Path.P × Cell β)} {d : List (Path.P × β)}
    (h : forceList cfg kind fs root keys items = some d) : d.map (·.1) = items.map (·.1) := by
  simpa [List.map_map, Function.comp_def] using (congrArg (List.map Prod.fst) (forceList_some h)).symm

theorem forceList_mem {cfg : Cfg β} {kind : StoreKind} {fs : FS β} {root : APath} {keys : List Path.P}
    {items : List (Path.P × Cell β)} {d : List (Path.P × β)} (h : forceList cfg kind fs root keys items = some d)
    {k : Path.P} {b : β} (hkb : (k, b) ∈ d) :
    ∃ c, (k, c) ∈ items ∧ forceCell cfg kind fs root keys k c = .loaded b := by
  have : (k, Cell.loaded b) ∈ d.map fun kb => (kb.1, Cell.loaded kb.2) := List.mem_map.mpr ⟨_, hkb, rfl⟩
  rw [← forceList_some h] at this
  obtain ⟨⟨k', c⟩, hm, he⟩ := List.mem_map.mp this
  obtain ⟨rfl, hc⟩ := Prod.mk.inj he
  exact ⟨c, hm, hc⟩

theorem forceList_mem_items {cfg : Cfg β} {kind : StoreKind} {fs : FS β} {root : APath} {keys : List Path.P}
    {items : List (Path.P × Cell β)} {d : List (Path.P × β)} (h : forceList cfg kind fs root keys items = some d)
    {k : Path.P} {c : Cell β} (hkc : (k, c) ∈ items) :
    ∃ b, (k, b) ∈ d ∧ forceCell cfg kind fs root keys k c = .loaded b := by
  have : (k, forceCell cfg kind fs root keys k c) ∈
      items.map fun kc => (kc.1, forceCell cfg kind fs root keys kc.1 kc.2) := List.mem_map.mpr ⟨_, hkc, rfl⟩
  rw [forceList_some h] at this
  obtain ⟨⟨k', b⟩, hm, he⟩ := List.mem_map.mp this
  obtain ⟨rfl, hc⟩ := Prod.mk.inj he
  exact ⟨b, hm, hc.symm⟩

theorem forceStore_none_of_bad {cfg : Cfg β} {kind : StoreKind} {fs : FS β} {s : Store β}
    {k : Path.P} {c : Cell β} (hmem : (k, c) ∈ s.items)
    (hbad : ∀ b, forceCell cfg kind fs s.root (s.items.map (·.1)) k c ≠ .loaded b) :
    forceStore cfg kind fs s = none := by
  cases h : forceStore cfg kind fs s with
  | none => rfl
  | some d =>
    obtain ⟨b, _, hb⟩ := forceList_mem_items h hmem
    exact absurd hb (hbad b)

end FontSave
