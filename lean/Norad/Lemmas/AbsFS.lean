import Norad.Model.AbsFS
/-!
The primitives of the abstract file system on all-normal component lists (`l.map Comp.normal`, the names `l` from the
root), each characterised completely in terms of the way to `l` (`OnWay`, `Dirs`, `NoFile`); `create_dir_all`
(`MkdirAllSpec`).
-/
namespace AbsFS
open Path (Comp)

variable {β : Type}

theorem lookup_filter (fs : FS β) (drop : APath → Bool) (q : APath) :
    lookup (fs.filter fun e => !drop e.1) q = if drop q = true then none else lookup fs q := by
  induction fs with
  | nil => simp [lookup]
  | cons e r ih =>
    obtain ⟨a, n⟩ := e
    by_cases ha : drop a = true
    · rw [List.filter_cons_of_neg (by simp [ha]), ih, lookup]
      by_cases haq : a = q
      · rw [← haq, if_pos ha, if_pos ha]
      · rw [if_neg haq]
    · rw [List.filter_cons_of_pos (by simp [ha]), lookup, ih, lookup]
      by_cases haq : a = q
      · rw [if_pos haq, if_pos haq, if_neg (haq ▸ ha)]
      · rw [if_neg haq, if_neg haq]

theorem lookup_set (fs : FS β) (p q : APath) (n : Node β) :
    lookup (set fs p n) q = if p = q then some n else lookup fs q := by
  rw [set, lookup, lookup_filter fs (· == p)]
  by_cases h : p = q
  · rw [if_pos h, if_pos h]
  · rw [if_neg h, if_neg h, if_neg (by simpa using Ne.symm h)]

theorem lookup_set_ne (fs : FS β) {p q : APath} (n : Node β) (h : p ≠ q) :
    lookup (set fs p n) q = lookup fs q := by rw [lookup_set, if_neg h]

theorem lookup_set_changed {fs : FS β} {p q : APath} {n : Node β} (h : lookup (set fs p n) q ≠ lookup fs q) :
    p = q ∧ lookup (set fs p n) q = some n := by
  by_cases hq : p = q
  · exact ⟨hq, by rw [lookup_set, if_pos hq]⟩
  · exact absurd (lookup_set_ne fs n hq) h

theorem lookup_removeAll (fs : FS β) (p q : APath) :
    lookup (removeAll fs p) q = if p.isPrefixOf q = true then none else lookup fs q :=
  lookup_filter fs p.isPrefixOf q

theorem node_of_ne_nil (fs : FS β) {p : APath} (h : p ≠ []) : node fs p = lookup fs p := by
  simp [node, h]

theorem node_set (fs : FS β) (p q : APath) (n : Node β) (hp : p ≠ []) :
    node (set fs p n) q = if p = q then some n else node fs q := by
  unfold node
  by_cases hq : q = []
  · subst hq; simp [hp]
  · simp [hq, lookup_set]

theorem isDir_iff {fs : FS β} {p : APath} : isDir fs p = true ↔ node fs p = some .dir := by
  unfold isDir
  cases h : node fs p with
  | none => simp
  | some n => cases n <;> simp

def OnWay (P : APath → Prop) (l : APath) : Prop := ∀ m, m <+: l → m ≠ [] → P m

theorem OnWay.mono {P : APath → Prop} {l m : APath} (h : OnWay P l) (hm : m <+: l) : OnWay P m :=
  fun x hx => h x (hx.trans hm)

theorem onWay_concat {P : APath → Prop} {l : APath} {s : Name} : OnWay P (l ++ [s]) ↔ OnWay P l ∧ P (l ++ [s]) := by
  constructor
  · exact fun h => ⟨h.mono (List.prefix_append _ _), h _ (List.prefix_refl _) (by simp)⟩
  · intro h m hm hne
    rcases List.prefix_concat_iff.mp hm with rfl | hm
    · exact h.2
    · exact h.1 m hm hne

theorem onWay_cons {P : APath → Prop} {s : Name} {r : APath} :
    OnWay P (s :: r) ↔ P [s] ∧ OnWay (fun m => P (s :: m)) r := by
  constructor
  · exact fun h => ⟨h [s] (by simp) (by simp), fun m hm _ => h (s :: m) (List.cons_prefix_cons.2 ⟨rfl, hm⟩) (by simp)⟩
  · rintro ⟨h1, h2⟩ m hm hne
    match m, hm, hne with
    | a :: m', hm, _ =>
      obtain ⟨rfl, hm'⟩ := List.cons_prefix_cons.1 hm
      by_cases h0 : m' = []
      · subst h0; exact h1
      · exact h2 m' hm' h0

def Dirs (fs : FS β) (l : APath) : Prop := OnWay (fun m => isDir fs m = true) l

def NoFile (fs : FS β) (l : APath) : Prop := OnWay (fun m => ∀ b, node fs m ≠ some (.file b)) l

theorem Dirs.mono {fs : FS β} {l m : APath} (h : Dirs fs l) (hm : m <+: l) : Dirs fs m := OnWay.mono h hm

theorem dirs_concat {fs : FS β} {l : APath} {s : Name} : Dirs fs (l ++ [s]) ↔ Dirs fs l ∧ isDir fs (l ++ [s]) = true :=
  onWay_concat

theorem walk_normal (fs : FS β) : ∀ (l : List Name) (st : APath),
    (OnWay (fun m => isDir fs (st ++ m) = true) l ∧ walk fs st (l.map Comp.normal) = .ok (st ++ l)) ∨
    (¬ OnWay (fun m => isDir fs (st ++ m) = true) l ∧ ∃ e, walk fs st (l.map Comp.normal) = .error e ∧
      (e = .notFound ∨ ∃ m, m <+: l ∧ m ≠ [] ∧ ∃ b, node fs (st ++ m) = some (.file b)))
  | [], st => Or.inl ⟨fun m hm hne => absurd (List.prefix_nil.mp hm) hne, by simp [walk]⟩
  | s :: r, st => by
    simp only [List.map, walk, onWay_cons, isDir_iff]
    cases hn : node fs (st ++ [s]) with
    | none => exact Or.inr ⟨fun h => by simp at h, _, rfl, Or.inl rfl⟩
    | some nd =>
      cases nd with
      | file b => exact Or.inr ⟨fun h => by simp at h, _, rfl, Or.inr ⟨[s], by simp, by simp, b, hn⟩⟩
      | dir =>
        simp only [true_and]
        rcases walk_normal fs r (st ++ [s]) with ⟨h1, h2⟩ | ⟨h1, e, h2, h3⟩
        · exact Or.inl ⟨fun m hm hne => by simpa [isDir_iff] using h1 m hm hne, by simpa using h2⟩
        · refine Or.inr ⟨fun h => h1 fun m hm hne => by simpa [isDir_iff] using h m hm hne, e, h2, ?_⟩
          rcases h3 with h3 | ⟨m, hm, hne, b, hb⟩
          · exact Or.inl h3
          · exact Or.inr ⟨s :: m, List.cons_prefix_cons.2 ⟨rfl, hm⟩, by simp, b, by simpa using hb⟩

theorem locate_normal (fs : FS β) (l : APath) :
    (l = [] ∧ locate fs (l.map Comp.normal) = .ok ([], true)) ∨
    (l ≠ [] ∧ Dirs fs l.dropLast ∧ locate fs (l.map Comp.normal) = .ok (l, false)) ∨
    (l ≠ [] ∧ ¬ Dirs fs l.dropLast ∧ ∃ e, locate fs (l.map Comp.normal) = .error e ∧
      (e = .notFound ∨ ∃ m, m <+: l.dropLast ∧ m ≠ [] ∧ ∃ b, node fs m = some (.file b))) := by
  rcases List.eq_nil_or_concat l with rfl | ⟨l', s, rfl⟩
  · exact Or.inl ⟨rfl, rfl⟩
  · have hl : locate fs ((l' ++ [s]).map Comp.normal) =
        match walk fs [] (l'.map Comp.normal) with
        | .error e => .error e
        | .ok d => .ok (d ++ [s], false) := by
      simp [locate, List.getLast?_append]
      rfl
    simp only [List.concat_eq_append, List.dropLast_concat, hl]
    refine Or.inr ?_
    rcases walk_normal fs l' [] with ⟨h1, h2⟩ | ⟨h1, e, h2, h3⟩ <;> simp only [List.nil_append] at h1 h2 <;> rw [h2]
    · exact Or.inl ⟨by simp, h1, rfl⟩
    · exact Or.inr ⟨by simp, h1, e, rfl, by simpa using h3⟩

theorem mkdir_normal {fs fs' : FS β} {l : APath} :
    mkdir fs (l.map Comp.normal) = .ok fs' ↔
      l ≠ [] ∧ Dirs fs l.dropLast ∧ node fs l = none ∧ fs' = set fs l .dir := by
  unfold mkdir
  rcases locate_normal fs l with ⟨rfl, h⟩ | ⟨hne, hd, h⟩ | ⟨hne, hd, e, h, _⟩ <;> rw [h]
  · simp
  · cases hn : node fs l <;> simp [hne, hd, hn, @eq_comm _ fs']
  · simp [hd]

theorem writeFile_normal {fs fs' : FS β} {l : APath} {b : β} :
    writeFile fs (l.map Comp.normal) b = .ok fs' ↔
      l ≠ [] ∧ Dirs fs l.dropLast ∧ isDir fs l = false ∧ fs' = set fs l (.file b) := by
  unfold writeFile
  rcases locate_normal fs l with ⟨rfl, h⟩ | ⟨hne, hd, h⟩ | ⟨hne, hd, e, h, _⟩ <;> rw [h]
  · simp
  · cases hn : isDir fs l <;> simp [hne, hd, hn, @eq_comm _ fs']
  · simp [hd]

theorem readFile_normal {fs : FS β} {l : APath} {b : β} :
    readFile fs (l.map Comp.normal) = .ok b ↔ l ≠ [] ∧ Dirs fs l.dropLast ∧ node fs l = some (.file b) := by
  unfold readFile
  rcases locate_normal fs l with ⟨rfl, h⟩ | ⟨hne, hd, h⟩ | ⟨hne, hd, e, h, _⟩ <;> rw [h]
  · simp
  · rcases hn : node fs l with _ | _ | c <;> simp [hne, hd, hn]
  · simp [hd]

theorem removeDirAll_normal {fs fs' : FS β} {l : APath} :
    removeDirAll fs (l.map Comp.normal) = .ok fs' ↔
      l ≠ [] ∧ Dirs fs l.dropLast ∧ node fs l = some .dir ∧ fs' = removeAll fs l := by
  unfold removeDirAll
  rcases locate_normal fs l with ⟨rfl, h⟩ | ⟨hne, hd, h⟩ | ⟨hne, hd, e, h, _⟩ <;> rw [h]
  · simp
  · rcases hn : node fs l with _ | _ | c <;> simp [hne, hd, hn, @eq_comm _ fs']
  · simp [hd]

theorem existsAt_normal {fs : FS β} {l : APath} (hne : l ≠ []) :
    existsAt fs (l.map Comp.normal) = true ↔ Dirs fs l.dropLast ∧ (node fs l).isSome = true := by
  unfold existsAt
  rcases locate_normal fs l with ⟨rfl, h⟩ | ⟨_, hd, h⟩ | ⟨_, hd, e, h, _⟩ <;> rw [h]
  · exact absurd rfl hne
  · simp [hd]
  · simp [hd]

theorem isDirAt_normal {fs : FS β} {l : APath} (hne : l ≠ []) :
    isDirAt fs (l.map Comp.normal) = true ↔ Dirs fs l := by
  obtain ⟨l', s, rfl⟩ := (List.eq_nil_or_concat l).resolve_left hne
  rw [List.concat_eq_append, dirs_concat]
  unfold isDirAt
  rcases locate_normal fs (l' ++ [s]) with ⟨h0, h⟩ | ⟨_, hd, h⟩ | ⟨_, hd, e, h, _⟩ <;> rw [h]
  · simp at h0
  · simp [List.dropLast_concat ▸ hd]
  · simp [List.dropLast_concat ▸ hd]

theorem mkdir_normal_error {fs : FS β} {l : APath} {e : IoErr} (hne : l ≠ [])
    (h : mkdir fs (l.map Comp.normal) = .error e) :
    (¬ Dirs fs l.dropLast ∧ (e = .notFound ∨ ∃ m, m <+: l.dropLast ∧ m ≠ [] ∧ ∃ b, node fs m = some (.file b))) ∨
    (Dirs fs l.dropLast ∧ (node fs l).isSome = true ∧ e = .alreadyExists) := by
  unfold mkdir at h
  rcases locate_normal fs l with ⟨h0, hl⟩ | ⟨_, hd, hl⟩ | ⟨_, hd, e', hl, he'⟩ <;> simp only [hl] at h
  · exact absurd h0 hne
  · by_cases hs : (node fs l).isSome = true
    · rw [if_pos hs] at h
      cases h
      exact Or.inr ⟨hd, hs, rfl⟩
    · rw [if_neg hs] at h
      cases h
  · cases h
    exact Or.inl ⟨hd, he'⟩

/-- the block `mkdirAllRev` of the model contains twice: `mkdir`, and an existing directory is as good -/
def mkdirOr (fs : FS β) (cs : List Comp) : FS β × Option IoErr :=
  match mkdir fs cs with
  | .ok fs' => (fs', none)
  | .error e => if isDirAt fs cs then (fs, none) else (fs, some e)

theorem mkdirAllRev_cons (fs : FS β) (c : Comp) (rest : List Comp) :
    (mkdir fs (c :: rest).reverse = .error .notFound →
      mkdirAllRev fs (c :: rest) =
        match mkdirAllRev fs rest with
        | (fs1, some e) => (fs1, some e)
        | (fs1, none) => mkdirOr fs1 (c :: rest).reverse) ∧
    (mkdir fs (c :: rest).reverse ≠ .error .notFound → mkdirAllRev fs (c :: rest) = mkdirOr fs (c :: rest).reverse) := by
  rw [mkdirAllRev]
  unfold mkdirOr
  rcases mkdir fs (c :: rest).reverse with e | _
  · cases e with
    | notFound => exact ⟨fun _ => rfl, fun h => absurd rfl h⟩
    | _ => exact ⟨nofun, fun _ => rfl⟩
  · exact ⟨nofun, fun _ => rfl⟩

theorem dirs_set {fs : FS β} {l p : APath} {n : Node β} (h : Dirs fs l) (hp : node fs p = none) :
    Dirs (set fs p n) l := by
  intro m hm hne
  have : isDir fs m = true := h m hm hne
  show isDir (set fs p n) m = true
  rw [isDir_iff] at this ⊢
  have hpm : p ≠ m := fun e => by rw [e, this] at hp; cases hp
  rw [node_of_ne_nil _ hne, lookup_set_ne _ _ hpm, ← node_of_ne_nil _ hne, this]

theorem dirs_removeAll {fs : FS β} {l p : APath} (h : Dirs fs l) (hp : ¬ p <+: l) : Dirs (removeAll fs p) l := by
  intro m hm hne
  have : isDir fs m = true := h m hm hne
  show isDir (removeAll fs p) m = true
  rw [isDir_iff, node_of_ne_nil _ hne] at this ⊢
  rw [lookup_removeAll, if_neg fun hpm => hp ((List.isPrefixOf_iff_prefix.mp hpm).trans hm), this]

theorem mkdir_normal_dirs {fs fs' : FS β} {l : APath} (h : mkdir fs (l.map Comp.normal) = .ok fs') : Dirs fs' l := by
  obtain ⟨hne, hd, hn, rfl⟩ := mkdir_normal.mp h
  obtain ⟨l', s, rfl⟩ := (List.eq_nil_or_concat l).resolve_left hne
  rw [List.concat_eq_append] at hn ⊢
  rw [List.concat_eq_append, List.dropLast_concat] at hd
  exact dirs_concat.mpr ⟨dirs_set hd hn, by rw [isDir_iff, node_set _ _ _ _ (by simp), if_pos rfl]⟩

theorem mkdirOr_spec {g g' : FS β} {l : APath} {s : Name} {o : Option IoErr}
    (h : mkdirOr g ((l ++ [s]).map Comp.normal) = (g', o)) :
    (g' = g ∨ (node g (l ++ [s]) = none ∧ g' = set g (l ++ [s]) .dir)) ∧
    (o = none → Dirs g' (l ++ [s])) ∧
    (mkdir g ((l ++ [s]).map Comp.normal) ≠ .error .notFound → NoFile g (l ++ [s]) → o = none) := by
  have hne : l ++ [s] ≠ [] := by simp
  revert h
  fun_cases mkdirOr g ((l ++ [s]).map Comp.normal) <;> intro h <;> cases h
  next hm =>
    have hdirs := mkdir_normal_dirs hm
    obtain ⟨_, _, hn, rfl⟩ := mkdir_normal.mp hm
    exact ⟨Or.inr ⟨hn, rfl⟩, fun _ => hdirs, fun _ _ => rfl⟩
  next e hm hdir => exact ⟨Or.inl rfl, fun _ => (isDirAt_normal hne).mp hdir, fun _ _ => rfl⟩
  next e hm hdir =>
    refine ⟨Or.inl rfl, nofun, fun hnf hfile => ?_⟩
    exfalso
    rcases mkdir_normal_error hne hm with ⟨_, rfl | ⟨m, hm1, hm2, b, hb⟩⟩ | ⟨hd, hs, _⟩
    · exact hnf hm
    · exact hfile m (hm1.trans (List.dropLast_prefix _)) hm2 b hb
    · rw [List.dropLast_concat] at hd
      apply hdir
      rw [isDirAt_normal hne, dirs_concat, isDir_iff]
      refine ⟨hd, ?_⟩
      rcases hn : node g (l ++ [s]) with _ | _ | b
      · rw [hn] at hs; cases hs
      · rfl
      · exact absurd hn (hfile _ (List.prefix_refl _) hne b)

/-- `create_dir_all` on the names `l` took `fs` to `g` with outcome `o` -/
structure MkdirAllSpec (fs g : FS β) (o : Option IoErr) (l : APath) : Prop where
  /-- whatever the outcome: the call may fail half-way -/
  changes : ∀ q, lookup g q ≠ lookup fs q → q <+: l ∧ q ≠ [] ∧ node fs q = none ∧ lookup g q = some .dir
  dirs : o = none → Dirs g l
  succeeds : NoFile fs l → o = none

theorem mkdirAllRev_spec (rl : List Name) : ∀ {fs g : FS β} {o : Option IoErr},
    mkdirAllRev fs (rl.map Comp.normal) = (g, o) → MkdirAllSpec fs g o rl.reverse := by
  induction rl with
  | nil =>
    intro fs g o h
    cases h
    exact ⟨fun q h => absurd rfl h, fun _ m hm hne => absurd (List.prefix_nil.mp hm) hne, fun _ => rfl⟩
  | cons s r ih =>
    intro fs g o h
    obtain ⟨hN, hO⟩ := mkdirAllRev_cons fs (.normal s) (r.map .normal)
    have hcs : (Comp.normal s :: r.map Comp.normal).reverse = (r.reverse ++ [s]).map Comp.normal := by simp
    rw [hcs] at hN hO
    have hne : r.reverse ++ [s] ≠ [] := by simp
    have level : ∀ {g1 g2 : FS β} {o'}, mkdirOr g1 ((r.reverse ++ [s]).map Comp.normal) = (g2, o') →
        ∀ q, lookup g2 q ≠ lookup g1 q → q = r.reverse ++ [s] ∧ node g1 q = none ∧ lookup g2 q = some .dir := by
      intro g1 g2 o' h' q hq
      rcases (mkdirOr_spec h').1 with rfl | ⟨hn, rfl⟩
      · exact absurd rfl hq
      · obtain ⟨rfl, hnew⟩ := lookup_set_changed hq
        exact ⟨rfl, hn, hnew⟩
    simp only [List.map_cons, List.reverse_cons] at h ⊢
    by_cases hm : mkdir fs ((r.reverse ++ [s]).map Comp.normal) = .error .notFound
    · rw [hN hm] at h
      have hpre : ∀ {q}, q <+: r.reverse → q <+: r.reverse ++ [s] := fun h => h.trans (List.prefix_append _ _)
      rcases hrec : mkdirAllRev fs (r.map Comp.normal) with ⟨fs1, _ | e⟩ <;> rw [hrec] at h <;>
        obtain ⟨ih1, ih2, ih3⟩ := ih hrec
      · -- the recursive call has made the parent, so the second `mkdir` cannot report `notFound` again
        obtain ⟨_, hb, hc⟩ := mkdirOr_spec h
        have hd1 : Dirs fs1 r.reverse := ih2 rfl
        -- the recursive call did not touch the path itself: it is longer than every prefix of its parent
        have hsame : lookup fs1 (r.reverse ++ [s]) = lookup fs (r.reverse ++ [s]) :=
          Classical.byContradiction fun hc => by
            have := (ih1 _ hc).1.length_le
            simp only [List.length_append, List.length_reverse, List.length_singleton] at this
            omega
        refine ⟨fun q hq => ?_, hb, fun hfile => hc ?_ ?_⟩
        · by_cases hq1 : lookup g q = lookup fs1 q
          · rw [hq1] at hq ⊢
            obtain ⟨a, b, c, d⟩ := ih1 q hq
            exact ⟨hpre a, b, c, d⟩
          · obtain ⟨rfl, hn, hdir⟩ := level h q hq1
            rw [node_of_ne_nil _ hne] at hn ⊢
            exact ⟨List.prefix_refl _, hne, hsame ▸ hn, hdir⟩
        · intro h'
          rcases mkdir_normal_error hne h' with ⟨hnd, _⟩ | ⟨_, _, he⟩
          · exact hnd (List.dropLast_concat ▸ hd1)
          · cases he
        · intro m hm' hm0 b hb'
          rcases List.prefix_concat_iff.mp hm' with rfl | hm'
          · rw [node_of_ne_nil _ hne, hsame, ← node_of_ne_nil _ hne] at hb'
            exact hfile _ (List.prefix_refl _) hne b hb'
          · rw [isDir_iff.mp (hd1 m hm' hm0)] at hb'
            cases hb'
      · cases h
        exact ⟨fun q hq => by obtain ⟨a, b, c, d⟩ := ih1 q hq; exact ⟨hpre a, b, c, d⟩, nofun,
          fun hfile => nomatch ih3 fun m hm' => hfile m (hpre hm')⟩
    · rw [hO hm] at h
      obtain ⟨_, hb, hc⟩ := mkdirOr_spec h
      refine ⟨fun q hq => ?_, hb, hc hm⟩
      obtain ⟨rfl, hn, hdir⟩ := level h q hq
      exact ⟨List.prefix_refl _, hne, hn, hdir⟩

theorem listBelow_go_mem (d : APath) :
    ∀ (fs : FS β) (seen : List APath) (q : APath) (n : Node β),
      lookup fs q = some n → q ∉ seen → d <+: q → q.length > d.length →
      (q.drop d.length, match n with | .file _ => true | .dir => false) ∈ listBelow.go d fs seen := by
  intro fs seen
  fun_induction listBelow.go d fs seen <;> intro q n h hseen hpre hlen <;> rw [lookup] at h
  case case1 => cases h
  case case2 a n' r seen hc ih =>  -- already seen
    have haq : a ≠ q := fun e => hseen (e ▸ by simpa using hc)
    rw [if_neg haq] at h
    exact ih q n h hseen hpre hlen
  case case3 a n' r seen hc hcond ih =>  -- listed
    by_cases haq : a = q
    · subst haq
      rw [if_pos rfl] at h
      cases h
      exact List.mem_cons_self ..
    · rw [if_neg haq] at h
      exact List.mem_cons_of_mem _ (ih q n h (fun hm => (List.mem_cons.mp hm).elim (fun e => haq e.symm) hseen) hpre hlen)
  case case4 a n' r seen hc hcond ih =>  -- skipped
    have haq : a ≠ q := fun e => hcond (by subst e; simpa using ⟨hpre, hlen⟩)
    rw [if_neg haq] at h
    exact ih q n h (fun hm => (List.mem_cons.mp hm).elim (fun e => haq e.symm) hseen) hpre hlen

theorem listBelow_mem_file {fs : FS β} {d rel : APath} {b : β} (hrel : rel ≠ [])
    (h : lookup fs (d ++ rel) = some (.file b)) : (rel, true) ∈ listBelow fs d := by
  have := listBelow_go_mem d fs [] (d ++ rel) (.file b) h (by simp) (List.prefix_append _ _)
    (by simp; exact List.length_pos_iff.mpr hrel)
  simpa [listBelow] using this

theorem listBelow_go_nonempty (d : APath) :
    ∀ (fs : FS β) (seen : List APath), ∀ e ∈ listBelow.go d fs seen, e.1 ≠ [] := by
  intro fs seen
  fun_induction listBelow.go d fs seen
  case case1 => nofun
  case case2 ih => exact ih  -- already seen
  case case4 ih => exact ih  -- skipped
  case case3 q _ _ _ _ hcond ih =>  -- listed
    intro e he
    rcases List.mem_cons.mp he with rfl | he
    · simp only [Bool.and_eq_true, decide_eq_true_eq] at hcond
      intro hnil
      have := congrArg List.length hnil
      simp only [List.length_drop, List.length_nil] at this
      omega
    · exact ih e he

end AbsFS
