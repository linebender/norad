import Norad.Lemmas.Basic
/-!
`Font::save` writes the entries of the data and image stores in `HashMap` iteration order
(`font.rs:526-553`): for every entry `create_dir_all(parent(dest))` and `write(dest, bytes)`.
`writeEntry` is the state such a pair of calls leaves **when it succeeds** on a tree without symbolic
links.  Writes to pairwise different, non-nested destinations commute, hence the tree after the loop
does not depend on its order (`writes_order_independent`), which is all that the hash order can influence.
-/
namespace StoreOrder

abbrev Loc := List (List Char)
abbrev Bytes := List UInt8

inductive FNode
  | dir
  | file (b : Bytes)
  deriving DecidableEq, Repr

abbrev Tree := Loc → Option FNode

/-- `q` is a proper prefix of `d`: it lies above `d` -/
def below (q d : Loc) : Bool := q.isPrefixOf d && q != d

theorem below_iff {q d : Loc} : below q d = true ↔ q <+: d ∧ q ≠ d := by
  unfold below
  simp only [Bool.and_eq_true, List.isPrefixOf_iff_prefix, bne_iff_ne]

theorem below_concat {q l : Loc} {s : List Char} : below q (l ++ [s]) = true ↔ q <+: l := by
  rw [below_iff, List.prefix_concat_iff]
  refine ⟨fun h => h.1.resolve_left h.2, fun h => ⟨Or.inr h, fun he => ?_⟩⟩
  have := h.length_le
  rw [he, List.length_append] at this
  exact Nat.not_succ_le_self _ this

def writeEntry (t : Tree) (w : Loc × Bytes) : Tree :=
  fun q => if q = w.1 then some (.file w.2) else if below q w.1 then some .dir else t q

def NonNested (a b : Loc × Bytes) : Prop := a.1.isPrefixOf b.1 = false ∧ b.1.isPrefixOf a.1 = false

theorem NonNested.symm {a b : Loc × Bytes} (h : NonNested a b) : NonNested b a := ⟨h.2, h.1⟩

theorem writeEntry_of_not_prefix {t : Tree} {w : Loc × Bytes} {q : Loc} (h : q.isPrefixOf w.1 = false) :
    writeEntry t w q = t q := by
  have hq : ¬ q = w.1 := fun hq => by rw [hq, isPrefixOf_self] at h; cases h
  unfold writeEntry below
  rw [if_neg hq, h]
  rfl

theorem writeEntry_comm (t : Tree) (a b : Loc × Bytes) (h : NonNested a b) :
    writeEntry (writeEntry t a) b = writeEntry (writeEntry t b) a := by
  funext q
  by_cases hqa : q = a.1
  · rw [hqa, writeEntry_of_not_prefix h.1]
    unfold writeEntry
    rw [if_pos rfl, if_pos rfl]
  by_cases hqb : q = b.1
  · rw [hqb, writeEntry_of_not_prefix h.2]
    unfold writeEntry
    rw [if_pos rfl, if_pos rfl]
  unfold writeEntry
  simp only [hqa, hqb, ↓reduceIte]
  cases below q a.1 <;> cases below q b.1 <;> rfl

def writeAll (t : Tree) (ws : List (Loc × Bytes)) : Tree := ws.foldl writeEntry t

theorem writes_order_independent (t : Tree) {ws₁ ws₂ : List (Loc × Bytes)} (hp : ws₁.Perm ws₂)
    (hpw : ws₁.Pairwise NonNested) : writeAll t ws₁ = writeAll t ws₂ :=
  foldl_perm_of_comm writeEntry NonNested NonNested.symm (fun s a b h => writeEntry_comm s a b h) hp hpw t

theorem writeAll_of_nonNested {t : Tree} {w : Loc × Bytes} {ws : List (Loc × Bytes)}
    (h : ∀ y ∈ ws, NonNested w y) : writeAll t ws w.1 = t w.1 := by
  induction ws generalizing t with
  | nil => rfl
  | cons y r ih =>
    exact (ih (t := writeEntry t y) fun z hz => h z (List.mem_cons_of_mem _ hz)).trans
      (writeEntry_of_not_prefix (h y (List.mem_cons_self ..)).1)

theorem writeAll_lookup (t : Tree) (ws : List (Loc × Bytes)) (hpw : ws.Pairwise NonNested)
    (w : Loc × Bytes) (hw : w ∈ ws) : writeAll t ws w.1 = some (.file w.2) := by
  induction ws generalizing t with
  | nil => cases hw
  | cons x r ih =>
    have hp := List.pairwise_cons.1 hpw
    rcases List.mem_cons.1 hw with rfl | hw
    · exact (writeAll_of_nonNested (t := writeEntry t w) hp.1).trans (if_pos rfl)
    · exact ih (writeEntry t x) hp.2 hw

end StoreOrder
