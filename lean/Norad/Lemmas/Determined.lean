import Norad.Lemmas.SafePlan
/-!
The paths the normal-form plan makes exist are exactly `expectedPaths` (C09, `exactly_the_determined_files`): segment
by segment, `∃ e ∈ segment, EffPath e q k` is membership of `(q, k)` in the corresponding piece of `expectedPaths`.
-/
namespace FontSave
open AbsFS

variable {β : Type}

theorem mem_dirsBelow : ∀ (names : List Name) (base q : APath),
    q ∈ dirsBelow base names ↔ ∃ m, m <+: names.dropLast ∧ m ≠ [] ∧ q = base ++ m
  | [], base, q => by simp [dirsBelow]
  | [_], base, q => by simp [dirsBelow]
  | n :: n2 :: r, base, q => by
    simp only [dirsBelow, List.mem_cons]
    rw [mem_dirsBelow (n2 :: r) (base ++ [n]) q, List.dropLast_cons_cons]
    constructor
    · rintro (h | ⟨m, hm, hne, rfl⟩)
      · exact ⟨[n], by simp, by simp, h⟩
      · exact ⟨n :: m, List.cons_prefix_cons.mpr ⟨rfl, hm⟩, by simp, by simp⟩
    · rintro ⟨m, hm, hne, rfl⟩
      cases m with
      | nil => exact absurd rfl hne
      | cons a m' =>
        obtain ⟨rfl, hm'⟩ := List.cons_prefix_cons.mp hm
        by_cases h0 : m' = []
        · subst h0; exact Or.inl rfl
        · exact Or.inr ⟨m', hm', h0, by simp⟩

variable {q : APath} {k : Bool}

theorem exists_mem_flatMap {α : Type} {l : List α} {g : α → List (NEff β)} {g' : α → List (APath × Bool)}
    (h : ∀ a ∈ l, (∃ e ∈ g a, EffPath e q k) ↔ (q, k) ∈ g' a) :
    (∃ e ∈ l.flatMap g, EffPath e q k) ↔ (q, k) ∈ l.flatMap g' := by
  simp only [List.mem_flatMap]
  constructor
  · rintro ⟨e, ⟨a, ha, he⟩, hp⟩
    exact ⟨a, ha, (h a ha).mp ⟨e, he, hp⟩⟩
  · rintro ⟨a, ha, hm⟩
    obtain ⟨e, he, hp⟩ := (h a ha).mpr hm
    exact ⟨e, ⟨a, ha, he⟩, hp⟩

theorem top_paths (t : APath) (name : String) (b : β) :
    (∃ e ∈ [topN t name b], EffPath e q k) ↔ (q, k) ∈ [expTop t name] := by
  simp [topN, EffPath, expTop]

theorem opt_paths (t : APath) (name : String) (tok : Nat) (b : β) :
    (∃ e ∈ planOptN t name tok b, EffPath e q k) ↔ (q, k) ∈ (if tok = 0 then [] else [expTop t name]) := by
  unfold planOptN
  split
  · simp
  · exact top_paths t name b

theorem fontinfo_paths (cfg : Cfg β) (t : APath) (i : AInfo) :
    (∃ e ∈ planFontinfoN cfg t i, EffPath e q k) ↔ (q, k) ∈ (if i.isEmpty then [] else [expTop t "fontinfo.plist"]) := by
  unfold planFontinfoN
  split
  · simp
  · split
    · exact top_paths ..
    · rw [← top_paths t "fontinfo.plist" (cfg.render .truncated)]
      simp [EffPath]

theorem lib_paths (cfg : Cfg β) (t : APath) (f : AFont β) (hnf : ∀ x, NEff.fail x ∉ planLibN cfg t f) :
    (∃ e ∈ planLibN cfg t f, EffPath e q k) ↔ (q, k) ∈ (if hasLibFile f then [expTop t "lib.plist"] else []) := by
  unfold planLibN hasLibFile at *
  cases hd : dumpObjectLibs f.info.guides with
  | none => simp [hd] at hnf
  | some ol =>
    simp only [Option.getD_some]
    by_cases h : (f.lib.isEmpty && ol.isEmpty) = true
    · simp [h]
    · rw [if_neg h, if_pos (by rw [Bool.not_eq_true] at h; rw [h]; rfl)]
      exact top_paths ..

theorem layer_paths (cfg : Cfg β) (t : APath) (l : ALayer) (hnf : ∀ x, NEff.fail x ∉ planLayerN cfg t l) :
    (∃ e ∈ planLayerN cfg t l, EffPath e q k) ↔ (q, k) ∈ expLayer t l := by
  unfold planLayerN expLayer at *
  simp only [List.mem_append, List.mem_flatMap, not_or] at hnf
  have hg : ∀ e ∈ l.entries, (∃ x ∈ planGlyphN cfg (t ++ namesOf (Path.parse l.dir)) e, EffPath x q k) ↔
      (q, k) ∈ [(t ++ namesOf (Path.parse l.dir) ++ namesOf (Path.parse e.file), true)] := by
    intro e he
    have hnf' := fun x hx => (hnf x).2 ⟨e, he, hx⟩
    unfold planGlyphN at hnf' ⊢
    cases hgl : e.glyph with
    | none => simp [hgl] at hnf'
    | some g =>
      by_cases hen : g.encodable = true
      · simp [hen, EffPath]
      · simp [hgl, hen] at hnf'
  have hE := exists_mem_flatMap hg
  rw [← List.map_eq_flatMap] at hE
  -- three disjuncts on either side, in the order of `planLayerN` / `expLayer`: directory and contents.plist; layerinfo; the glifs (`hE`)
  simp only [List.mem_append, or_and_right, exists_or, hE]
  refine or_congr (or_congr (by simp [EffPath, or_and_right, exists_or]) ?_) Iff.rfl
  split <;> simp [EffPath]

theorem dataItem_paths (t : APath) (kb : Path.P × β) (hne : namesOf kb.1 ≠ []) (htq : t <+: q)
    (hqt : (q, k) ≠ (t, false)) :
    (∃ e ∈ planDataItemN t kb, EffPath e q k) ↔ (q, k) ∈ expDataItem t kb.1 := by
  have hdl : (t ++ ["data".toList] ++ namesOf kb.1).dropLast = t ++ "data".toList :: (namesOf kb.1).dropLast := by
    rw [List.dropLast_append_of_ne_nil hne, List.append_assoc]; rfl
  -- the directories `create_dir_all` makes at or below `t`, other than `t`: `data` and what `dirsBelow` lists
  have hdirs : q <+: t ++ "data".toList :: (namesOf kb.1).dropLast ∧ k = false ↔
      (q, k) = (t ++ ["data".toList], false) ∨
      (q, k) ∈ (dirsBelow (t ++ ["data".toList]) (namesOf kb.1)).map (·, false) := by
    simp only [List.mem_map, mem_dirsBelow, Prod.mk.injEq]
    constructor
    · rintro ⟨hq, rfl⟩
      obtain ⟨m', rfl⟩ := htq
      cases m' with
      | nil => exact absurd (by simp) hqt
      | cons a m =>
        obtain ⟨rfl, hm⟩ := List.cons_prefix_cons.mp ((List.prefix_append_right_inj t).mp hq)
        by_cases h0 : m = []
        · exact Or.inl ⟨by simp [h0], rfl⟩
        · exact Or.inr ⟨_, ⟨m, hm, h0, rfl⟩, by simp, rfl⟩
    · rintro (⟨rfl, rfl⟩ | ⟨_, ⟨m, hm, _, rfl⟩, rfl, rfl⟩)
      · exact ⟨(List.prefix_append_right_inj t).mpr (by simp), rfl⟩
      · rw [List.append_assoc]
        exact ⟨(List.prefix_append_right_inj t).mpr (List.cons_prefix_cons.mpr ⟨rfl, hm⟩), rfl⟩
  -- `hdl` puts the argument of `mkdirAll` into the form of the left side of `hdirs`, which then rewrites that effect's paths
  simp only [planDataItemN, itemN, hdl, List.mem_cons, List.not_mem_nil, or_false, exists_eq_or_imp, exists_eq_left, EffPath,
    expDataItem, List.mem_append, Prod.mk.injEq, hdirs, or_assoc]

theorem images_paths (t : APath) (i : List (Path.P × β)) :
    (∃ e ∈ planImagesN t i, EffPath e q k) ↔ (q, k) ∈ expImages t (i.map (·.1)) := by
  unfold planImagesN expImages
  cases i with
  | nil => simp
  | cons x r =>
    simp only [List.isEmpty_cons, Bool.false_eq_true, if_false, List.map, List.mem_cons, exists_eq_or_imp,
      EffPath, List.mem_map, Prod.mk.injEq]
    constructor
    · rintro (⟨rfl, rfl⟩ | ⟨rfl, rfl⟩ | ⟨e, ⟨kb, hkb, rfl⟩, rfl, rfl⟩)
      · exact Or.inl ⟨rfl, rfl⟩
      · exact Or.inr (Or.inl ⟨rfl, rfl⟩)
      · exact Or.inr (Or.inr ⟨kb.1, ⟨kb, hkb, rfl⟩, rfl, rfl⟩)
    · rintro (⟨rfl, rfl⟩ | ⟨rfl, rfl⟩ | ⟨key, ⟨kb, hkb, rfl⟩, rfl, rfl⟩)
      · exact Or.inl ⟨rfl, rfl⟩
      · exact Or.inr (Or.inl ⟨rfl, rfl⟩)
      · exact Or.inr (Or.inr ⟨_, ⟨kb, hkb, rfl⟩, rfl, rfl⟩)

theorem plan_makes_expectedPaths (cfg : Cfg β) (f : AFont β) (d i : List (Path.P × β)) (t : APath)
    (hd : d.map (·.1) = f.data.items.map (·.1)) (hi : i.map (·.1) = f.images.items.map (·.1))
    (hsafe : ∀ kb ∈ d, safeRel kb.1 = true) (hnf : ∀ x, NEff.fail x ∉ planRestN cfg f d i t)
    (q : APath) (k : Bool) (htq : t <+: q) :
    ((q, k) = (t, false) ∨ ∃ e ∈ planRestN cfg f d i t, EffPath e q k) ↔ (q, k) ∈ expectedPaths f t := by
  by_cases hqt : (q, k) = (t, false)
  · simp only [hqt, true_or, expectedPaths, List.mem_append, List.mem_cons]
  have hnfLib : ∀ x, NEff.fail x ∉ planLibN cfg t f := fun x hx =>
    hnf x (by simp only [planRestN, headN, List.mem_append, hx, or_true, true_or])
  have hnfLayer : ∀ l ∈ f.layers, ∀ x, NEff.fail x ∉ planLayerN cfg t l := fun l hl x hx =>
    hnf x (by simp only [planRestN, List.mem_append, List.mem_flatMap]; exact Or.inl (Or.inl (Or.inr ⟨l, hl, hx⟩)))
  have hLayers := exists_mem_flatMap (q := q) (k := k) fun l hl => layer_paths cfg t l (hnfLayer l hl)
  have hData := exists_mem_flatMap (q := q) (k := k) (l := d) (g := planDataItemN t)
    (g' := fun kb => expDataItem t kb.1) fun kb hkb => dataItem_paths t kb (namesOf_ne_nil _ (hsafe kb hkb)) htq hqt
  rw [show d.flatMap (fun kb => expDataItem t kb.1) = (f.data.items.map (·.1)).flatMap (expDataItem t) by
    rw [← hd, List.flatMap_map]] at hData
  have hTop : ∀ (name : String) (b : β), (q, k) ∈ [(t, false), expTop t name] ↔ ∃ e ∈ [topN t name b], EffPath e q k :=
    fun name b => by rw [top_paths, List.mem_cons, or_iff_right hqt]
  -- `planRestN` and `expectedPaths` append their segments in the same order: one disjunct per segment on either side;
  -- `hTop` (right to left) takes the leading `(t, false)` of `expectedPaths` together with metainfo
  simp only [planRestN, headN, expectedPaths, hqt, false_or, List.mem_append, or_and_right, exists_or]
  simp only [hTop _ (cfg.render (.metainfo f.metaTok)), top_paths, fontinfo_paths,
    lib_paths cfg t f hnfLib, opt_paths, hLayers, hData, images_paths, hi]

end FontSave
