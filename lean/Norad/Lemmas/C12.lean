import Norad.Spec.C12
import Norad.Lemmas.GlifStep
import Norad.Lemmas.GlifAttrs
/-! The glif parser as a state machine: what an element parser guarantees of an identifier it returns (`parseX_fresh`), what a
step never undoes (`Mono`), the invariant of the parser state (`Inv`); both are read off one walk through `step`
(`step_spec`) and lifted to runs (`reach_mono`, `inv_reach`). -/
namespace Glif

def FreshId (seen : List Str) (o : Option Str) : Prop := ∀ i, o = some i → i ∉ seen ∧ validIdent i = true

theorem freshId_none (seen : List Str) : FreshId seen none := by intro i hi; cases hi

theorem freshId_of_read {ver : Nat} {seen : List Str} {v i : Str} (h : readIdent ver seen v = some i) :
    FreshId seen (some i) := by
  intro j hj; cases hj
  obtain ⟨rfl, h1, h2⟩ := readIdent_some h
  exact ⟨h1, h2⟩

theorem readIdent_v1 (seen : List Str) (v : Str) : readIdent 1 seen v = none := by simp [readIdent]

theorem readIdent_seen (ver : Nat) {seen : List Str} {v : Str} (h : v ∈ seen) : readIdent ver seen v = none := by
  simp [readIdent, h]

theorem readIdent_invalid (ver : Nat) (seen : List Str) {v : Str} (h : validIdent v = false) :
    readIdent ver seen v = none := by
  simp [readIdent, h]

section
variable (rd : Str → Option Nat)

theorem freshId_bind (ver : Nat) (seen : List Str) (o : Option Str) : FreshId seen (o.bind (readIdent ver seen)) := by
  intro i hi
  obtain ⟨v, -, hv⟩ := Option.bind_eq_some_iff.1 hi
  exact freshId_of_read hv i rfl

/- In each element the identifier is what `readIdent` makes of the collected `identifier` attribute; the finishing step
   leaves it alone. -/

theorem parseAnchor_fresh {ver seen as x} (h : parseAnchor rd ver seen as = some x) : FreshId seen x.ident := by
  rw [parseAnchor_view] at h
  obtain ⟨m, -, hx⟩ := Option.bind_eq_some_iff.1 h
  unfold aFinish at hx
  split at hx <;> cases hx
  exact freshId_bind ver seen _

theorem parseGuideline_fresh {ver seen as x} (h : parseGuideline rd ver seen as = some x) :
    FreshId seen x.ident ∧ (∀ a b d, x.line = .angle a b d → angleOk d = true) := by
  rw [parseGuideline_view] at h
  obtain ⟨m, hm, hx⟩ := Option.bind_eq_some_iff.1 h
  have hang : ∀ d, (guOf rd ver seen m).angle = some d → angleOk d = true := by
    intro d hd
    -- a value is collected only if it reads as an angle in range
    obtain ⟨v, hv, hr⟩ := Option.bind_eq_some_iff.1 (show (m .angle).bind rd = some d from hd)
    simpa only [readableBy, guKind, readable, hr] using (collect_some guKeyNames hm hv).2
  unfold guFinish at hx
  -- the three shapes of a guideline; only the third has an angle
  split at hx <;> cases hx
  · exact ⟨freshId_bind ver seen _, fun _ _ _ hl => nomatch hl⟩
  · exact ⟨freshId_bind ver seen _, fun _ _ _ hl => nomatch hl⟩
  · exact ⟨freshId_bind ver seen _, fun a b d hl => by cases hl; exact hang _ ‹_›⟩

theorem parsePoint_fresh {ver seen as x} (h : parsePoint rd ver seen as = some x) : FreshId seen x.ident := by
  rw [parsePoint_view] at h
  obtain ⟨m, -, hx⟩ := Option.bind_eq_some_iff.1 h
  unfold pFinish at hx
  split at hx <;> cases hx
  exact freshId_bind ver seen _

theorem parseComponent_fresh {ver seen as x} (h : parseComponent rd ver seen as = some x) : FreshId seen x.ident := by
  rw [parseComponent_view] at h
  obtain ⟨m, -, hx⟩ := Option.bind_eq_some_iff.1 h
  unfold cFinish at hx
  split at hx <;> cases hx
  exact freshId_bind ver seen _

theorem ctStep_some {ver : Nat} {seen : List Str} {acc o : Option Str} {a : Attr} :
    ctStep ver seen acc a = some o ↔ ver ≠ 1 ∧ a.1 = sIdentifier ∧ ∃ i, readIdent ver seen a.2 = some i ∧ o = some i := by
  unfold ctStep
  by_cases hv : ver = 1
  · simp [hv]
  · by_cases hk : a.1 = sIdentifier
    · cases hr : readIdent ver seen a.2 <;> simp [hv, hk, eq_comm]
    · simp [hv, hk]

theorem parseContourAttrs_fresh {ver seen as x} (h : parseContourAttrs ver seen as = some x) : FreshId seen x := by
  refine foldAttrs_inv _ (fun a => FreshId seen a) ?_ as none x (freshId_none _) h
  intro a b a' hp hs
  obtain ⟨-, -, i, hr, rfl⟩ := ctStep_some.1 hs
  exact freshId_of_read hr

theorem parseImage_name {as x} (h : parseImage rd as = some x) : imageNameOk x.fileName = true := by
  rw [parseImage_view 0 []] at h
  obtain ⟨m, -, hx⟩ := Option.bind_eq_some_iff.1 h
  revert hx
  fun_cases iFinish (iOf rd m)
  · rintro ⟨⟩; assumption
  · nofun
  · nofun

end

structure Mono (s s' : PS) : Prop where
  ver : s'.ver = s.ver
  name : s'.g.name = s.g.name
  adv : s.seenAdvance = true → s'.seenAdvance = true
  lib : s.seenLib = true → s'.seenLib = true
  outline : s.seenOutline = true → s'.seenOutline = true
  image : s.g.image.isSome = true → s'.g.image.isSome = true
  note : s.g.note.isSome = true → s'.g.note.isSome = true
  seen : ∀ i, i ∈ s.seen → i ∈ s'.seen

theorem mem_addSeen_iff {seen : List Str} {o : Option Str} {i : Str} : i ∈ addSeen seen o ↔ i ∈ seen ∨ i ∈ o.toList := by
  cases o <;> simp [addSeen, or_comm]

theorem mem_addSeen {seen : List Str} {o : Option Str} {i : Str} (h : i ∈ seen) : i ∈ addSeen seen o :=
  mem_addSeen_iff.2 (.inl h)

theorem mono_refl (s : PS) : Mono s s := ⟨rfl, rfl, id, id, id, id, id, fun _ => id⟩

theorem mono_trans {a b c : PS} (h₁ : Mono a b) (h₂ : Mono b c) : Mono a c :=
  ⟨h₂.ver.trans h₁.ver, h₂.name.trans h₁.name, h₂.adv ∘ h₁.adv, h₂.lib ∘ h₁.lib, h₂.outline ∘ h₁.outline,
    h₂.image ∘ h₁.image, h₂.note ∘ h₁.note, fun i => h₂.seen i ∘ h₁.seen i⟩

def cIds (c : Contour) : List Str := c.ident.toList ++ c.points.filterMap (·.ident)
def obIds (ob : OB) : List Str := ob.contours.flatMap cIds ++ ob.components.filterMap (·.ident)
def modeIds : Mode → List Str
  | .outline ob => obIds ob
  | .contour ob cid pts => obIds ob ++ (cid.toList ++ pts.filterMap (·.ident))
  | _ => []
def allIds (s : PS) : List Str := Spec.glyphIdents s.g ++ modeIds s.mode

def ContourOK (c : Contour) : Prop := C11.accepts (c.points.map toPt) = true ∧ c.points ≠ []
def modeOB : Mode → OB
  | .outline ob => ob
  | .contour ob _ _ => ob
  | _ => {}

/-- the identifiers read so far (`allIds`: in the glyph, the open outline, the open contour) are pairwise different and
    recorded in `seen`; every finished contour, in the glyph or in the open outline (`obc`), is legal and not empty; guideline
    angles are in range; the image has an acceptable file name -/
structure Inv (s : PS) : Prop where
  cnt : ∀ i, (allIds s).count i ≤ 1
  mem : ∀ i, i ∈ allIds s → i ∈ s.seen
  contours : ∀ c, c ∈ s.g.contours → ContourOK c
  obc : ∀ c, c ∈ (modeOB s.mode).contours → ContourOK c
  guides : ∀ x, x ∈ s.g.guidelines → ∀ a b d, x.line = .angle a b d → angleOk d = true
  image : ∀ i, s.g.image = some i → imageNameOk i.fileName = true

/-- `cIds` as a function, for `simp only` to unfold it under `flatMap` -/
theorem cIds_def : cIds = fun c : Contour => c.ident.toList ++ c.points.filterMap (·.ident) := rfl

/-- the callers give `ids'` in the shape `allIds` takes for the state after the step (at glyph level
    `glyphIdents … ++ []`) -/
theorem Inv.ids {s : PS} (hi : Inv s) {new : Option Str} (hf : FreshId s.seen new) {ids' : List Str}
    (hc : ∀ i, ids'.count i ≤ (allIds s).count i + new.toList.count i) :
    (∀ i, ids'.count i ≤ 1) ∧ (∀ i, i ∈ ids' → i ∈ addSeen s.seen new) := by
  have key : ∀ i, ids'.count i ≤ 1 ∧ (i ∈ ids' → i ∈ addSeen s.seen new) := by
    intro i
    have h1 := hc i
    by_cases hn : new = some i
    · subst hn
      have h0 : (allIds s).count i = 0 := List.count_eq_zero.2 (fun h => (hf i rfl).1 (hi.mem i h))
      rw [h0, Option.toList, List.count_singleton_self] at h1
      exact ⟨h1, fun _ => List.mem_cons_self⟩
    · have h0 : new.toList.count i = 0 := by
        cases new with
        | none => rfl
        | some j => exact List.count_eq_zero.2 (fun h => hn (by rw [List.mem_singleton.1 h]))
      rw [h0] at h1
      refine ⟨Nat.le_trans h1 (hi.cnt i), fun hm => mem_addSeen (hi.mem i (List.count_pos_iff.1 ?_))⟩
      have := List.count_pos_iff.2 hm
      omega
  exact ⟨fun i => (key i).1, fun i => (key i).2⟩

theorem count_filterMap_snoc {α : Type} (f : α → Option Str) (l : List α) (x : α) (i : Str) :
    ((l ++ [x]).filterMap f).count i = (l.filterMap f).count i + (f x).toList.count i := by
  rw [List.filterMap_append, List.count_append]
  cases h : f x <;> simp [h]

theorem implicitAnchor_ident {c : Contour} {a : Anchor} (h : implicitAnchor c = some a) : a.ident = none := by
  revert h
  fun_cases implicitAnchor c
  · rintro ⟨⟩; rfl
  · nofun
  · nofun

theorem upgradeV1_spec (cs : List Contour) :
    (∀ i, (((upgradeV1 cs).2).flatMap cIds).count i ≤ (cs.flatMap cIds).count i) ∧
    ((upgradeV1 cs).1.filterMap (·.ident) = []) ∧ (∀ c, c ∈ (upgradeV1 cs).2 → c ∈ cs) := by
  fun_induction upgradeV1 cs with
  | case1 => simp
  | case2 c r as cs hu a ha ih =>
    rw [hu] at ih
    obtain ⟨h1, h2, h3⟩ := ih
    refine ⟨fun i => ?_, ?_, fun c' hc' => List.mem_cons_of_mem _ (h3 c' hc')⟩
    · have := h1 i; simp only [List.flatMap_cons, List.count_append] at this ⊢; omega
    · simp [implicitAnchor_ident ha, h2]
  | case3 c r as cs hu ha ih =>
    rw [hu] at ih
    obtain ⟨h1, h2, h3⟩ := ih
    refine ⟨fun i => ?_, h2, fun c' hc' => List.mem_cons.2 ((List.mem_cons.1 hc').imp id (h3 c'))⟩
    have := h1 i; simp only [List.flatMap_cons, List.count_append] at this ⊢; omega

/-- a lemma stated for every `Q` says that the step never returns a glyph -/
def Outcome (P : PS → Prop) (Q : Glyph → Prop) : StepRes → Prop
  | .ok (.inl s') => P s'
  | .ok (.inr g) => Q g
  | .error _ => True

theorem Outcome.ite {P : PS → Prop} {Q : Glyph → Prop} {c : Prop} [Decidable c] {a b : StepRes}
    (ha : c → Outcome P Q a) (hb : ¬c → Outcome P Q b) : Outcome P Q (if c then a else b) := by
  split
  · exact ha ‹_›
  · exact hb ‹_›

section
variable (rd : Str → Option Nat)

def Keeps (s s' : PS) : Prop := Mono s s' ∧ (Inv s → Inv s')

theorem bodyStart_spec {s : PS} (hm : s.mode = .body) (n : Str) {Q : Glyph → Prop} :
    Outcome (Keeps s) Q (bodyStart s n) := by
  -- with `s` taken apart and the mode substituted, the fields a step leaves alone are the old ones by `rfl`; so
  -- `{ hi with … }` and `{ mono_refl _ with … }` restate the old proof for the new state and only the named fields are new
  obtain ⟨g, seen, ver, sa, sl, so, mode⟩ := s
  cases hm
  refine .ite (fun _ => .ite (fun _ => trivial) fun _ => ?_) fun _ => .ite (fun _ => ?_) fun _ => trivial
  · exact ⟨{ mono_refl _ with outline := fun _ => rfl }, fun hi => { hi with }⟩
  · exact .ite (fun _ => trivial) fun _ => .ite (fun _ => trivial) fun _ => ⟨{ mono_refl _ with }, fun hi => { hi with }⟩

theorem Outcome.elemArm {P : PS → Prop} {Q : Glyph → Prop} {β : Type} {nm : String} {p : List Attr → Option β} {k : β → PS}
    {a : Option (List Attr)} (h : ∀ as x, p as = some x → P (k x)) : Outcome P Q (elemArm nm p k a) := by
  cases hr : Glif.elemArm nm p k a with
  | error _ => trivial
  | ok r => obtain ⟨as, x, -, hx, rfl⟩ := elemArm_ok hr; exact h as x hx

theorem bodyEmpty_spec {s : PS} (hm : s.mode = .body) (n : Str) (a : Option (List Attr)) {Q : Glyph → Prop} :
    Outcome (Keeps s) Q (bodyEmpty rd s n a) := by
  obtain ⟨g, seen, ver, sa, sl, so, mode⟩ := s
  cases hm
  rw [bodyEmpty_eq]
  refine .ite (fun _ => .ite (fun _ => trivial) fun _ => ?outline) fun _ =>
    .ite (fun _ => .ite (fun _ => trivial) fun _ => .elemArm fun as wh _ => ?advance) fun _ =>
    .ite (fun _ => .elemArm fun as cps _ => ?unicode) fun _ =>
    .ite (fun _ => .ite (fun _ => trivial) fun _ => .elemArm fun as x hx => ?anchor) fun _ =>
    .ite (fun _ => .ite (fun _ => trivial) fun _ => .elemArm fun as x hx => ?guideline) fun _ =>
    .ite (fun _ => .ite (fun _ => trivial) fun _ => .ite (fun _ => trivial) fun _ => .elemArm fun as x hx => ?image)
      fun _ => trivial
  case outline => exact ⟨{ mono_refl _ with outline := fun _ => rfl }, fun hi => { hi with }⟩
  case advance => exact ⟨{ mono_refl _ with adv := fun _ => rfl }, fun hi => { hi with }⟩
  case unicode => exact ⟨{ mono_refl _ with }, fun hi => { hi with }⟩
  case anchor =>
    refine ⟨{ mono_refl _ with seen := fun _ => mem_addSeen }, fun hi => ?_⟩
    obtain ⟨h1, h2⟩ := hi.ids (parseAnchor_fresh rd hx)
      (ids' := Spec.glyphIdents { g with anchors := g.anchors ++ [x] } ++ []) (fun i => by
        simp only [allIds, modeIds, Spec.glyphIdents, List.count_append, count_filterMap_snoc]; omega)
    -- `ids'` is `allIds` of the new state by unfolding (so in every arm below)
    exact { hi with cnt := h1, mem := h2 }
  case guideline =>
    refine ⟨{ mono_refl _ with seen := fun _ => mem_addSeen }, fun hi => ?_⟩
    obtain ⟨hf, hang⟩ := parseGuideline_fresh rd hx
    obtain ⟨h1, h2⟩ := hi.ids hf
      (ids' := Spec.glyphIdents { g with guidelines := g.guidelines ++ [x] } ++ []) (fun i => by
        simp only [allIds, modeIds, Spec.glyphIdents, List.count_append, count_filterMap_snoc]; omega)
    refine { hi with cnt := h1, mem := h2, guides := fun y hy => ?_ }
    rcases List.mem_append.1 hy with hy | hy
    · exact hi.guides y hy
    · cases List.mem_singleton.1 hy; exact hang
  case image =>
    exact ⟨{ mono_refl _ with image := fun _ => rfl },
      fun hi => { hi with image := fun i h => by cases h; exact parseImage_name rd hx }⟩

theorem stepBody_spec {s : PS} (hm : s.mode = .body) (e : Ev) :
    Outcome (Keeps s) (fun g => e = .close sGlyph ∧ loadObjectLibs s.g = .ok g) (stepBody rd s e) := by
  cases e with
  | start n a => exact bodyStart_spec hm n
  | empty n a => exact bodyEmpty_spec rd hm n a
  | startLib a v =>
    obtain ⟨g, seen, ver, sa, sl, so, mode⟩ := s
    cases hm
    exact .ite (fun _ => trivial) fun _ => ⟨{ mono_refl _ with lib := fun _ => rfl }, fun hi => { hi with }⟩
  | close n =>
    refine .ite (fun hn => ?_) fun _ => trivial
    cases hl : loadObjectLibs s.g with
    | ok g' => exact ⟨by rw [hn], rfl⟩
    | error k => trivial
  | comment => exact ⟨mono_refl s, id⟩
  | _ => trivial

theorem finishOutline_keeps {s : PS} {ob : OB} (hm : s.mode = .outline ob) : Keeps s (finishOutline s ob) := by
  obtain ⟨g, seen, ver, sa, sl, so, mode⟩ := s
  cases hm
  -- both formats: the glyph takes anchors without identifiers and contours of the open outline (format 2: none, all)
  have key : ∀ (ans : List Anchor) (cs : List Contour), (∀ i, (cs.flatMap cIds).count i ≤ (ob.contours.flatMap cIds).count i) ∧
      ans.filterMap (·.ident) = [] ∧ (∀ c, c ∈ cs → c ∈ ob.contours) → Keeps ⟨g, seen, ver, sa, sl, so, .outline ob⟩
        ⟨{ g with anchors := g.anchors ++ ans, contours := g.contours ++ cs, components := g.components ++ ob.components },
          seen, ver, sa, sl, so, .body⟩ := by
    intro ans cs ⟨u1, u2, u3⟩
    refine ⟨{ mono_refl _ with }, fun hi => ?_⟩
    obtain ⟨h1, h2⟩ := hi.ids (freshId_none _)
      (ids' := Spec.glyphIdents { g with
        anchors := g.anchors ++ ans, contours := g.contours ++ cs, components := g.components ++ ob.components } ++ [])
      (fun i => by
        have := u1 i
        simp only [cIds_def] at this
        simp only [allIds, modeIds, obIds, cIds_def, Spec.glyphIdents, List.filterMap_append, List.flatMap_append,
          List.count_append, u2, List.count_nil]
        omega)
    refine { hi with cnt := h1, mem := h2, obc := nofun, contours := fun c hc => ?_ }
    rcases List.mem_append.1 hc with hc | hc
    · exact hi.contours c hc
    · exact hi.obc c (u3 c hc)
  unfold finishOutline
  dsimp only
  split
  · exact key _ _ (upgradeV1_spec ob.contours)
  · simpa only [List.append_nil] using key [] ob.contours ⟨fun _ => Nat.le_refl _, rfl, fun _ => id⟩

theorem stepOutline_spec {s : PS} {ob : OB} (hm : s.mode = .outline ob) (e : Ev) {Q : Glyph → Prop} :
    Outcome (Keeps s) Q (stepOutline rd s ob e) := by
  cases e with
  | close n => exact .ite (fun _ => finishOutline_keeps hm) fun _ => trivial
  | comment => exact ⟨mono_refl s, id⟩
  | start n a =>
    obtain ⟨g, seen, ver, sa, sl, so, mode⟩ := s
    cases hm
    rw [stepOutline_start]
    refine .ite (fun _ => .elemArm fun as cid hx =>
      ⟨{ mono_refl _ with seen := fun _ => mem_addSeen }, fun hi => ?_⟩) fun _ => trivial
    obtain ⟨h1, h2⟩ := hi.ids (parseContourAttrs_fresh hx)
      (ids' := Spec.glyphIdents g ++ (obIds ob ++ (cid.toList ++ []))) (fun i => by
        simp only [allIds, modeIds, List.count_append, List.count_nil]; omega)
    exact { hi with cnt := h1, mem := h2 }
  | empty n a =>
    obtain ⟨g, seen, ver, sa, sl, so, mode⟩ := s
    cases hm
    rw [stepOutline_empty]
    refine .ite (fun _ => ⟨mono_refl _, id⟩) fun _ => .ite (fun _ => .elemArm fun as x hx =>
      ⟨{ mono_refl _ with seen := fun _ => mem_addSeen }, fun hi => ?_⟩) fun _ => trivial
    obtain ⟨h1, h2⟩ := hi.ids (parseComponent_fresh rd hx)
      (ids' := Spec.glyphIdents g ++ obIds { ob with components := ob.components ++ [x] }) (fun i => by
        simp only [allIds, modeIds, obIds, List.count_append, count_filterMap_snoc]; omega)
    exact { hi with cnt := h1, mem := h2 }
  | _ => trivial

theorem stepContour_spec {s : PS} {ob : OB} {cid : Option Str} {pts : List Point} (hm : s.mode = .contour ob cid pts)
    (e : Ev) {Q : Glyph → Prop} : Outcome (Keeps s) Q (stepContour rd s ob cid pts e) := by
  obtain ⟨g, seen, ver, sa, sl, so, mode⟩ := s
  cases hm
  cases e with
  | comment => exact ⟨mono_refl _, id⟩
  | close n =>
    refine .ite (fun _ => .ite (fun hacc => ⟨{ mono_refl _ with }, fun hi => ?_⟩) fun _ => trivial) fun _ => trivial
    cases pts with
    | nil =>
      obtain ⟨h1, h2⟩ := hi.ids (freshId_none _) (ids' := Spec.glyphIdents g ++ obIds ob) (fun i => by
        simp only [allIds, modeIds, List.count_append]; omega)
      -- no points: `if [].isEmpty then ob else …` is `ob`, so `obc` stays
      exact { hi with cnt := h1, mem := h2 }
    | cons p ps =>
      obtain ⟨h1, h2⟩ := hi.ids (freshId_none _)
        (ids' := Spec.glyphIdents g ++ obIds { ob with contours := ob.contours ++ [{ points := p :: ps, ident := cid }] })
        (fun i => by
          simp only [allIds, modeIds, obIds, cIds_def, List.flatMap_append, List.flatMap_cons, List.flatMap_nil,
            List.count_append, List.count_nil]
          omega)
      refine { hi with cnt := h1, mem := h2, obc := fun c hc => ?_ }
      rcases List.mem_append.1 hc with hc | hc
      · exact hi.obc c hc
      · cases List.mem_singleton.1 hc; exact ⟨hacc, List.cons_ne_nil p ps⟩
  | empty n a =>
    rw [stepContour_empty]
    refine .ite (fun _ => .elemArm fun as x hx =>
      ⟨{ mono_refl _ with seen := fun _ => mem_addSeen }, fun hi => ?_⟩) fun _ => trivial
    obtain ⟨h1, h2⟩ := hi.ids (parsePoint_fresh rd hx)
      (ids' := Spec.glyphIdents g ++ (obIds ob ++ (cid.toList ++ (pts ++ [x]).filterMap (·.ident)))) (fun i => by
        simp only [allIds, modeIds, List.count_append, count_filterMap_snoc]; omega)
    exact { hi with cnt := h1, mem := h2 }
  | _ => trivial

theorem stepLib_spec {s : PS} {v : LibV} (hm : s.mode = .lib v) (e : Ev) {Q : Glyph → Prop} :
    Outcome (Keeps s) Q (stepLib s v e) := by
  cases e with
  | error => trivial
  | close n =>
    refine .ite (fun _ => ?_) fun _ => ⟨mono_refl s, id⟩
    obtain ⟨g, seen, ver, sa, sl, so, mode⟩ := s
    cases hm
    cases v with
    | dict d => exact ⟨{ mono_refl _ with }, fun hi => { hi with }⟩
    | _ => trivial
  | _ => exact ⟨mono_refl s, id⟩

theorem stepNote_spec {s : PS} (hm : s.mode = .note) (e : Ev) {Q : Glyph → Prop} :
    Outcome (Keeps s) Q (stepNote s e) := by
  obtain ⟨g, seen, ver, sa, sl, so, mode⟩ := s
  cases hm
  cases e with
  | error => trivial
  | close n => exact .ite (fun _ => ⟨{ mono_refl _ with }, fun hi => { hi with }⟩) fun _ => ⟨mono_refl _, id⟩
  | text t =>
    cases t with
    | none => trivial
    | some t => exact ⟨{ mono_refl _ with note := fun _ => rfl }, fun hi => { hi with }⟩
  | _ => exact ⟨mono_refl _, id⟩

theorem step_spec (s : PS) (e : Ev) :
    Outcome (Keeps s) (fun g => s.mode = .body ∧ e = .close sGlyph ∧ loadObjectLibs s.g = .ok g) (step rd s e) := by
  cases hm : s.mode with
  | body =>
    rw [step_body hm]
    have := stepBody_spec rd hm e
    cases hr : stepBody rd s e with
    | error k => trivial
    | ok r =>
      rw [hr] at this
      cases r with
      | inl s' => exact this
      | inr g => exact ⟨rfl, this⟩
  | outline ob => rw [step_outline hm]; exact stepOutline_spec rd hm e
  | contour ob cid pts => rw [step_contour hm]; exact stepContour_spec rd hm e
  | lib v => rw [step_lib hm]; exact stepLib_spec hm e
  | note => rw [step_note hm]; exact stepNote_spec hm e

theorem step_mono {s s' : PS} {e : Ev} (h : step rd s e = .ok (.inl s')) : Mono s s' := by
  have := step_spec rd s e
  rw [h] at this
  exact this.1

theorem inv_step {s s' : PS} {e : Ev} (hi : Inv s) (h : step rd s e = .ok (.inl s')) : Inv s' := by
  have := step_spec rd s e
  rw [h] at this
  exact this.2 hi

theorem step_done {s : PS} {e : Ev} {g : Glyph} (h : step rd s e = .ok (.inr g)) :
    s.mode = .body ∧ e = .close sGlyph ∧ loadObjectLibs s.g = .ok g := by
  have := step_spec rd s e
  rw [h] at this
  exact this

theorem inv_init (name : Str) (ver : Nat) : Inv { g := { name := name }, ver := ver } := by
  refine ⟨?_, ?_, ?_, ?_, ?_, ?_⟩ <;> simp [allIds, modeIds, Spec.glyphIdents, modeOB]

theorem reach_mono {s s' : PS} {evs : List Ev} (h : Reach rd s evs s') : Mono s s' := by
  induction h with
  | nil s => exact mono_refl s
  | cons hs _ ih => exact mono_trans (step_mono rd hs) ih

theorem inv_reach {s s' : PS} {evs : List Ev} (hi : Inv s) (h : Reach rd s evs s') : Inv s' := by
  induction h with
  | nil s => exact hi
  | cons hs _ ih => exact ih (inv_step rd hi hs)

end

end Glif
