import Norad.Lemmas.FontInfoUp
/-! C14, source-level tie of `upconvert_ufov1_robofab_data`: the semantics of a (entry, attribute, conversion) row,
    the table the model uses, and the proof that folding the rows by their conversions is the model's `applyHints`.
    Nothing here mentions `Generated/RobofabConv.lean`. -/
namespace C14

/-- one statement of the hint block, as its conversion says; a row is (robofab entry, font-info attribute, conversion).
    `.direct` assigns `flatten v`, which is `v` unless `v` is a list of zones -/
def convStep (hint acc : List (String × Val)) (row : String × String × RConv) : List (String × Val) :=
  match row.2.2, lookup hint row.1 with
  | .direct, some v => setKey acc row.2.1 (some (flatten v))
  | .direct, none => setKey acc row.2.1 none
  | .flattenIfPresent, some v => setKey acc row.2.1 (some (flatten v))
  | .flattenIfPresent, none => acc
  | .copyIfPresent, some v => setKey acc row.2.1 (some v)
  | _, _ => acc

def applyConvRows (rows : List (String × String × RConv)) (hint info : List (String × Val)) :
    List (String × Val) :=
  rows.foldl (convStep hint) info

def modelConvOf (entry : String) : RConv :=
  if hintConditional.contains entry then .flattenIfPresent else .direct

/-- the model's table: the rows `load` folds over, each with the conversion `hintStep` applies to it -/
def modelHintTable : List (String × String × RConv) :=
  Gen.hintRows.map fun r => (r.1, r.2, modelConvOf r.1)

/-- the model's feature statements (`featureText`): classes first, then a newline and the blocks, in the order of
    the order list -/
def modelFeatureTable : List (String × String × RConv) :=
  [("org.robofab.opentype.classes", "features", .appendText),
   ("org.robofab.opentype.features", "features", .newlineThenBlocks),
   ("org.robofab.opentype.featureorder", "features", .blockOrder)]

theorem convStep_model (hint acc : List (String × Val)) (r : String × String) :
    convStep hint acc (r.1, r.2, modelConvOf r.1) = hintStep hint acc r := by
  unfold convStep hintStep modelConvOf
  cases hc : hintConditional.contains r.1 <;> cases hl : lookup hint r.1 <;> simp

theorem applyConvRows_model (hint info : List (String × Val)) :
    applyConvRows modelHintTable hint info = applyHints Gen.hintRows hint info := by
  unfold applyConvRows modelHintTable applyHints
  rw [List.foldl_map]
  congr; funext acc r
  exact convStep_model hint acc r

theorem convStep_present (hint acc : List (String × Val)) (row : String × String × RConv) (v : Val)
    (hv : lookup hint row.1 = some v) :
    getKey (convStep hint acc row) row.2.1 = match row.2.2 with
      | .direct | .flattenIfPresent => some (flatten v)
      | .copyIfPresent => some v
      | _ => getKey acc row.2.1 := by
  obtain ⟨e, t, c⟩ := row
  cases c with
  | direct | flattenIfPresent | copyIfPresent => simp only [convStep, hv]; exact getKey_setKey_self _ _ _
  | appendText | newlineThenBlocks | blockOrder => simp only [convStep]

/-- an entry of the robofab part of lib.plist as the statements see it -/
inductive LibVal where
  | text (s : String)
  | list (l : List String)
  | dict (d : List (String × String))

/-- `lib_data.<member>` by lib key -/
def Robofab.entry (r : Robofab) (key : String) : Option LibVal :=
  if key = "org.robofab.opentype.classes" then r.classes.map .text
  else if key = "org.robofab.opentype.featureorder" then r.order.map .list
  else if key = "org.robofab.opentype.features" then r.feats.map .dict
  else none

/-- Rust's `Vec<String>::sort()` (byte order of UTF-8 = code point order) -/
def sortKeys (l : List String) : List String := l.mergeSort (fun a b => decide (a ≤ b))

/-- the order of the blocks when the lib has no order list -/
def fallbackBlocks (fallback : String) (fs : List (String × String)) : List String :=
  if fallback = "sorted" then sortKeys (fs.map (·.1)) else fs.map (·.1)

/-- the lib key of the statement that supplies the order of the blocks -/
def orderKeyOf (rows : List (String × String × RConv)) : Option String :=
  match rows.find? (fun row => row.2.2 == .blockOrder) with
  | some row => some row.1
  | none => none

/-- one feature statement: `push_str` of the classes; `push('\n')` and `push_str` of every block the order names
    (a tag without a block is skipped, a repeated tag repeats its block); the order row itself emits nothing -/
def featStep (rows : List (String × String × RConv)) (fallback : String) (r : Robofab) (acc : String)
    (row : String × String × RConv) : String :=
  match row.2.2, r.entry row.1 with
  | .appendText, some (.text s) => acc ++ s
  | .newlineThenBlocks, some (.dict fs) =>
    let order := match (orderKeyOf rows).bind r.entry with
      | some (.list o) => o
      | _ => fallbackBlocks fallback fs
    acc ++ "\n" ++ String.join (order.filterMap fun k => lookup fs k)
  | _, _ => acc

/-- `let mut features = String::new();` followed by the translated statements -/
def featureTextOf (rows : List (String × String × RConv)) (fallback : String) (r : Robofab) : String :=
  rows.foldl (featStep rows fallback r) ""

/-- the model's reading of "no order list": with the fallback `sorted` it is the order list of the sorted tags -/
def withFallback (fallback : String) (r : Robofab) : Robofab :=
  match r.order, r.feats with
  | none, some fs => if fallback = "sorted" then { r with order := some (sortKeys (fs.map (·.1))) } else r
  | _, _ => r

theorem featureTextOf_model (fallback : String) (r : Robofab) :
    featureTextOf modelFeatureTable fallback r = featureText (withFallback fallback r) := by
  have e1 : r.entry "org.robofab.opentype.classes" = r.classes.map .text := by simp [Robofab.entry]
  have e2 : r.entry "org.robofab.opentype.features" = r.feats.map .dict := by simp [Robofab.entry]
  have e3 : r.entry "org.robofab.opentype.featureorder" = r.order.map .list := by simp [Robofab.entry]
  have hk : orderKeyOf modelFeatureTable = some "org.robofab.opentype.featureorder" := rfl
  unfold modelFeatureTable at hk ⊢
  -- the three rows unfolded are `featureText` in each combination of fallback / classes / blocks / order list
  simp only [featureTextOf, List.foldl, featStep, hk, Option.bind_some, e1, e2, e3]
  obtain ⟨hint, classes, order, feats⟩ := r
  by_cases hs : fallback = "sorted" <;> cases classes <;> cases feats <;> cases order <;>
    simp [featureText, withFallback, fallbackBlocks, String.empty_append, hs]

theorem lookup_mem {β} {fs : List (String × β)} (hn : (fs.map (·.1)).Nodup) (k : String) (v : β) :
    lookup fs k = some v ↔ (k, v) ∈ fs :=
  ⟨lookup_is.mem, lookup_is.of_mem_nodup hn⟩

theorem lookup_perm {β} {fs fs' : List (String × β)} (hp : fs'.Perm fs) (hn : (fs.map (·.1)).Nodup)
    (k : String) : lookup fs' k = lookup fs k :=
  (lookup_is.perm hp.symm hn k).symm

theorem sortKeys_perm {l l' : List String} (hp : l'.Perm l) : sortKeys l' = sortKeys l := by
  have tr : ∀ a b c : String, decide (a ≤ b) = true → decide (b ≤ c) = true → decide (a ≤ c) = true := by
    intro a b c h1 h2
    exact decide_eq_true (String.le_trans (of_decide_eq_true h1) (of_decide_eq_true h2))
  have tot : ∀ a b : String, (decide (a ≤ b) || decide (b ≤ a)) = true := by
    intro a b
    rcases String.le_total a b with h | h <;> simp [h]
  apply List.Perm.eq_of_pairwise (le := fun a b => decide (a ≤ b) = true)
  · intro a b _ _ h1 h2
    exact String.le_antisymm (of_decide_eq_true h1) (of_decide_eq_true h2)
  · exact List.pairwise_mergeSort tr tot l'
  · exact List.pairwise_mergeSort tr tot l
  · exact (List.mergeSort_perm l' _).trans (hp.trans (List.mergeSort_perm l _).symm)

theorem featureText_perm (fallback : String) (r : Robofab) {fs fs' : List (String × String)} (hp : fs'.Perm fs)
    (hn : (fs.map (·.1)).Nodup) (hs : fallback = "sorted") :
    featureText (withFallback fallback { r with feats := some fs' }) =
      featureText (withFallback fallback { r with feats := some fs }) := by
  have hl : (fun k => lookup fs' k) = fun k => lookup fs k := funext (lookup_perm hp hn)
  -- the blocks are read through `lookup` only; without an order list the tags are sorted
  cases ho : r.order <;> simp [featureText, withFallback, hs, hl, sortKeys_perm (hp.map (·.1))]

end C14
