import Norad.Lemmas.C18
import Norad.Lemmas.C18Calendar
import Norad.Model.DSFloat
import Std.Data.String.ToInt
/-!
# C18 — the codec components implemented in Lean satisfy `CodecLaws`

`refCodec`: decimal integers and base64 as the driver runs them, stand-ins (an injective decimal rendering) for floats
and dates.  RFC 3339 dates for real: the text layer and, with the calendar of C18Calendar, the whole codec.  For Rust's
shortest-round-trip float `Display` the laws remain hypotheses, checked per string by the driver.
-/
namespace C18

theorem safe_of_isDigit (ch : Char) (h : ch.isDigit = true) : safeChar ch = true := by
  have := isDigit_code h
  simp only [safeChar, Bool.and_eq_true, decide_eq_true_eq]
  omega

theorem nat_repr_safe (n : Nat) : n.repr.toList.all safeChar = true :=
  List.all_eq_true.2 (fun ch hch => safe_of_isDigit ch (nat_repr_digits n ch hch))

theorem nat_repr_ne (n : Nat) : n.repr.toList ≠ [] := by
  rw [Nat.toList_repr]; exact Nat.toDigits_ne_nil

theorem int_repr_chars (i : Int) : ∀ ch ∈ i.repr.toList, ch.isDigit = true ∨ ch = '-' := by
  intro ch hch
  rw [Int.repr_eq_if] at hch
  split at hch
  · exact Or.inl (nat_repr_digits _ ch hch)
  · simp only [String.toList_append, List.mem_append] at hch
    rcases hch with h | h
    · right; simpa using h
    · exact Or.inl (nat_repr_digits _ ch h)

theorem intShow_safe (i : Int) : (intShow i).toList.all safeChar = true := by
  apply List.all_eq_true.2
  intro ch hch
  rcases int_repr_chars i ch hch with h | h
  · exact safe_of_isDigit ch h
  · subst h; decide

theorem intShow_no0x (i : Int) : hasPrefix0x (intShow i) = false := by
  unfold hasPrefix0x
  split
  · rename_i r heq
    have : 'x' ∈ (intShow i).toList := by rw [heq]; simp
    rcases int_repr_chars i 'x' this with h | h
    · exact absurd h (by decide)
    · exact absurd h (by decide)
  · rfl

theorem parseI64_show (i : Int) (h1 : i64Min ≤ i) (h2 : i ≤ i64Max) : parseI64 (intShow i) = some i := by
  simp [parseI64, intShow, h1, h2]

theorem parseU64_show (i : Int) (h1 : i64Max < i) (h2 : i ≤ u64Max) :
    parseI64 (intShow i) = none ∧ parseU64 (intShow i) = some i := by
  have h0 : (0 : Int) ≤ i := by unfold i64Max at h1; omega
  have h3 : ¬ i ≤ i64Max := by omega
  simp [parseI64, parseU64, intShow, h3, h2, h0]

theorem b64_alphabet (i : Nat) : b64val (b64char (i % 64)) = some (i % 64) ∧ b64char (i % 64) ≠ '=' ∧
    safeChar (b64char (i % 64)) = true := by
  have h : ∀ i, i < 64 → b64val (b64char i) = some i ∧ b64char i ≠ '=' ∧ safeChar (b64char i) = true := by decide
  exact h _ (Nat.mod_lt _ (by decide))

theorem b64val_char (i : Nat) : b64val (b64char (i % 64)) = some (i % 64) := (b64_alphabet i).1

theorem b64char_ne_pad (i : Nat) : b64char (i % 64) ≠ '=' := (b64_alphabet i).2.1

theorem b64char_safe (i : Nat) : safeChar (b64char (i % 64)) = true := (b64_alphabet i).2.2

theorem sextets (n : Nat) (h : n < 16777216) : n / 262144 % 64 * 64 + n / 4096 % 64 = n / 4096 ∧
    n / 4096 * 64 + n / 64 % 64 = n / 64 ∧ n / 64 * 64 + n % 64 = n := by
  omega

/-- the base64 law, for the real implementation, all byte strings.  Each case: the bytes form a 24-bit group `n`,
    written as its sextets and read back by the div/mod facts `h0`.  `n` is named by an equation, not `generalize`d: the
    kernel is slow to compare terms that hold `a.toNat * 65536`. -/
theorem base64_roundtrip (bs : List UInt8) : b64dec (b64enc bs) = some bs :=
  match bs with
  | [] => rfl
  | [a] => by
    have ha := a.toNat_lt
    obtain ⟨n, hn⟩ : ∃ n, a.toNat * 65536 = n := ⟨_, rfl⟩
    obtain ⟨s1, -, -⟩ := sextets n (by omega)
    have h0 : n / 4096 % 16 = 0 ∧ n / 4096 / 16 = a.toNat := by omega
    simp [b64enc, hn, b64dec, b64val_char, s1, h0]
  | [a, b] => by
    have ha := a.toNat_lt
    have hb := b.toNat_lt
    obtain ⟨n, hn⟩ : ∃ n, a.toNat * 65536 + b.toNat * 256 = n := ⟨_, rfl⟩
    obtain ⟨s1, s2, -⟩ := sextets n (by omega)
    have h0 : n / 64 % 4 = 0 ∧ n / 64 / 1024 = a.toNat ∧ n / 64 / 4 % 256 = b.toNat := by omega
    simp [b64enc, hn, b64dec, b64val_char, b64char_ne_pad, s1, s2, h0]
  | a :: b :: c :: r => by
    have ha := a.toNat_lt
    have hb := b.toNat_lt
    have hc := c.toNat_lt
    obtain ⟨n, hn⟩ : ∃ n, a.toNat * 65536 + b.toNat * 256 + c.toNat = n := ⟨_, rfl⟩
    obtain ⟨s1, s2, s3⟩ := sextets n (by omega)
    have h0 : n / 65536 = a.toNat ∧ n / 256 % 256 = b.toNat ∧ n % 256 = c.toNat := by omega
    simp [b64enc, hn, b64dec, b64val_char, b64char_ne_pad, base64_roundtrip r, s1, s2, s3, h0]

theorem b64_safe : ∀ bs : List UInt8, (b64enc bs).all safeChar = true
  | [] => rfl
  | [a] => by simp [b64enc, b64char_safe, (by decide : safeChar '=' = true)]
  | [a, b] => by simp [b64enc, b64char_safe, (by decide : safeChar '=' = true)]
  | a :: b :: c :: r => by simp [b64enc, b64char_safe, b64_safe r]

theorem codecLaws_refCodec : CodecLaws refCodec where
  f32_rt x _ := by simp [refCodec]
  f32_ne x := nat_repr_ne _
  f32_safe x := nat_repr_safe _
  f64_rt x _ := by simp [refCodec]
  f64_safe x := nat_repr_safe _
  int_i64 := parseI64_show
  int_u64 := parseU64_show
  int_no0x := intShow_no0x
  int_safe := intShow_safe
  data_rt d := by simp [refCodec, base64_roundtrip]
  data_safe d := by simp only [refCodec, String.toList_ofList]; exact b64_safe d
  date_rt d s h := by
    simp only [refCodec, Option.ite_none_right_eq_some, Option.some.injEq] at h ⊢
    obtain ⟨hr, rfl⟩ := h
    obtain ⟨secs, nanos⟩ := d
    simp only [Nat.toNat?_repr, Option.map_some, Option.some.injEq, Date.mk.injEq, dateLo] at hr ⊢
    omega
  date_safe d s h := by
    simp only [refCodec, Option.ite_none_right_eq_some, Option.some.injEq] at h
    exact h.2 ▸ nat_repr_safe _

theorem digitVal_digitChar (d : Nat) : digitVal? (digitChar d) = some (d % 10) := by
  have h : ∀ k, k < 10 → digitVal? (Char.ofNat (48 + k)) = some k := by decide
  exact h (d % 10) (Nat.mod_lt _ (by decide))

theorem digitChar_isDigit (d : Nat) : (digitChar d).isDigit = true := by
  have h : ∀ k, k < 10 → (Char.ofNat (48 + k)).isDigit = true := by decide
  exact h (d % 10) (Nat.mod_lt _ (by decide))

def digStep (acc : Option Nat) (ch : Char) : Option Nat :=
  match acc, digitVal? ch with
  | some n, some d => some (n * 10 + d)
  | _, _ => none

theorem parseDigits_eq_foldl (cs : List Char) : parseDigits cs = cs.foldl digStep (some 0) := by
  cases cs <;> rfl

theorem parseDigits_snoc (l : List Char) (d : Nat) :
    parseDigits (l ++ [digitChar d]) = (parseDigits l).map fun n => n * 10 + d % 10 := by
  rw [parseDigits_eq_foldl, parseDigits_eq_foldl, List.foldl_append]
  simp only [List.foldl, digStep, digitVal_digitChar]
  cases List.foldl digStep (some 0) l <;> rfl

structure Digits (l : List Char) (a : Nat) : Prop where
  parse : parseDigits l = some a
  digit : ∀ ch ∈ l, ch.isDigit = true

theorem Digits.nil : Digits [] 0 := ⟨rfl, nofun⟩

theorem Digits.snoc {l : List Char} {a : Nat} (h : Digits l a) (n : Nat) :
    Digits (l ++ [digitChar n]) (a * 10 + n % 10) :=
  ⟨by rw [parseDigits_snoc, h.parse]; rfl, fun ch hch =>
    (List.mem_append.1 hch).elim (h.digit ch) fun h1 => List.mem_singleton.1 h1 ▸ digitChar_isDigit n⟩

theorem Digits.safe {l : List Char} {a : Nat} (h : Digits l a) : l.all safeChar = true :=
  List.all_eq_true.2 fun ch hch => safe_of_isDigit ch (h.digit ch hch)

theorem showFixed_digits : ∀ w n : Nat, Digits (showFixed w n) (n % 10 ^ w)
  | 0, n => by rw [Nat.pow_zero, Nat.mod_one]; exact .nil
  | w + 1, n => by
    have h : n / 10 % 10 ^ w * 10 + n % 10 = n % 10 ^ (w + 1) := by
      rw [Nat.pow_succ, Nat.mul_comm (10 ^ w) 10, Nat.mod_mul]; omega
    exact h ▸ (showFixed_digits w (n / 10)).snoc n

theorem showFixed_length : ∀ w n : Nat, (showFixed w n).length = w
  | 0, _ => rfl
  | w + 1, n => by rw [showFixed, List.length_append, showFixed_length w]; rfl

theorem parse_showFixed (w n : Nat) (h : n < 10 ^ w) : parseDigits (showFixed w n) = some n := by
  rw [(showFixed_digits w n).parse, Nat.mod_eq_of_lt h]

theorem showFixed_safe (w n : Nat) : (showFixed w n).all safeChar = true := (showFixed_digits w n).safe

theorem show2_eq (n : Nat) : show2 n = showFixed 2 n := rfl

theorem show4_eq (n : Nat) : show4 n = showFixed 4 n := by
  simp only [show4, showFixed, Nat.div_div_eq_div_mul, List.nil_append, List.cons_append]

theorem show9_eq (n : Nat) : show9 n = showFixed 9 n := by
  simp only [show9, showFixed, Nat.div_div_eq_div_mul, List.nil_append, List.cons_append]

theorem dropTrailingZeros_pad (l : List Char) :
    dropTrailingZeros l ++ List.replicate (l.length - (dropTrailingZeros l).length) '0' = l := by
  have hl : dropTrailingZeros l ++ (l.reverse.takeWhile (· == '0')).reverse = l := by
    rw [dropTrailingZeros, ← List.reverse_append, List.takeWhile_append_dropWhile, List.reverse_reverse]
  have hz : (l.reverse.takeWhile (· == '0')).reverse =
      List.replicate (l.reverse.takeWhile (· == '0')).length '0' :=
    List.eq_replicate_iff.2 ⟨List.length_reverse, fun b hb => by
      simpa using List.all_eq_true.1 List.all_takeWhile b (List.mem_reverse.1 hb)⟩
  have hlen := congrArg List.length hl
  rw [List.length_append, List.length_reverse] at hlen
  rw [show l.length - (dropTrailingZeros l).length = (l.reverse.takeWhile (· == '0')).length by omega, ← hz, hl]

theorem dropTrailingZeros_sublist (l : List Char) : (dropTrailingZeros l).Sublist l :=
  (List.reverse_sublist.2 (List.dropWhile_sublist _)).trans (by rw [List.reverse_reverse]; exact .refl _)

theorem fraction_digits (n : Nat) (h0 : n ≠ 0) (hn : n < 1000000000) :
    dropTrailingZeros (show9 n) ≠ [] ∧ (dropTrailingZeros (show9 n)).length ≤ 9 ∧
    parseDigits (dropTrailingZeros (show9 n) ++
      List.replicate (9 - (dropTrailingZeros (show9 n)).length) '0') = some n := by
  have hpad := dropTrailingZeros_pad (show9 n)
  have hle := (dropTrailingZeros_sublist (show9 n)).length_le
  have h9 : parseDigits (show9 n) = some n := show9_eq n ▸ parse_showFixed 9 n hn
  rw [show (show9 n).length = 9 from rfl] at hpad hle
  refine ⟨fun e => ?_, hle, hpad.symm ▸ h9⟩
  rw [← hpad, e] at h9
  exact h0 (Option.some.inj h9).symm

/-- **date_text_roundtrip**: the text layer of `plist::Date::{to,from}_xml_format` as implemented in
    `Model/DSCodec.lean` (`YYYY-MM-DDTHH:MM:SS[.f…]Z`, fixed-width decimal fields, sub-second digits only
    when non-zero and without trailing zeros): every time stamp whose fields fit their widths is read back -/
theorem date_text_roundtrip (t : Stamp) (hy : t.year < 10000) (hm : t.month < 100) (hd : t.day < 100)
    (hh : t.hour < 100) (hi : t.minute < 100) (hs : t.second < 100) (hn : t.nanos < 1000000000) :
    parseStamp (showStamp t) = some t := by
  have e4 : parseDigits (show4 t.year) = some t.year := show4_eq _ ▸ parse_showFixed 4 _ hy
  have em := parse_showFixed 2 t.month hm
  have ed := parse_showFixed 2 t.day hd
  have eh := parse_showFixed 2 t.hour hh
  have ei := parse_showFixed 2 t.minute hi
  have es := parse_showFixed 2 t.second hs
  simp only [show4, ← show2_eq, show2] at e4 em ed eh ei es
  by_cases h0 : t.nanos = 0
  · simp only [showStamp, show4, show2, h0, if_true, List.cons_append, List.nil_append, parseStamp,
      e4, em, ed, eh, ei, es]
    -- left: the `frac` match on `['Z']`, and `Stamp` from its fields
    cases t; simp_all
  · obtain ⟨hne, hle, hfrac⟩ := fraction_digits t.nanos h0 hn
    have hcond : ¬ ((dropTrailingZeros (show9 t.nanos)).isEmpty = true ∨
        9 < (dropTrailingZeros (show9 t.nanos)).length) :=
      fun h => h.elim (fun h => hne (List.isEmpty_iff.1 h)) (fun h => by omega)
    simp only [showStamp, show4, show2, h0, if_false, List.cons_append, List.nil_append, parseStamp,
      e4, em, ed, eh, ei, es, List.reverse_append, List.reverse_cons, List.reverse_nil, List.reverse_reverse,
      hcond, hfrac]

theorem showStamp_safe (t : Stamp) : (showStamp t).all safeChar = true := by
  have h9 : (dropTrailingZeros (show9 t.nanos)).all safeChar = true :=
    List.all_eq_true.2 fun ch hch =>
      List.all_eq_true.1 (show9_eq _ ▸ showFixed_safe 9 _) ch ((dropTrailingZeros_sublist _).subset hch)
  have hsep : safeChar '-' = true ∧ safeChar 'T' = true ∧ safeChar ':' = true ∧ safeChar '.' = true ∧
      safeChar 'Z' = true := by decide
  unfold showStamp
  split <;>
    simp only [List.all_append, List.all_cons, List.all_nil, show4_eq, show2_eq, showFixed_safe, h9, hsep,
      Bool.and_self]

/-- **date_codec_roundtrip**: every date `plist::Date::to_xml_format` can print (as modelled by `rfc3339Show`:
    seconds and nanoseconds since the Unix epoch ↔ RFC 3339 text, years 0000–9999; tied to the crate on every date of
    every run) is read back by `rfc3339Read` -/
theorem date_codec_roundtrip (d : Date) (s : String) (h : rfc3339Show d = some s) : rfc3339Read s = some d := by
  rw [rfc3339Show, Option.ite_none_right_eq_some] at h
  obtain ⟨secs, nanos⟩ := d
  obtain ⟨hr, h⟩ := h
  simp only [dateLo', dateHi', Option.some.injEq] at hr h
  subst h
  -- the seconds of the years 0000–9999 lie on the days −719 528 … 2 932 896, where the calendar is invertible
  obtain ⟨hy0, hy, hm1, hm12, hd1, hd31, hinv⟩ := calendar_inverse (secs / 86400) (by omega) (by omega)
  generalize civilFromDays (secs / 86400) = c at hy0 hy hm1 hm12 hd1 hd31 hinv
  obtain ⟨y, m, dd⟩ := c
  obtain ⟨sod, hsod, hs⟩ : ∃ sod : Nat, sod < 86400 ∧ (secs % 86400).toNat = sod := ⟨_, by omega, rfl⟩
  simp only [hs] at hy0 hy hm1 hm12 hd1 hd31 hinv ⊢
  unfold rfc3339Read
  rw [String.toList_ofList, date_text_roundtrip _ (by simp only; omega) (by simp only; omega) (by simp only; omega)
    (by simp only; omega) (by simp only; omega) (by simp only; omega) hr.2.2]
  have hcond : 1 ≤ m ∧ m ≤ 12 ∧ 1 ≤ dd ∧ dd ≤ 31 ∧ sod / 3600 < 24 ∧ sod / 60 % 60 < 60 ∧ sod % 60 < 60 :=
    ⟨hm1, hm12, hd1, hd31, by omega, by omega, by omega⟩
  simp only [hcond, and_self, if_true, Int.toNat_of_nonneg hy0, hinv]
  -- the days times 86 400 plus the second of the day are the seconds again
  congr 2
  omega

/-- **date_codec_roundtrip_of_calendar**: `date_codec_roundtrip`; the hypothesis (it is `calendar_inverse`) is not needed -/
theorem date_codec_roundtrip_of_calendar (H : CalendarInverse) (d : Date) (s : String)
    (h : rfc3339Show d = some s) : rfc3339Read s = some d :=
  date_codec_roundtrip d s h

theorem CodecLaws.withDates {c : Codec} (L : CodecLaws c) (sd : Date → Option String) (rd : String → Option Date)
    (hrt : ∀ d s, sd d = some s → rd s = some d) (hsafe : ∀ d s, sd d = some s → s.toList.all safeChar = true) :
    CodecLaws { c with showDate := sd, readDate := rd } :=
  { L with date_rt := hrt, date_safe := hsafe }

theorem CodecLaws.withFloats {c : Codec} (L : CodecLaws c) (s32 : F32 → String) (r32 : String → Option F32)
    (s64 : F64 → String) (r64 : String → Option F64)
    (h32_rt : ∀ x, x.notNaN = true → r32 (s32 x) = some x) (h32_ne : ∀ x, (s32 x).toList ≠ [])
    (h32_safe : ∀ x, (s32 x).toList.all safeChar = true)
    (h64_rt : ∀ x, x.notNaN = true → r64 (s64 x) = some x) (h64_safe : ∀ x, (s64 x).toList.all safeChar = true) :
    CodecLaws { c with showF32 := s32, readF32 := r32, showF64 := s64, readF64 := r64 } :=
  { L with f32_rt := h32_rt, f32_ne := h32_ne, f32_safe := h32_safe, f64_rt := h64_rt, f64_safe := h64_safe }

end C18
