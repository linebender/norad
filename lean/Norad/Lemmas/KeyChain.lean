import Norad.Model.Glif
/-!
# Attribute names and keys

The key functions of the glif model (`gKeyOf`, `aKeyOf`, …) are `if`-chains over attribute names, one row per key.
`keyChain` is that chain for a table given as a list; each key function is the chain of the table `name k ↦ k` of its
name function by unfolding, so what is proved once for a variable table holds of all of them.
`gKeyName`, … are the attribute names of the keys (reducible, so that a lemma about `aKeyName .x` applies to the literal
`"x".toList`); a key list below that does not follow the model's chain does not typecheck.
-/
namespace Glif

def keyChain {κ : Type} : List (Str × κ) → Str → Option κ
  | [], _ => none
  | (n, k) :: r, s => if s = n then some k else keyChain r s

theorem keyChain_named {κ : Type} {name : κ → Str} {ks : List κ} {s : Str} {k : κ}
    (h : keyChain (ks.map fun k => (name k, k)) s = some k) : s = name k := by
  induction ks with
  | nil => cases h
  | cons k' ks ih =>
    simp only [List.map_cons, keyChain] at h
    split at h
    · cases h; assumption
    · exact ih h

theorem keyChain_isSome {κ : Type} (name : κ → Str) (ks : List κ) (s : Str) :
    (keyChain (ks.map fun k => (name k, k)) s).isSome = (ks.map name).contains s := by
  induction ks with
  | nil => rfl
  | cons k ks ih =>
    simp only [List.map_cons, keyChain, List.contains_cons]
    split <;> simp [*]

structure KeyNames {κ : Type} (keyOf : Str → Option κ) (name : κ → Str) : Prop where
  name_of : ∀ {s k}, keyOf s = some k → s = name k
  of_name : ∀ k, keyOf (name k) = some k

theorem KeyNames.of_chain {κ : Type} {keyOf : Str → Option κ} {name : κ → Str} (ks : List κ)
    (chain : ∀ s, keyOf s = keyChain (ks.map fun k => (name k, k)) s) (all : ∀ k, k ∈ ks)
    (back : ∀ k ∈ ks, keyOf (name k) = some k) : KeyNames keyOf name :=
  ⟨fun h => keyChain_named (chain _ ▸ h), fun k => back k (all k)⟩

@[reducible] def gKeyName : GKey → Str
  | .name => "name".toList | .format => "format".toList | .formatMinor => "formatMinor".toList

theorem gKeyNames : KeyNames gKeyOf gKeyName :=
  .of_chain [.name, .format, .formatMinor] (fun _ => rfl) (fun k => by cases k <;> decide) (by decide +kernel)

@[reducible] def advKeyName : AdvKey → Str
  | .width => "width".toList | .height => "height".toList

theorem advKeyNames : KeyNames advKeyOf advKeyName :=
  .of_chain [.width, .height] (fun _ => rfl) (fun k => by cases k <;> decide) (by decide +kernel)

@[reducible] def aKeyName : AKey → Str
  | .x => "x".toList | .y => "y".toList | .name => "name".toList | .color => "color".toList | .ident => sIdentifier

theorem aKeyNames : KeyNames aKeyOf aKeyName :=
  .of_chain [.x, .y, .name, .color, .ident] (fun _ => rfl) (fun k => by cases k <;> decide) (by decide +kernel)

@[reducible] def guKeyName : GuKey → Str
  | .x => "x".toList | .y => "y".toList | .angle => "angle".toList
  | .name => "name".toList | .color => "color".toList | .ident => sIdentifier

theorem guKeyNames : KeyNames guKeyOf guKeyName :=
  .of_chain [.x, .y, .angle, .name, .color, .ident] (fun _ => rfl) (fun k => by cases k <;> decide) (by decide +kernel)

@[reducible] def pKeyName : PKey → Str
  | .x => "x".toList | .y => "y".toList | .name => "name".toList | .typ => "type".toList
  | .smooth => "smooth".toList | .ident => sIdentifier

theorem pKeyNames : KeyNames pKeyOf pKeyName :=
  .of_chain [.x, .y, .name, .typ, .smooth, .ident] (fun _ => rfl) (fun k => by cases k <;> decide) (by decide +kernel)

@[reducible] def tKeyName : TKey → Str
  | .xScale => "xScale".toList | .xyScale => "xyScale".toList | .yxScale => "yxScale".toList
  | .yScale => "yScale".toList | .xOffset => "xOffset".toList | .yOffset => "yOffset".toList

theorem tKeyNames : KeyNames tKeyOf tKeyName :=
  .of_chain [.xScale, .xyScale, .yxScale, .yScale, .xOffset, .yOffset] (fun _ => rfl) (fun k => by cases k <;> decide) (by decide +kernel)

@[reducible] def iKeyName : IKey → Str
  | .t k => tKeyName k | .color => "color".toList | .fileName => "fileName".toList

theorem iKeyNames : KeyNames iKeyOf iKeyName := by
  have own : iKeyOf (iKeyName .color) = some .color ∧ iKeyOf (iKeyName .fileName) = some .fileName := by decide +kernel
  refine ⟨fun {s k} h => ?_, fun
    | .t k => by unfold iKeyOf; rw [tKeyNames.of_name k]
    | .color => own.1
    | .fileName => own.2⟩
  unfold iKeyOf at h
  cases ht : tKeyOf s with
  | some tk => rw [ht] at h; cases h; exact tKeyNames.name_of ht
  | none => rw [ht] at h; exact keyChain_named (name := iKeyName) (ks := [.color, .fileName]) h

@[reducible] def cKeyName : CKey → Str
  | .t k => tKeyName k | .base => "base".toList | .ident => sIdentifier

theorem cKeyNames : KeyNames cKeyOf cKeyName := by
  have own : cKeyOf (cKeyName .base) = some .base ∧ cKeyOf (cKeyName .ident) = some .ident := by decide +kernel
  refine ⟨fun {s k} h => ?_, fun
    | .t k => by unfold cKeyOf; rw [tKeyNames.of_name k]
    | .base => own.1
    | .ident => own.2⟩
  unfold cKeyOf at h
  cases ht : tKeyOf s with
  | some tk => rw [ht] at h; cases h; exact tKeyNames.name_of ht
  | none => rw [ht] at h; exact keyChain_named (name := cKeyName) (ks := [.base, .ident]) h

end Glif
