import Norad.Model.FontLoad
import Norad.Lemmas.AbsFS
/-!
Lemmas for C17: switch-guarded reads, the layer filter against `extractDefault`, the single-file parts and the stores
under a request.
-/
namespace FontLoad
open AbsFS FontSave

variable {β : Type}

/-- `stage`: a stage of the load behind a request switch -/
theorem guarded_of_true {ε α : Type} {stage : Bool → Except ε α} {dflt v : α} (h0 : stage false = .ok dflt)
    (h : stage true = .ok v) : ∀ sw, stage sw = .ok (if sw then v else dflt)
  | true => h
  | false => h0

theorem readOpt_false {α : Type} {fs : FS β} {cs} {parse : β → Option α} {name} :
    readOpt false fs cs parse name = .ok none := rfl

theorem readOpt_of_true {α : Type} {fs : FS β} {cs} {parse : β → Option α} {name} {v : Option α}
    (h : readOpt true fs cs parse name = .ok v) (sw : Bool) :
    readOpt sw fs cs parse name = .ok (if sw then v else none) :=
  guarded_of_true (stage := fun sw => readOpt sw fs cs parse name) rfl h sw

theorem extractDefault_append_cons {a b : List ALayer} {d : ALayer} (ha : ∀ x ∈ a, isDefaultLayer x = false)
    (hd : isDefaultLayer d = true) : extractDefault (a ++ d :: b) = some (d, a ++ b) := by
  induction a with
  | nil => rw [List.nil_append, extractDefault, if_pos hd]; rfl
  | cons x a ih =>
    rw [List.forall_mem_cons] at ha
    rw [List.cons_append, extractDefault, if_neg (by simp [ha.1]), ih ha.2]; rfl

theorem extractDefault_split {l : List ALayer} {d rest} (h : extractDefault l = some (d, rest)) :
    ∃ a b, l = a ++ d :: b ∧ rest = a ++ b ∧ isDefaultLayer d = true ∧ ∀ x ∈ a, isDefaultLayer x = false := by
  revert h
  fun_induction extractDefault l generalizing d rest <;> intro h <;> cases h
  next x xs hx => exact ⟨[], xs, rfl, rfl, hx, nofun⟩
  next x xs hx d' r' he ih =>
    obtain ⟨a, b, rfl, rfl, hd, ha⟩ := ih he
    exact ⟨x :: a, b, rfl, rfl, hd, List.forall_mem_cons.2 ⟨by simpa using hx, ha⟩⟩

theorem any_false_of_forall {l : List ALayer} (h : ∀ x ∈ l, isDefaultLayer x = false) :
    l.any isDefaultLayer = false := by
  simpa [List.any_eq_false] using h

theorem shouldLoad_default {r : Request} {d : ALayer} (hd : isDefaultLayer d = true)
    (hinc : includesDefault r = true) : shouldLoad r d.name d.dir = true := by
  have hdir : d.dir = glyphsDir := by simpa [isDefaultLayer] using hd
  unfold includesDefault at hinc
  unfold shouldLoad
  cases hall : r.all with
  | true => simp
  | false =>
    have : r.loadDefault = true := by simpa [hall] using hinc
    simp [this, hdir]

theorem includesDefault_false_of_not_selected {r : Request} {d : ALayer} (hd : isDefaultLayer d = true)
    (hp : shouldLoad r d.name d.dir = false) : includesDefault r = false := by
  cases hi : includesDefault r with
  | false => rfl
  | true => rw [shouldLoad_default hd hi] at hp; cases hp


/-- names the `let ls'` of the model's `finishLayers` -/
def withPlaceholder (r : Request) (ls : List ALayer) : List ALayer :=
  if !includesDefault r && !ls.any isDefaultLayer then ls ++ [placeholder] else ls

theorem finishLayers_ok {r : Request} {ls out : List ALayer} (h : finishLayers r ls = .ok out) :
    ∃ a d b, withPlaceholder r ls = a ++ d :: b ∧ out = d :: (a ++ b) ∧ isDefaultLayer d = true ∧
      ∀ x ∈ a, isDefaultLayer x = false := by
  revert h
  fun_cases finishLayers r ls <;> intro h <;> cases h
  obtain ⟨a, b, hl, rfl, hd, ha⟩ := extractDefault_split ‹_›
  exact ⟨a, _, b, hl, rfl, hd, ha⟩

/-- `hone`: the full list has one layer in `glyphs` (C06's invariant); with two, `position` (which takes the first) and
    the filter (which may drop the first and keep the second) could pick different default layers -/
theorem finishLayers_filter {r : Request} {ls full : List ALayer}
    (hfull : finishLayers Request.everything ls = .ok full)
    (hone : ∀ x ∈ full.tail, isDefaultLayer x = false) :
    finishLayers r (ls.filter fun l => shouldLoad r l.name l.dir) = .ok (restrictLayers r full) := by
  obtain ⟨a, d, b, hls, rfl, hd, ha⟩ := finishLayers_ok hfull
  obtain rfl : ls = a ++ d :: b := hls
  rw [List.tail_cons, List.forall_mem_append] at hone
  rw [finishLayers, restrictLayers, List.filter_append, List.filter_cons, List.filter_cons]
  cases hp : shouldLoad r d.name d.dir with
  | true =>
    have hfa : ∀ x ∈ a.filter fun l => shouldLoad r l.name l.dir, isDefaultLayer x = false :=
      fun x hx => ha x (List.mem_filter.1 hx).1
    simp only [if_true, List.any_append, List.any_cons, hd, Bool.true_or, Bool.or_true, Bool.not_true,
      Bool.and_false, Bool.false_eq_true, if_false, extractDefault_append_cons hfa hd, List.filter_append]
  | false =>
    have hinc := includesDefault_false_of_not_selected hd hp
    have hk : ∀ x ∈ (a ++ b).filter fun l => shouldLoad r l.name l.dir, isDefaultLayer x = false :=
      fun x hx => List.forall_mem_append.2 hone x (List.mem_filter.1 hx).1
    simp only [Bool.false_eq_true, if_false, hinc, ← List.filter_append, any_false_of_forall hk, Bool.not_false,
      Bool.and_self, if_true, Bool.or_self]
    rw [extractDefault_append_cons hk rfl, List.append_nil]

def stripLibs (i : AInfo) : AInfo := { i with guides := i.guides.map fun g => { g with lib := none } }

def restrictScalars (r : Request) (sc : Scalars) : Scalars :=
  { sc with
    lib := if r.lib then sc.lib else [],
    info := if r.lib then sc.info else stripLibs sc.info,
    groups := if r.groups then sc.groups else 0,
    kerning := if r.kerning then sc.kerning else 0,
    features := if r.features then sc.features else 0 }

theorem assignLibs_strip (ol : List (Str × Option Nat)) (gs : List (Option Str)) (out : List AGuide)
    (h : assignLibs ol gs = some out) :
    out.map (fun g => { g with lib := none }) = gs.map fun g => ({ ident := g, lib := none } : AGuide) := by
  revert h
  -- whatever lib a guideline is given, it is stripped again
  fun_induction assignLibs ol gs generalizing out <;> intro h <;> cases h <;>
    first | rfl | (rename_i ih; rw [List.map_cons, List.map_cons, ih _ ‹_›])

theorem infoStage_without_lib {infoFile : Option InfoFile} {lib0 : List (Str × LVal)} {info lib}
    (h : infoStage infoFile lib0 = .ok (info, lib)) :
    infoStage infoFile [] = .ok (stripLibs info, []) := by
  cases infoFile with
  | none => cases h; rfl
  | some i =>
    simp only [infoStage] at h ⊢
    revert h
    fun_cases loadFontInfo i lib0 <;> intro h <;> cases h <;> rw [loadFontInfo, if_neg ‹_›]
    · simp [lookupKey, stripLibs]
    · simp [lookupKey, stripLibs, assignLibs_strip _ _ _ ‹_›]

theorem loadScalars_ok {P : Parser β} {fs : FS β} {t : APath} {r : Request} {sc : Scalars}
    (h : loadScalars P fs t r = .ok sc) :
    node fs t = some .dir ∧ existsAt fs (sub t "metainfo.plist") = true ∧
    readParsed fs (sub t "metainfo.plist") P.metainfo "metainfo.plist" = .ok (3, sc.metaTok) ∧
    ∃ lib0 infoFile, libStage P fs t r.lib = .ok lib0 ∧
      readOpt true fs (sub t "fontinfo.plist") P.fontinfo "fontinfo.plist" = .ok infoFile ∧
      infoStage infoFile lib0 = .ok (sc.info, sc.lib) ∧
      groupsStage P fs t r.groups = .ok sc.groups ∧
      tokStage fs t r.kerning "kerning.plist" P.kerning = .ok sc.kerning ∧
      tokStage fs t r.features "features.fea" P.features = .ok sc.features := by
  revert h
  fun_cases loadScalars P fs t r <;> intro h <;> cases h
  obtain rfl := Decidable.of_not_not ‹¬ _ ≠ 3›
  exact ⟨‹_›, by simpa using ‹¬ (!existsAt _ _) = true›, ‹_›, _, _, ‹_›, ‹_›, ‹_›, ‹_›, ‹_›, ‹_›⟩

theorem loadScalars_of_stages {P : Parser β} {fs : FS β} {t : APath} {r : Request} {metaTok : Nat}
    {lib0 lib : List (Str × LVal)} {infoFile : Option InfoFile} {info : AInfo} {groups kerning features : Nat}
    (hn : node fs t = some .dir) (hm : existsAt fs (sub t "metainfo.plist") = true)
    (hmeta : readParsed fs (sub t "metainfo.plist") P.metainfo "metainfo.plist" = .ok (3, metaTok))
    (hlib : libStage P fs t r.lib = .ok lib0)
    (hinfo : readOpt true fs (sub t "fontinfo.plist") P.fontinfo "fontinfo.plist" = .ok infoFile)
    (his : infoStage infoFile lib0 = .ok (info, lib))
    (hg : groupsStage P fs t r.groups = .ok groups)
    (hk : tokStage fs t r.kerning "kerning.plist" P.kerning = .ok kerning)
    (hf : tokStage fs t r.features "features.fea" P.features = .ok features) :
    loadScalars P fs t r = .ok ⟨metaTok, info, lib, groups, kerning, features⟩ := by
  unfold loadScalars
  simp only [hn, hm, hmeta, hlib, hinfo, his, hg, hk, hf, Bool.not_true, Bool.false_eq_true, if_false, ne_eq,
    not_true_eq_false]

theorem loadScalars_restrict {P : Parser β} {fs : FS β} {t : APath} {sc : Scalars} (r : Request)
    (h : loadScalars P fs t Request.everything = .ok sc) :
    loadScalars P fs t r = .ok (restrictScalars r sc) := by
  obtain ⟨hn, hm, hmeta, lib0, infoFile, hlib, hinfo, his, hg, hk, hf⟩ := loadScalars_ok h
  have his' : infoStage infoFile (if r.lib then lib0 else []) =
      .ok (if r.lib then sc.info else stripLibs sc.info, if r.lib then sc.lib else []) := by
    cases r.lib
    · exact infoStage_without_lib his
    · exact his
  exact loadScalars_of_stages hn hm hmeta (guarded_of_true (stage := libStage P fs t) rfl hlib r.lib) hinfo his'
    (guarded_of_true (stage := groupsStage P fs t) rfl hg r.groups)
    (guarded_of_true (stage := (tokStage fs t · "kerning.plist" P.kerning)) rfl hk r.kerning)
    (guarded_of_true (stage := (tokStage fs t · "features.fea" P.features)) rfl hf r.features)

theorem loadLayer_spec {P : Parser β} {fs : FS β} {t : APath} {n d : Str} {l : ALayer}
    (h : loadLayer P fs t n d = .ok l) :
    l.name = n ∧ lastName (joinRel (tC t) (Path.parse d)) = some l.dir := by
  revert h
  fun_cases loadLayer P fs t n d <;> intro h <;> cases h
  exact ⟨rfl, ‹_›⟩

theorem shouldLoad_everything (n d : Str) : shouldLoad Request.everything n d = true := by
  simp [shouldLoad, Request.everything]

theorem loadLayers_cons_ok {P : Parser β} {fs : FS β} {t : APath} {r : Request} {n d : Str} {rest : List (Str × Str)}
    {ls : List ALayer} (hs : shouldLoad r n d = true) (h : loadLayers P fs t r ((n, d) :: rest) = .ok ls) :
    ∃ l ls', loadLayer P fs t n d = .ok l ∧ loadLayers P fs t r rest = .ok ls' ∧ ls = l :: ls' := by
  rw [loadLayers, if_pos hs] at h
  split at h
  next => cases h
  next l hl =>
    split at h
    next => cases h
    next ls' hr => cases h; exact ⟨l, ls', hl, hr, rfl⟩

/-- `hplain`: the directory a loaded layer keeps (`file_name()` of the joined path) is the string the filter saw -/
theorem loadLayers_filter {P : Parser β} {fs : FS β} {t : APath} (r : Request) {lc : List (Str × Str)}
    {ls : List ALayer} (h : loadLayers P fs t Request.everything lc = .ok ls)
    (hplain : ∀ e ∈ lc, lastName (joinRel (tC t) (Path.parse e.2)) = some e.2) :
    loadLayers P fs t r lc = .ok (ls.filter fun l => shouldLoad r l.name l.dir) := by
  induction lc generalizing ls with
  | nil => cases h; rfl
  | cons e rest ih =>
    obtain ⟨n, d⟩ := e
    rw [List.forall_mem_cons] at hplain
    obtain ⟨l, ls', hl, hr, rfl⟩ := loadLayers_cons_ok (shouldLoad_everything n d) h
    obtain ⟨rfl, hdir⟩ := loadLayer_spec hl
    obtain rfl : l.dir = d := Option.some.inj (hdir.symm.trans hplain.1)
    rw [loadLayers, ih hr hplain.2, List.filter_cons]
    split
    · rw [hl]
    · rfl

theorem loadLayerSet_ok {P : Parser β} {fs : FS β} {t : APath} {r : Request} {out : List ALayer}
    (h : loadLayerSet P fs t r = .ok out) :
    existsAt fs (sub t "layercontents.plist") = true ∧ ∃ lc ls,
      readParsed fs (sub t "layercontents.plist") P.layercontents "layercontents.plist" = .ok lc ∧
      loadLayers P fs t r lc = .ok ls ∧ finishLayers r ls = .ok out := by
  revert h
  fun_cases loadLayerSet P fs t r <;> intro h
  · cases h
  · cases h
  · cases h
  · exact ⟨by simpa using ‹¬ (!existsAt _ _) = true›, _, _, ‹_›, ‹_›, h⟩

theorem loadLayerSet_restrict {P : Parser β} {fs : FS β} {t : APath} {full : List ALayer} (r : Request)
    (h : loadLayerSet P fs t Request.everything = .ok full)
    (hone : ∀ x ∈ full.tail, isDefaultLayer x = false)
    (hplain : ∀ lc, readParsed fs (sub t "layercontents.plist") P.layercontents "layercontents.plist" = .ok lc →
      ∀ e ∈ lc, lastName (joinRel (tC t) (Path.parse e.2)) = some e.2) :
    loadLayerSet P fs t r = .ok (restrictLayers r full) := by
  obtain ⟨hex, lc, ls, hlc, hls, hfin⟩ := loadLayerSet_ok h
  unfold loadLayerSet
  simp only [hex, hlc, loadLayers_filter r hls (hplain lc hlc), Bool.not_true, Bool.false_eq_true, if_false]
  exact finishLayers_filter hfin hone

/-- second part: the directory was read when the switch is on and it exists, and only then can the store hold anything:
    hence the two ways of saying so -/
theorem loadStore_ok {sw : Bool} {kind : StoreKind} {fs : FS β} {t : APath} {s : Store β}
    (h : loadStore sw kind fs t = .ok s) :
    (∀ kc ∈ s.items, kc.2 = .notLoaded ∧ ∃ rel, rel ≠ [] ∧ kc.1 = relKey rel) ∧
    (s.items ≠ [] ∨ (sw && existsAt fs (tC (t ++ [(storeDirName kind).toList]))) = true →
      s.root = t ∧ ∀ rel, (rel, true) ∈ listBelow fs (t ++ [(storeDirName kind).toList]) →
        (relKey rel, Cell.notLoaded) ∈ s.items) := by
  -- the cells are made from a part `L` of the listing that keeps all plain files
  have key : ∀ L : List (APath × Bool), (∀ e ∈ L, e ∈ listBelow fs (t ++ [(storeDirName kind).toList])) →
      (∀ rel, (rel, true) ∈ listBelow fs (t ++ [(storeDirName kind).toList]) → (rel, true) ∈ L) →
      (∀ kc ∈ L.map fun e => (relKey e.1, (Cell.notLoaded : Cell β)), kc.2 = .notLoaded ∧ ∃ rel, rel ≠ [] ∧ kc.1 = relKey rel) ∧
      ∀ rel, (rel, true) ∈ listBelow fs (t ++ [(storeDirName kind).toList]) →
        (relKey rel, Cell.notLoaded) ∈ L.map fun e => (relKey e.1, (Cell.notLoaded : Cell β)) := by
    intro L h1 h2
    constructor
    · intro kc hkc
      obtain ⟨e, he, rfl⟩ := List.mem_map.mp hkc
      exact ⟨rfl, e.1, listBelow_go_nonempty _ fs [] e (h1 e he), rfl⟩
    · exact fun rel hrel => List.mem_map.mpr ⟨_, h2 rel hrel, rfl⟩
  revert h
  fun_cases loadStore sw kind fs t <;> intro h <;> cases h
  · have := key ((listBelow fs (t ++ [(storeDirName .data).toList])).filter (·.2))
      (fun e he => (List.mem_filter.mp he).1) (fun rel hrel => List.mem_filter.mpr ⟨hrel, rfl⟩)
    exact ⟨this.1, fun _ => ⟨rfl, this.2⟩⟩
  · have := key _ (fun e he => he) (fun rel hrel => hrel)
    exact ⟨this.1, fun _ => ⟨rfl, this.2⟩⟩
  · exact ⟨nofun, fun h' => h'.elim (absurd rfl) (absurd · ‹_›)⟩

theorem namesOf_relKey (rel : APath) : namesOf (relKey rel) = rel := by
  induction rel with
  | nil => rfl
  | cons a r ih => exact congrArg (a :: ·) ih

theorem safeRel_relKey {rel : APath} (h : rel ≠ []) : safeRel (relKey rel) = true := by
  cases rel with
  | nil => exact absurd rfl h
  | cons a r => simp [safeRel, relKey, Path.P.allNormal]

theorem loadImpl_ok {P : Parser β} {fs : FS β} {t : APath} {r : Request} {f : AFont β}
    (h : loadImpl P fs t r = .ok f) :
    ∃ sc, loadScalars P fs t r = .ok sc ∧ loadLayerSet P fs t r = .ok f.layers ∧
      loadStore r.data .data fs t = .ok f.data ∧ loadStore r.images .images fs t = .ok f.images ∧
      f = { version := 3, metaTok := sc.metaTok, info := sc.info, lib := sc.lib, groups := sc.groups,
            groupsValid := true, kerning := sc.kerning, features := sc.features, layers := f.layers,
            data := f.data, images := f.images } := by
  revert h
  fun_cases loadImpl P fs t r <;> intro h <;> cases h
  exact ⟨_, ‹_›, ‹_›, ‹_›, ‹_›, rfl⟩

end FontLoad
