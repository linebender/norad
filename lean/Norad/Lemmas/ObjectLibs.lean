import Norad.Lemmas.GlifElem
import Norad.Lemmas.Assoc
/-!
# Object libs: `dump_object_libs` and `load_object_libs` (`src/glyph/mod.rs:167-246`)

The writer collects the lib of every object under its identifier in `public.objectLibs` (`dumpObjectLibs`), the parser
moves them back at `</glyph>` (`loadObjectLibs`).  The four loaders of simple objects are one function (`loadGen`).  Dump
and load are compared on the flat list of all objects in dump order (`objs`): what is dumped is the concatenation of the
objects' entries, and while loading, the dictionary is at every object exactly the entries of the objects still to come
(`flatEnts later`), so that every lib comes back on its object.
-/
namespace Glif

theorem dictGet_is : IsLookup dictGet := ⟨fun _ => rfl, fun _ _ _ _ => rfl⟩

theorem dictGet_erase (k : Str) (d : Dict) : dictGet k (dictErase k d) = none :=
  dictGet_is.filter_of_drop (fun _ => by simp) d

theorem loadObjectLibs_inv {g g' : Glyph} (h : loadObjectLibs g = .ok g') :
    (dictGet objectLibsKey g.lib = none ∧ g' = g) ∨
    ∃ ol as o1 gs o2 cs o3 ks o4, dictGet objectLibsKey g.lib = some (.dict ol) ∧ loadAnchors g.anchors ol = some (as, o1) ∧
      loadGuidelines g.guidelines o1 = some (gs, o2) ∧ loadContours g.contours o2 = some (cs, o3) ∧
      loadComponents g.components o3 = some (ks, o4) ∧
      g' = { g with lib := dictErase objectLibsKey g.lib, anchors := as, guidelines := gs, contours := cs, components := ks } := by
  revert h
  fun_cases loadObjectLibs g with
  | case1 hn => rintro ⟨⟩; exact .inl ⟨hn, rfl⟩
  | case6 ol hk _ as o1 hA gs o2 hG cs o3 hC ks o4 hK =>
    rintro ⟨⟩; exact .inr ⟨ol, as, o1, gs, o2, cs, o3, ks, o4, hk, hA, hG, hC, hK, rfl⟩
  | _ => nofun

theorem loadObjectLibs_no_key {g g' : Glyph} (h : loadObjectLibs g = .ok g') :
    dictGet objectLibsKey g'.lib = none := by
  obtain ⟨hn, rfl⟩ | ⟨_, _, _, _, _, _, _, _, _, _, _, _, _, _, rfl⟩ := loadObjectLibs_inv h
  · exact hn
  · exact dictGet_erase _ _

def loadGen {α : Type} (id : α → Option Str) (setLib : α → Option Dict → α) : List α → Dict → Option (List α × Dict)
  | [], ol => some ([], ol)
  | a :: r, ol =>
    match transferLib (id a) ol with
    | none => none
    | some (l, ol') =>
      match loadGen id setLib r ol' with
      | none => none
      | some (r', ol'') => some (setLib a l :: r', ol'')

/- each loader has its own matchers, so no generic lemma or `rfl` identifies it with `loadGen` -/

theorem loadAnchors_gen (as : List Anchor) (ol : Dict) :
    loadAnchors as ol = loadGen (·.ident) (fun a l => { a with lib := l }) as ol := by
  fun_induction loadAnchors as ol <;> simp_all [loadGen]

theorem loadGuidelines_gen (as : List Guideline) (ol : Dict) :
    loadGuidelines as ol = loadGen (·.ident) (fun a l => { a with lib := l }) as ol := by
  fun_induction loadGuidelines as ol <;> simp_all [loadGen]

theorem loadPoints_gen (as : List Point) (ol : Dict) :
    loadPoints as ol = loadGen (·.ident) (fun a l => { a with lib := l }) as ol := by
  fun_induction loadPoints as ol <;> simp_all [loadGen]

theorem loadComponents_gen (as : List Component) (ol : Dict) :
    loadComponents as ol = loadGen (·.ident) (fun a l => { a with lib := l }) as ol := by
  fun_induction loadComponents as ol <;> simp_all [loadGen]

theorem loadGen_map {α β : Type} {id : α → Option Str} {setLib : α → Option Dict → α} (f : α → β)
    (hf : ∀ a l, f (setLib a l) = f a) :
    ∀ {xs : List α} {ol : Dict} {xs' : List α} {ol' : Dict}, loadGen id setLib xs ol = some (xs', ol') →
      xs'.map f = xs.map f := by
  intro xs ol
  fun_induction loadGen id setLib xs ol <;> simp_all

theorem filterMap_of_map_eq {α β : Type} {f : α → Option β} {l l' : List α} (h : l'.map f = l.map f) :
    l'.filterMap f = l.filterMap f := by
  simpa [List.filterMap_map] using congrArg (List.filterMap id) h

theorem exists_of_map_eq {α β : Type} {f : α → β} {l l' : List α} (h : l'.map f = l.map f) {x : α} (hx : x ∈ l') :
    ∃ y, y ∈ l ∧ f x = f y := by
  have := List.mem_map_of_mem (f := f) hx
  rw [h] at this
  obtain ⟨y, hy, e⟩ := List.mem_map.1 this
  exact ⟨y, hy, e.symm⟩

theorem loadAnchors_ids : ∀ (as : List Anchor) (ol : Dict) (as' : List Anchor) (ol' : Dict),
    loadAnchors as ol = some (as', ol') → as'.filterMap (·.ident) = as.filterMap (·.ident) := by
  intro as ol as' ol' h
  rw [loadAnchors_gen] at h
  exact filterMap_of_map_eq (loadGen_map Anchor.ident (by intros; rfl) h)

theorem loadComponents_ids : ∀ (as : List Component) (ol : Dict) (as' : List Component) (ol' : Dict),
    loadComponents as ol = some (as', ol') → as'.filterMap (·.ident) = as.filterMap (·.ident) := by
  intro as ol as' ol' h
  rw [loadComponents_gen] at h
  exact filterMap_of_map_eq (loadGen_map Component.ident (by intros; rfl) h)

theorem loadGuidelines_ids : ∀ (as : List Guideline) (ol : Dict) (as' : List Guideline) (ol' : Dict),
    loadGuidelines as ol = some (as', ol') →
    as'.filterMap (·.ident) = as.filterMap (·.ident) ∧ (∀ x, x ∈ as' → ∃ y, y ∈ as ∧ x.line = y.line) := by
  intro as ol as' ol' h
  rw [loadGuidelines_gen] at h
  exact ⟨filterMap_of_map_eq (loadGen_map Guideline.ident (by intros; rfl) h),
    fun x hx => exists_of_map_eq (loadGen_map Guideline.line (by intros; rfl) h) hx⟩

theorem loadPoints_ids : ∀ (as : List Point) (ol : Dict) (as' : List Point) (ol' : Dict),
    loadPoints as ol = some (as', ol') →
    as'.filterMap (·.ident) = as.filterMap (·.ident) ∧ as'.map toPt = as.map toPt := by
  intro as ol as' ol' h
  rw [loadPoints_gen] at h
  exact ⟨filterMap_of_map_eq (loadGen_map Point.ident (by intros; rfl) h), loadGen_map toPt (by intros; rfl) h⟩

theorem loadContours_ids : ∀ (cs : List Contour) (ol : Dict) (cs' : List Contour) (ol' : Dict),
    loadContours cs ol = some (cs', ol') →
    cs'.flatMap cIds = cs.flatMap cIds ∧
    (∀ x, x ∈ cs' → ∃ y, y ∈ cs ∧ x.points.map toPt = y.points.map toPt) := by
  intro cs ol
  fun_induction loadContours cs ol with
  | case1 => rintro _ _ ⟨⟩; exact ⟨rfl, nofun⟩
  | case5 c r ol l ol1 _ ps ol2 hp r' ol3 hr ih =>
    rintro _ _ ⟨⟩
    obtain ⟨i1, i2⟩ := ih _ _ hr
    obtain ⟨p1, p2⟩ := loadPoints_ids _ _ _ _ hp
    refine ⟨by simp [List.flatMap_cons, i1, cIds, p1], fun x hx => ?_⟩
    rcases List.mem_cons.1 hx with rfl | hx
    · exact ⟨c, List.mem_cons_self, p2⟩
    · obtain ⟨y, hy, hl⟩ := i2 x hx
      exact ⟨y, List.mem_cons_of_mem _ hy, hl⟩
  | _ => nofun

def AllDicts (ol : Dict) : Prop := ∀ e, e ∈ ol → ∃ d, e.2 = PV.dict d

theorem allDicts_erase {k : Str} {ol : Dict} (h : AllDicts ol) : AllDicts (dictErase k ol) :=
  fun e he => h e (List.mem_filter.1 he).1

theorem transferLib_ok {id : Option Str} {ol : Dict} (h : AllDicts ol) :
    ∃ l ol', transferLib id ol = some (l, ol') ∧ AllDicts ol' := by
  cases id with
  | none => exact ⟨none, ol, rfl, h⟩
  | some i =>
    cases hg : dictGet i ol with
    | none => exact ⟨none, ol, by simp [transferLib, hg], h⟩
    | some v =>
      obtain ⟨d, hd⟩ := h _ (dictGet_is.mem hg)
      simp only at hd
      subst hd
      exact ⟨some d, dictErase i ol, by simp [transferLib, hg], allDicts_erase h⟩

theorem loadGen_ok {α : Type} (id : α → Option Str) (setLib : α → Option Dict → α) :
    ∀ (xs : List α) (ol : Dict), AllDicts ol → ∃ r ol', loadGen id setLib xs ol = some (r, ol') ∧ AllDicts ol' := by
  intro xs
  induction xs with
  | nil => intro ol h; exact ⟨[], ol, rfl, h⟩
  | cons a r ih =>
    intro ol h
    obtain ⟨l, ol1, h1, a1⟩ := transferLib_ok (id := id a) h
    obtain ⟨r', ol2, h2, a2⟩ := ih ol1 a1
    exact ⟨setLib a l :: r', ol2, by simp [loadGen, h1, h2], a2⟩

theorem loadContours_ok : ∀ (cs : List Contour) (ol : Dict), AllDicts ol →
    ∃ r ol', loadContours cs ol = some (r, ol') ∧ AllDicts ol' := by
  intro cs
  induction cs with
  | nil => intro ol h; exact ⟨[], ol, rfl, h⟩
  | cons c r ih =>
    intro ol h
    obtain ⟨l, ol1, h1, a1⟩ := transferLib_ok (id := c.ident) h
    obtain ⟨ps, ol2, h2, a2⟩ := loadGen_ok (·.ident) (fun (a : Point) l => { a with lib := l }) c.points ol1 a1
    obtain ⟨r', ol3, h3, a3⟩ := ih ol2 a2
    exact ⟨{ c with lib := l, points := ps } :: r', ol3, by simp [loadContours, h1, loadPoints_gen, h2, h3], a3⟩

theorem loadObjectLibs_ok {g : Glyph}
    (h : ∀ v, dictGet objectLibsKey g.lib = some v → ∃ ol, v = PV.dict ol ∧ AllDicts ol) :
    ∃ g', loadObjectLibs g = .ok g' := by
  unfold loadObjectLibs
  cases hg : dictGet objectLibsKey g.lib with
  | none => exact ⟨g, rfl⟩
  | some v =>
    obtain ⟨ol, rfl, ha⟩ := h v hg
    obtain ⟨as, o1, h1, a1⟩ := loadGen_ok (·.ident) (fun (a : Anchor) l => { a with lib := l }) g.anchors ol ha
    obtain ⟨gs, o2, h2, a2⟩ := loadGen_ok (·.ident) (fun (a : Guideline) l => { a with lib := l }) g.guidelines o1 a1
    obtain ⟨cs, o3, h3, a3⟩ := loadContours_ok g.contours o2 a2
    obtain ⟨ks, o4, h4, _⟩ := loadGen_ok (·.ident) (fun (a : Component) l => { a with lib := l }) g.components o3 a3
    exact ⟨{ g with lib := dictErase objectLibsKey g.lib, anchors := as, guidelines := gs, contours := cs, components := ks },
      by simp [loadAnchors_gen, loadGuidelines_gen, loadComponents_gen, h1, h2, h3, h4]⟩

structure NoObjectLibs (g : Glyph) : Prop where
  anchors : ∀ a, a ∈ g.anchors → a.lib = none
  guidelines : ∀ a, a ∈ g.guidelines → a.lib = none
  contours : ∀ c, c ∈ g.contours → c.lib = none ∧ ∀ p, p ∈ c.points → p.lib = none
  components : ∀ a, a ∈ g.components → a.lib = none

def keys (d : Dict) : List Str := d.map (·.1)

theorem dictGet_none_iff (k : Str) (d : Dict) : dictGet k d = none ↔ k ∉ keys d := dictGet_is.eq_none_iff

theorem dictErase_of_not_mem {k : Str} {d : Dict} (h : k ∉ keys d) : dictErase k d = d :=
  List.filter_eq_self.2 fun e he => by simpa using fun hk => h (List.mem_map.2 ⟨e, he, hk⟩)

theorem dictInsert_fresh {k : Str} {v : PV} {d : Dict} (h : k ∉ keys d) : dictInsert k v d = d ++ [(k, v)] := by
  simp [dictInsert, (dictGet_none_iff k d).2 h]

def ent (id : Option Str) (lib : Option Dict) : Dict :=
  match lib, id with
  | some l, some i => [(i, .dict l)]
  | _, _ => []

theorem keys_ent {id : Option Str} {lib : Option Dict} {k : Str} (h : k ∈ keys (ent id lib)) : id = some k := by
  cases lib <;> cases id <;> simp [ent, keys] at h
  rw [h]

theorem dumpOne_eq {id : Option Str} {lib : Option Dict} {acc : Dict} (h : ∀ i, id = some i → i ∉ keys acc) :
    dumpOne id lib acc = acc ++ ent id lib := by
  cases lib <;> cases id <;> simp [dumpOne, ent]
  exact dictInsert_fresh (h _ rfl)

theorem keys_append (a b : Dict) : keys (a ++ b) = keys a ++ keys b := by simp [keys]

/-- identifier and lib of every object, in the order of `dump_object_libs` -/
def objs (g : Glyph) : List (Option Str × Option Dict) :=
  g.anchors.map (fun a => (a.ident, a.lib)) ++ g.guidelines.map (fun a => (a.ident, a.lib)) ++
  g.contours.flatMap (fun c => (c.ident, c.lib) :: c.points.map (fun p => (p.ident, p.lib))) ++
  g.components.map (fun a => (a.ident, a.lib))

def flatEnts (os : List (Option Str × Option Dict)) : Dict := os.flatMap fun o => ent o.1 o.2

theorem filterMap_ident_cons {α : Type} (id : α → Option Str) (a : α) (r : List α) :
    (a :: r).filterMap id = (id a).toList ++ r.filterMap id := by
  cases h : id a <;> simp [h]

theorem dumpObjectLibs_objs (g : Glyph) :
    dumpObjectLibs g = (objs g).foldl (fun acc o => dumpOne o.1 o.2 acc) [] := by
  simp only [dumpObjectLibs, objs, List.foldl_append, List.foldl_map, List.foldl_flatMap, List.foldl_cons]

theorem foldl_dumpOne : ∀ (os : List (Option Str × Option Dict)) (acc : Dict),
    (∀ i, i ∈ os.filterMap (·.1) → i ∉ keys acc) → (os.filterMap (·.1)).Nodup →
    os.foldl (fun acc o => dumpOne o.1 o.2 acc) acc = acc ++ flatEnts os
  | [], acc, _, _ => (List.append_nil acc).symm
  | o :: r, acc, hfr, hnd => by
    rw [filterMap_ident_cons] at hfr hnd
    obtain ⟨n1, n2, n3⟩ := List.nodup_append.1 hnd
    rw [List.foldl_cons, dumpOne_eq (fun i hi => hfr i (by simp [hi])), foldl_dumpOne r _ ?_ n2, List.append_assoc]
    · rfl
    · intro i hi
      rw [keys_append, List.mem_append, not_or]
      exact ⟨hfr i (List.mem_append_right _ hi), fun hk => n3 i (by simp [keys_ent hk]) i hi rfl⟩

theorem objs_ids (g : Glyph) : (objs g).filterMap (·.1) = Spec.glyphIdents g := by
  simp only [objs, Spec.glyphIdents, List.filterMap_append, List.filterMap_map, List.filterMap_flatMap,
    filterMap_ident_cons, Function.comp_def]

theorem dictErase_cons_self {k : Str} {v : PV} {d : Dict} (h : k ∉ keys d) : dictErase k ((k, v) :: d) = d := by
  rw [dictErase, List.filter_cons, ← dictErase, dictErase_of_not_mem h]; simp

theorem transferLib_ent {id : Option Str} {lib : Option Dict} {tail : Dict}
    (hl : lib.isSome = true → id.isSome = true) (hfr : ∀ i, id = some i → i ∉ keys tail) :
    transferLib id (ent id lib ++ tail) = some (lib, tail) := by
  cases id with
  | none =>
    cases lib with
    | none => simp [transferLib, ent]
    | some l => simp at hl
  | some i =>
    have hi := hfr i rfl
    cases lib with
    | none => simp [transferLib, ent, (dictGet_none_iff i tail).2 hi]
    | some l => simp [transferLib, ent, dictGet_is.cons_self, dictErase_cons_self hi]

theorem keys_flatEnts {os : List (Option Str × Option Dict)} {k : Str} (h : k ∈ keys (flatEnts os)) :
    k ∈ os.filterMap (·.1) := by
  simp only [flatEnts, keys, List.map_flatMap, List.mem_flatMap] at h
  obtain ⟨o, ho, hk⟩ := h
  exact List.mem_filterMap.2 ⟨o, ho, keys_ent (by simpa [keys] using hk)⟩

theorem dumpObjectLibs_eq {g : Glyph} (hnd : (Spec.glyphIdents g).Nodup) : dumpObjectLibs g = flatEnts (objs g) := by
  rw [dumpObjectLibs_objs, foldl_dumpOne _ [] (fun _ _ => List.not_mem_nil) (objs_ids g ▸ hnd)]
  rfl

theorem transferLib_flat {id : Option Str} {lib : Option Dict} {later : List (Option Str × Option Dict)}
    (hl : lib.isSome = true → id.isSome = true) (hnd : (((id, lib) :: later).filterMap (·.1)).Nodup) :
    transferLib id (flatEnts ((id, lib) :: later)) = some (lib, flatEnts later) := by
  rw [filterMap_ident_cons] at hnd
  obtain ⟨-, -, hdisj⟩ := List.nodup_append.1 hnd
  exact transferLib_ent hl fun i hi hk => hdisj i (by simp [hi]) i (keys_flatEnts hk) rfl

theorem nodup_later {a l : List (Option Str × Option Dict)} (h : ((a ++ l).filterMap (·.1)).Nodup) :
    (l.filterMap (·.1)).Nodup := by
  rw [List.filterMap_append] at h; exact (List.nodup_append.1 h).2.1

theorem nodup_tail {o : Option Str × Option Dict} {l : List (Option Str × Option Dict)}
    (h : ((o :: l).filterMap (·.1)).Nodup) : (l.filterMap (·.1)).Nodup := nodup_later (a := [o]) h

/-- `p a`: the object `a` as parsed, its lib stripped; the dictionary holds the entries of `xs` first, then those of the objects
    still to come (`later`) -/
theorem loadGen_flat {α : Type} (id : α → Option Str) (lib : α → Option Dict) (setLib : α → Option Dict → α)
    (p : α → α) (hp : ∀ a, id (p a) = id a) (later : List (Option Str × Option Dict)) :
    ∀ xs : List α, ((xs.map (fun a => (id a, lib a)) ++ later).filterMap (·.1)).Nodup →
      (∀ a, a ∈ xs → (lib a).isSome = true → (id a).isSome = true) →
      loadGen id setLib (xs.map p) (flatEnts (xs.map (fun a => (id a, lib a)) ++ later)) =
        some (xs.map (fun a => setLib (p a) (lib a)), flatEnts later)
  | [], _, _ => rfl
  | a :: r, hnd, hl => by
    simp only [List.map_cons, List.cons_append] at hnd ⊢
    have ht := transferLib_flat (hl a List.mem_cons_self) hnd
    have ih := loadGen_flat id lib setLib p hp later r (nodup_tail hnd) fun b hb => hl b (List.mem_cons_of_mem _ hb)
    simp only [loadGen, hp, ht, ih]

def nPoint (p : Point) : Point := { pPoint p with lib := p.lib }
def nContour (c : Contour) : Contour := { points := c.points.map nPoint, ident := c.ident, lib := c.lib }
def nAnchor (nc : Color → Color) (a : Anchor) : Anchor := { pAnchor nc a with lib := a.lib }
def nGuideline (nc : Color → Color) (g : Guideline) : Guideline := { pGuideline nc g with lib := g.lib }
def nComponent (k : Component) : Component := { pComponent k with lib := k.lib }

def ContourIdentified (c : Contour) : Prop :=
  (c.lib.isSome = true → c.ident.isSome = true) ∧ ∀ p, p ∈ c.points → p.lib.isSome = true → p.ident.isSome = true

theorem loadContours_flat (later : List (Option Str × Option Dict)) :
    ∀ cs : List Contour,
      ((cs.flatMap (fun c => (c.ident, c.lib) :: c.points.map (fun p => (p.ident, p.lib))) ++ later).filterMap (·.1)).Nodup →
      (∀ c, c ∈ cs → ContourIdentified c) →
      loadContours (cs.map pContour)
          (flatEnts (cs.flatMap (fun c => (c.ident, c.lib) :: c.points.map (fun p => (p.ident, p.lib))) ++ later)) =
        some (cs.map nContour, flatEnts later)
  | [], _, _ => rfl
  | c :: r, hnd, hl => by
    simp only [List.flatMap_cons, List.cons_append, List.append_assoc] at hnd ⊢
    have ht := transferLib_flat (hl c List.mem_cons_self).1 hnd
    have hp := loadGen_flat (·.ident) (·.lib) (fun (a : Point) l => { a with lib := l }) pPoint (fun _ => rfl) _ c.points
      (nodup_tail hnd) (hl c List.mem_cons_self).2
    have ih := loadContours_flat later r (nodup_later (nodup_tail hnd)) fun b hb => hl b (List.mem_cons_of_mem _ hb)
    simp only [List.map_cons, loadContours, pContour, loadPoints_gen, ht, hp, ih]
    simp [nContour, nPoint]

/-- a lib only sits on an object that has an identifier (what the public API guarantees: `replace_lib`) -/
structure LibsIdentified (g : Glyph) : Prop where
  anchors : ∀ a, a ∈ g.anchors → a.lib.isSome = true → a.ident.isSome = true
  guidelines : ∀ a, a ∈ g.guidelines → a.lib.isSome = true → a.ident.isSome = true
  contours : ∀ c, c ∈ g.contours → ContourIdentified c
  components : ∀ a, a ∈ g.components → a.lib.isSome = true → a.ident.isSome = true

theorem ent_nil {id : Option Str} {lib : Option Dict} (hl : lib.isSome = true → id.isSome = true)
    (h : ent id lib = []) : lib = none := by
  cases lib with
  | none => rfl
  | some l =>
    cases id with
    | none => simp at hl
    | some i => simp [ent] at h

theorem dictGet_append_last {k : Str} {v : PV} {d : Dict} (h : k ∉ keys d) : dictGet k (d ++ [(k, v)]) = some v := by
  rw [dictGet_is.append, (dictGet_none_iff k d).2 h]; exact dictGet_is.cons_self

theorem dictErase_append_last {k : Str} {v : PV} {d : Dict} (h : k ∉ keys d) : dictErase k (d ++ [(k, v)]) = d := by
  rw [dictErase, List.filter_append, ← dictErase, dictErase_of_not_mem h]; simp

theorem forall_objs {g : Glyph} {P : Option Str → Option Dict → Prop} : (∀ o ∈ objs g, P o.1 o.2) ↔
    (∀ a ∈ g.anchors, P a.ident a.lib) ∧ (∀ a ∈ g.guidelines, P a.ident a.lib) ∧
    (∀ c ∈ g.contours, P c.ident c.lib ∧ ∀ p ∈ c.points, P p.ident p.lib) ∧ (∀ a ∈ g.components, P a.ident a.lib) := by
  simp only [objs, List.mem_append, List.mem_map, List.mem_flatMap, List.mem_cons]
  constructor
  · exact fun h => ⟨fun a ha => h _ (.inl (.inl (.inl ⟨a, ha, rfl⟩))), fun a ha => h _ (.inl (.inl (.inr ⟨a, ha, rfl⟩))),
      fun c hc => ⟨h _ (.inl (.inr ⟨c, hc, .inl rfl⟩)), fun p hp => h _ (.inl (.inr ⟨c, hc, .inr ⟨p, hp, rfl⟩⟩))⟩,
      fun a ha => h _ (.inr ⟨a, ha, rfl⟩)⟩
  · rintro ⟨hA, hG, hC, hK⟩ o (((⟨a, ha, rfl⟩ | ⟨a, ha, rfl⟩) | ⟨c, hc, rfl | ⟨p, hp, rfl⟩⟩) | ⟨a, ha, rfl⟩)
    · exact hA a ha
    · exact hG a ha
    · exact (hC c hc).1
    · exact (hC c hc).2 p hp
    · exact hK a ha

theorem noObjectLibs_iff {g : Glyph} : NoObjectLibs g ↔ ∀ o ∈ objs g, o.2 = none :=
  Iff.trans ⟨fun h => ⟨h.anchors, h.guidelines, h.contours, h.components⟩, fun ⟨a, b, c, d⟩ => ⟨a, b, c, d⟩⟩
    (forall_objs (P := fun _ l => l = none)).symm

theorem libsIdentified_iff {g : Glyph} : LibsIdentified g ↔ ∀ o ∈ objs g, o.2.isSome = true → o.1.isSome = true :=
  Iff.trans ⟨fun h => ⟨h.anchors, h.guidelines, h.contours, h.components⟩, fun ⟨a, b, c, d⟩ => ⟨a, b, c, d⟩⟩
    (forall_objs (P := fun i l => l.isSome = true → i.isSome = true)).symm

theorem dumpOne_none (id : Option Str) (acc : Dict) : dumpOne id none acc = acc := by
  cases id <;> rfl

theorem dump_empty_of_no_libs {g : Glyph} (h : NoObjectLibs g) : dumpObjectLibs g = [] := by
  refine (dumpObjectLibs_objs g).trans (foldl_keeps (π := id) (fun acc o ho => ?_) [])
  show dumpOne o.1 o.2 acc = acc
  rw [noObjectLibs_iff.1 h o ho, dumpOne_none]

theorem noLibs_of_dump_nil {g : Glyph} (hnd : (Spec.glyphIdents g).Nodup) (hl : LibsIdentified g)
    (h : dumpObjectLibs g = []) : NoObjectLibs g := by
  have hnil : ∀ o ∈ objs g, ent o.1 o.2 = [] := List.flatMap_eq_nil_iff.1 ((dumpObjectLibs_eq hnd).symm.trans h)
  exact noObjectLibs_iff.2 fun o ho => ent_nil (libsIdentified_iff.1 hl o ho) (hnil o ho)

theorem NoObjectLibs.identified {g : Glyph} (h : NoObjectLibs g) : LibsIdentified g :=
  libsIdentified_iff.2 fun o ho hs => by simp [noObjectLibs_iff.1 h o ho] at hs

theorem nForms_of_noLibs {nc : Color → Color} {g : Glyph} (h : NoObjectLibs g) :
    g.anchors.map (nAnchor nc) = g.anchors.map (pAnchor nc) ∧ g.guidelines.map (nGuideline nc) = g.guidelines.map (pGuideline nc) ∧
    g.contours.map nContour = g.contours.map pContour ∧ g.components.map nComponent = g.components.map pComponent :=
  ⟨List.map_congr_left fun a ha => by simp [nAnchor, pAnchor, h.anchors a ha],
   List.map_congr_left fun a ha => by simp [nGuideline, pGuideline, h.guidelines a ha],
   List.map_congr_left fun c hc => by
     have hp : c.points.map nPoint = c.points.map pPoint :=
       List.map_congr_left fun p hp => by simp [nPoint, pPoint, (h.contours c hc).2 p hp]
     simp [nContour, pContour, (h.contours c hc).1, hp],
   List.map_congr_left fun a ha => by simp [nComponent, pComponent, h.components a ha]⟩

/-- Despite the name, a statement about `load_object_libs` alone, for ANY glyph `G` whose objects
    are the stripped copies (`pAnchor`, …) and whose lib is `writtenLib g` (the glyph lib plus `public.objectLibs`, not
    re-indented): every lib is put back on its object and exactly the glyph lib is left.  That the parser arrives at such a `G`
    on what the writer produces is `parse_encode` with the guard on the lib text (`roundtrip_of_fixed_lib`, `Props/C02`). -/
theorem encode_then_parse_restores_object_libs {nc : Color → Color} {g : Glyph} (hnd : (Spec.glyphIdents g).Nodup)
    (hl : LibsIdentified g) (hkey : dictGet objectLibsKey g.lib = none) (G : Glyph)
    (hA : G.anchors = g.anchors.map (pAnchor nc)) (hGu : G.guidelines = g.guidelines.map (pGuideline nc))
    (hC : G.contours = g.contours.map pContour) (hK : G.components = g.components.map pComponent)
    (hL : G.lib = writtenLib g) :
    loadObjectLibs G = .ok { G with
      lib := g.lib
      anchors := g.anchors.map (nAnchor nc)
      guidelines := g.guidelines.map (nGuideline nc)
      contours := g.contours.map nContour
      components := g.components.map nComponent } := by
  have hd := dumpObjectLibs_eq hnd
  have hk : objectLibsKey ∉ keys g.lib := (dictGet_none_iff _ _).1 hkey
  by_cases he : (dumpObjectLibs g).isEmpty = true
  · obtain ⟨e1, e2, e3, e4⟩ := nForms_of_noLibs (nc := nc) (noLibs_of_dump_nil hnd hl (by simpa using he))
    have hlib : g.lib = G.lib := by rw [hL]; simp [writtenLib, he]
    rw [hlib] at hkey
    simp only [loadObjectLibs, hkey, e1, e2, e3, e4, ← hA, ← hGu, ← hC, ← hK, hlib]
  · have hw : writtenLib g = g.lib ++ [(objectLibsKey, .dict (dumpObjectLibs g))] := by
      simp only [writtenLib, he]
      exact dictInsert_fresh hk
    have hget : dictGet objectLibsKey G.lib = some (.dict (dumpObjectLibs g)) := by
      rw [hL, hw]; exact dictGet_append_last hk
    have hers : dictErase objectLibsKey G.lib = g.lib := by
      rw [hL, hw]; exact dictErase_append_last hk
    -- the objects in dump order; each loader finds its own first
    have n0 : ((objs g).filterMap (·.1)).Nodup := objs_ids g ▸ hnd
    simp only [objs, List.append_assoc] at n0 hd
    have n1 := nodup_later n0
    have n2 := nodup_later n1
    have n3 := nodup_later n2
    have l1 := loadGen_flat (·.ident) (·.lib) (fun (a : Anchor) l => { a with lib := l }) (pAnchor nc) (fun _ => rfl) _
      g.anchors n0 hl.anchors
    have l2 := loadGen_flat (·.ident) (·.lib) (fun (a : Guideline) l => { a with lib := l }) (pGuideline nc) (fun _ => rfl) _
      g.guidelines n1 hl.guidelines
    have l3 := loadContours_flat _ g.contours n2 hl.contours
    have l4 := loadGen_flat (·.ident) (·.lib) (fun (a : Component) l => { a with lib := l }) pComponent (fun _ => rfl) []
      g.components (by simpa using n3) hl.components
    simp only [List.append_nil] at l4
    -- `hd`: the dictionary is `flatEnts` of the four groups in this association, so each loader hands the next what `l1` … `l4` expect
    simp only [loadObjectLibs, hget, hers, hA, hGu, hC, hK, hd, loadAnchors_gen, loadGuidelines_gen, loadComponents_gen,
      l1, l2, l3, l4]
    rfl

end Glif
