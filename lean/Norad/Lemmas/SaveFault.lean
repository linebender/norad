import Norad.Model.SaveFault
import Norad.Lemmas.SafePlan
/-! frame lemma for a prefix of the normal plan followed by an injected failure -/
namespace FontSave
open AbsFS

variable {β : Type}

theorem injectFault_map (ft : Fault) (es : List (NEff β)) :
    injectFault ft (es.map NEff.toEff) =
      (if ft.pos < es.length then es.take ft.pos ++ [NEff.fail (.io ft.err)] else es).map NEff.toEff := by
  unfold injectFault
  by_cases h : ft.pos < es.length
  · simp [h, List.map_take, NEff.toEff]
  · simp [h]

theorem planN_prefix_frame (cfg : Cfg β) (f : AFont β) (d i : List (Path.P × β)) (t : APath)
    (hd : ∀ kb ∈ d, safeRel kb.1 = true) (g : FS β) (k : Nat) (x : SaveErr) :
    ∀ q, ¬ t <+: q → lookup (runN ((planN cfg f d i t).take k ++ [NEff.fail x]) g).2 q = lookup g q := by
  cases k with
  | zero => exact fun _ _ => rfl
  | succ k =>
    rw [planN, List.take_succ_cons, List.cons_append]
    refine runN_mkdir_frame t _ (fun e he => ?_) g
    rcases List.mem_append.mp he with h | h
    · exact planRestN_under cfg f d i t hd e (List.mem_of_mem_take h)
    · exact List.mem_singleton.mp h ▸ Or.inl rfl

end FontSave
