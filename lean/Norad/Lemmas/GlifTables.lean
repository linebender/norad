import Norad.Lemmas.KeyChain
import Norad.Lemmas.GlifStep
import Norad.Lemmas.StrCode
/-!
The tables the model's `if`-chains over attribute and element names implement, and, for ALL strings: a name outside a table
is refused by the function the table belongs to, the format-1 tables are refused as such (`v1_refusals`), which versions pass
(`gFinish_ok_iff`).  `onceByFlag`, `onceByContent` and the `lib` entry of `bodyStartNames` have no such theorem here: what the
model does for those names is stated name by name in `Props/C12.lean` (`advance_dup`, … `note_dup`).  The `source_*`
theorems of `Props/C12.lean` compare all these tables with what `tools/extract_glif_parser.py` reads out of
`src/glyph/parse.rs` on every run.
-/
namespace Glif

def gKeys : List Str := ["name".toList, "format".toList, "formatMinor".toList]
def advKeys : List Str := ["width".toList, "height".toList]
def uniKeys : List Str := [sHex]
def aKeys : List Str := ["x".toList, "y".toList, "name".toList, "color".toList, "identifier".toList]
def guKeys : List Str := ["x".toList, "y".toList, "angle".toList, "name".toList, "color".toList, "identifier".toList]
def tKeys : List Str :=
  ["xScale".toList, "xyScale".toList, "yxScale".toList, "yScale".toList, "xOffset".toList, "yOffset".toList]
def iKeys : List Str := tKeys ++ ["color".toList, "fileName".toList]
def cKeys : List Str := tKeys ++ ["base".toList, "identifier".toList]
def pKeys : List Str := ["x".toList, "y".toList, "name".toList, "type".toList, "smooth".toList, "identifier".toList]
def ctKeys : List Str := [sIdentifier]

/- The key list of each element occurs three times, each tied to the model by its own proof: here and in `xKeyNames`
   (`KeyChain`) it must be the `if`-chain of `xKeyOf` in order or the term does not typecheck; `xKeyTable` (`GlifAttrs`) has
   the same keys in the row order of `Spec.attrTable`, by an evaluated check. -/
theorem gKeyOf_isSome (s : Str) : (gKeyOf s).isSome = gKeys.contains s :=
  keyChain_isSome gKeyName [.name, .format, .formatMinor] s
theorem advKeyOf_isSome (s : Str) : (advKeyOf s).isSome = advKeys.contains s :=
  keyChain_isSome advKeyName [.width, .height] s
theorem aKeyOf_isSome (s : Str) : (aKeyOf s).isSome = aKeys.contains s :=
  keyChain_isSome aKeyName [.x, .y, .name, .color, .ident] s
theorem guKeyOf_isSome (s : Str) : (guKeyOf s).isSome = guKeys.contains s :=
  keyChain_isSome guKeyName [.x, .y, .angle, .name, .color, .ident] s
theorem pKeyOf_isSome (s : Str) : (pKeyOf s).isSome = pKeys.contains s :=
  keyChain_isSome pKeyName [.x, .y, .name, .typ, .smooth, .ident] s
theorem tKeyOf_isSome (s : Str) : (tKeyOf s).isSome = tKeys.contains s :=
  keyChain_isSome tKeyName [.xScale, .xyScale, .yxScale, .yScale, .xOffset, .yOffset] s
theorem iKeyOf_isSome (s : Str) : (iKeyOf s).isSome = iKeys.contains s := by
  unfold iKeyOf iKeys
  rw [List.contains_append, ← tKeyOf_isSome]
  cases tKeyOf s with
  | some k => rfl
  | none => exact keyChain_isSome iKeyName [.color, .fileName] s
theorem cKeyOf_isSome (s : Str) : (cKeyOf s).isSome = cKeys.contains s := by
  unfold cKeyOf cKeys
  rw [List.contains_append, ← tKeyOf_isSome]
  cases tKeyOf s with
  | some k => rfl
  | none => exact keyChain_isSome cKeyName [.base, .ident] s

theorem eq_none_of_not_contains {α : Type} {o : Option α} {T : List Str} {s : Str} (ho : o.isSome = T.contains s)
    (h : T.contains s = false) : o = none :=
  Option.isNone_iff_eq_none.1 (Option.isSome_eq_false_iff.1 (ho.trans h))

theorem step_refuses_unknown (rd : Str → Option Nat) (ver : Nat) (seen : List Str) (a : Attr) :
    (gKeys.contains a.1 = false → ∀ acc, gStep acc a = none) ∧
    (advKeys.contains a.1 = false → ∀ acc, advStep rd acc a = none) ∧
    (uniKeys.contains a.1 = false → ∀ acc, uniStep acc a = none) ∧
    (aKeys.contains a.1 = false → ∀ acc, aStep rd ver seen acc a = none) ∧
    (guKeys.contains a.1 = false → ∀ acc, guStep rd ver seen acc a = none) ∧
    (iKeys.contains a.1 = false → ∀ acc, iStep rd acc a = none) ∧
    (pKeys.contains a.1 = false → ∀ acc, pStep rd ver seen acc a = none) ∧
    (cKeys.contains a.1 = false → ∀ acc, cStep rd ver seen acc a = none) ∧
    (ctKeys.contains a.1 = false → ∀ acc, ctStep ver seen acc a = none) := by
  refine ⟨?_, ?_, ?_, ?_, ?_, ?_, ?_, ?_, ?_⟩
  · intro h acc; simp only [gStep, eq_none_of_not_contains (gKeyOf_isSome a.1) h]
  · intro h acc; simp only [advStep, eq_none_of_not_contains (advKeyOf_isSome a.1) h]
  · intro h acc; simp [uniKeys] at h; simp [uniStep, h]
  · intro h acc; simp only [aStep, eq_none_of_not_contains (aKeyOf_isSome a.1) h]
  · intro h acc; simp only [guStep, eq_none_of_not_contains (guKeyOf_isSome a.1) h]
  · intro h acc; simp only [iStep, eq_none_of_not_contains (iKeyOf_isSome a.1) h]
  · intro h acc; simp only [pStep, eq_none_of_not_contains (pKeyOf_isSome a.1) h]
  · intro h acc; simp only [cStep, eq_none_of_not_contains (cKeyOf_isSome a.1) h]
  · intro h acc; simp [ctKeys] at h; by_cases hv : ver = 1 <;> simp [ctStep, h, hv]

/-- `Event::Start` at glyph level (`lib` arrives as `Ev.startLib`) -/
def bodyStartNames : List Str := [sOutline, sLib, sNote]
def outlineStartNames : List Str := [sContour]
def outlineEmptyNames : List Str := [sContour, sComponent]
def contourEmptyNames : List Str := [sPoint]
def v1RefusedStart : List Str := [sNote]
def v1RefusedEmpty : List Str := [sAnchor, sGuideline, sImage]
/-- refused the second time by a flag of the parser state -/
def onceByFlag : List Str := [sOutline, sLib, sAdvance]
/-- refused the second time because the glyph field is already filled (an empty first `note` does not count) -/
def onceByContent : List Str := [sNote, sImage]

def bodyEmptyNames : List Str := [sOutline, sAdvance, sUnicode, sAnchor, sGuideline, sImage]

theorem ne_of_not_contains {l : List Str} {n : Str} (h : l.contains n = false) : ∀ m, m ∈ l → n ≠ m :=
  fun _ hm e => absurd (List.contains_iff_mem.2 (e ▸ hm)) (by rw [h]; exact Bool.false_ne_true)

theorem bodyEmpty_unknown (rd : Str → Option Nat) (s : PS) {n : Str} (a : Option (List Attr))
    (h : bodyEmptyNames.contains n = false) :
    bodyEmpty rd s n a = .error .unexpectedElement := by
  have hn := ne_of_not_contains h
  simp only [bodyEmptyNames, List.mem_cons, List.not_mem_nil, or_false, forall_eq_or_imp, forall_eq] at hn
  obtain ⟨h1, h2, h3, h4, h5, h6⟩ := hn
  rw [bodyEmpty_eq, if_neg h1, if_neg h2, if_neg h3, if_neg h4, if_neg h5, if_neg h6]

/-- `bodyStartNames` without `lib`, which `bodyStart` never sees (it arrives as `Ev.startLib`) -/
theorem bodyStart_unknown (s : PS) {n : Str} (h : [sOutline, sNote].contains n = false) :
    bodyStart s n = .error .unexpectedElement := by
  have hn := ne_of_not_contains h
  rw [bodyStart, if_neg (hn _ List.mem_cons_self), if_neg (hn _ (List.mem_cons_of_mem _ List.mem_cons_self))]

theorem stepOutline_unknown (rd : Str → Option Nat) (s : PS) (ob : OB) {n : Str} (a : Option (List Attr)) :
    (outlineStartNames.contains n = false → stepOutline rd s ob (.start n a) = .error .unexpectedElement) ∧
    (outlineEmptyNames.contains n = false → stepOutline rd s ob (.empty n a) = .error .unexpectedElement) := by
  constructor <;> intro h <;> have hn := ne_of_not_contains h
  · rw [stepOutline_start, if_neg (hn _ List.mem_cons_self)]
  · rw [stepOutline_empty, if_neg (hn _ List.mem_cons_self), if_neg (hn _ (List.mem_cons_of_mem _ List.mem_cons_self))]

theorem stepContour_unknown (rd : Str → Option Nat) (s : PS) (ob : OB) (cid : Option Str) (pts : List Point) {n : Str}
    (a : Option (List Attr)) :
    (contourEmptyNames.contains n = false → stepContour rd s ob cid pts (.empty n a) = .error .unexpectedElement) ∧
    stepContour rd s ob cid pts (.start n a) = .error .unexpectedElement :=
  ⟨fun h => by rw [stepContour_empty, if_neg (ne_of_not_contains h _ List.mem_cons_self)], rfl⟩

theorem v1_refusals (rd : Str → Option Nat) (s : PS) (hv : s.ver = 1) {n : Str} (a : Option (List Attr)) :
    (v1RefusedEmpty.contains n = true → ∃ m, bodyEmpty rd s n a = .error (.unexpectedV1Element m)) ∧
    (v1RefusedStart.contains n = true → ∃ m, bodyStart s n = .error (.unexpectedV1Element m)) := by
  constructor
  · intro h
    simp only [v1RefusedEmpty, List.contains_cons, List.contains_nil, Bool.or_false, Bool.or_eq_true, beq_iff_eq] at h
    rcases h with rfl | rfl | rfl
    · exact ⟨_, by rw [bodyEmpty_anchor, if_pos hv]⟩
    · exact ⟨_, by rw [bodyEmpty_guideline, if_pos hv]⟩
    · exact ⟨_, by rw [bodyEmpty_image, if_pos hv]⟩
  · intro h
    simp only [v1RefusedStart, List.contains_cons, List.contains_nil, Bool.or_false, beq_iff_eq] at h
    subst h
    exact ⟨_, by rw [bodyStart_note, if_pos hv]⟩

def modelVersions : List (Nat × Nat) := [(1, 0), (2, 0)]

theorem gFinish_ok_iff (acc : GlyphAcc) :
    (∃ r, gFinish acc = .ok r) ↔ acc.name.isSome = true ∧ modelVersions.contains (acc.major, acc.minor) = true := by
  unfold gFinish modelVersions
  cases acc.name with
  | none => simp
  | some n =>
    simp only [List.contains_cons, List.contains_nil, Bool.or_false, Bool.or_eq_true, beq_iff_eq, Prod.mk.injEq,
      Option.isSome_some, true_and]
    split
    · simp [*]
    · split <;> simp [*]

/-- the Rust `ErrorKind` variant a model kind stands for (kinds inside one element are erased by the model) -/
def Kind.rustName : Kind → Str
  | .xml => "Xml".toList
  | .wrongFirstElement => "WrongFirstElement".toList
  | .unsupportedVersion => "UnsupportedGlifVersion".toList
  | .glyphAttrs => "(glyph attribute)".toList
  | .duplicateElement _ => "DuplicateElement".toList
  | .unexpectedV1Element _ => "UnexpectedV1Element".toList
  | .unexpectedElement => "UnexpectedElement".toList
  | .missingCloseTag => "MissingCloseTag".toList
  | .unexpectedEof => "UnexpectedEof".toList
  | .badElement _ => "(element)".toList
  | .contour => "(contour)".toList
  | .badLib => "BadLib".toList
  | .libMustBeDictionary => "LibMustBeDictionary".toList
  | .objectLibsMustBeDictionary => "PublicObjectLibsMustBeDictionary".toList
  | .objectLibMustBeDictionary => "ObjectLibMustBeDictionary".toList

def ptRustName : C11.PT → Str
  | .move => "Move".toList
  | .line => "Line".toList
  | .off => "OffCurve".toList
  | .curve => "Curve".toList
  | .qcurve => "QCurve".toList

def stepErrName : StepRes → Option Str
  | .error k => some k.rustName
  | .ok _ => none

def allElementNames : List Str :=
  sGlyph :: (bodyStartNames ++ bodyEmptyNames ++ outlineStartNames ++ outlineEmptyNames ++ contourEmptyNames)
def allAttrNames : List Str := gKeys ++ advKeys ++ uniKeys ++ aKeys ++ guKeys ++ iKeys ++ cKeys ++ pKeys ++ ctKeys
def knownNames : List Str := allElementNames ++ allAttrNames

def lettersOnly (T : List Str) : Bool := T.all (fun n => n.all Char.isAlpha)

def lowerStr (n : Str) : Str := n.map Char.toLower

theorem knownNames_checked : lettersOnly knownNames = true ∧
    knownNames.all (fun a => knownNames.all (fun b => a == b || lowerStr a != lowerStr b)) = true := by
  unfold knownNames allElementNames allAttrNames bodyStartNames bodyEmptyNames outlineStartNames outlineEmptyNames
    contourEmptyNames gKeys advKeys uniKeys aKeys guKeys iKeys cKeys tKeys pKeys ctKeys
    sGlyph sOutline sLib sNote sAdvance sUnicode sAnchor sGuideline sImage sContour sComponent sPoint sHex sIdentifier
  -- both facts read every name: one evaluation, each literal read through `StrCode.chars` (`String.toList` is dear)
  simp only [← StrCode.chars_eq]
  decide +kernel

theorem knownNames_letters : lettersOnly knownNames = true := knownNames_checked.1

theorem not_in_of_nonletter {T : List Str} (hT : lettersOnly T = true) {n : Str} {c : Char} (hc : c ∈ n)
    (hl : c.isAlpha = false) : T.contains n = false := by
  cases h : T.contains n with
  | false => rfl
  | true =>
    have hm : n ∈ T := List.contains_iff_mem.1 h
    have h1 := (List.all_eq_true.1 hT) n hm
    have h2 := (List.all_eq_true.1 h1) c hc
    rw [hl] at h2; cases h2

theorem case_variant_unknown {n n' : Str} (hn : n ∈ knownNames) (hne : n' ≠ n) (hl : lowerStr n' = lowerStr n) :
    knownNames.contains n' = false := by
  cases h : knownNames.contains n' with
  | false => rfl
  | true =>
    have hm : n' ∈ knownNames := List.contains_iff_mem.1 h
    have h1 := (List.all_eq_true.1 ((List.all_eq_true.1 knownNames_checked.2) n' hm)) n hn
    simp only [Bool.or_eq_true, beq_iff_eq, bne_iff_ne, ne_eq] at h1
    rcases h1 with h1 | h1
    · exact absurd h1 hne
    · exact absurd hl h1

end Glif
