import Norad.Base.StrMap
import Norad.Lemmas.Assoc
/-! Lemmas about the association-list vocabulary (`Base/StrMap.lean`). -/
namespace StrMap

variable {β : Type} {k k' u : Str} {v : β} {m : List (Str × β)}

theorem lookup_is : IsLookup (lookup (β := β)) := ⟨fun _ => rfl, fun _ _ _ _ => rfl⟩

theorem lookup_cons_ne {k u : Str} {v : β} {m : List (Str × β)} (h : u ≠ k) :
    lookup k ((u, v) :: m) = lookup k m := if_neg h

theorem lookup_cons_self : lookup k ((k, v) :: m) = some v := if_pos rfl

theorem lookup_eq_none_iff : lookup k m = none ↔ k ∉ keys m := lookup_is.eq_none_iff

theorem hasKey_false_iff : hasKey k m = false ↔ k ∉ keys m := by
  rw [hasKey, Option.isSome_eq_false_iff, Option.isNone_iff_eq_none, lookup_eq_none_iff]

theorem hasKey_iff_mem_keys : hasKey k m = true ↔ k ∈ keys m := by
  rw [← Bool.not_eq_false, hasKey_false_iff, Decidable.not_not]

theorem hasKey_cons : hasKey k ((u, v) :: m) = (decide (u = k) || hasKey k m) := by
  by_cases h : u = k <;> simp [hasKey, lookup, h]

theorem hasKey_cons_of (h : hasKey k m = true) : hasKey k ((u, v) :: m) = true := by
  rw [hasKey_cons, h, Bool.or_true]

theorem lookup_isSome_of_hasKey (h : hasKey k m = true) : ∃ v, lookup k m = some v :=
  Option.isSome_iff_exists.mp h

theorem lookup_mem {k : Str} {v : β} {m : List (Str × β)} (h : lookup k m = some v) : (k, v) ∈ m := lookup_is.mem h

theorem hasKey_false_ne {u k : Str} {m : List (Str × β)} (hu : hasKey u m = false)
    (hk : hasKey k m = true) : u ≠ k := by
  rintro rfl; rw [hu] at hk; cases hk

theorem erase_cons_eq : erase k ((k, v) :: m) = erase k m := by
  simp [erase]

theorem erase_cons_ne (h : k' ≠ k) : erase k ((k', v) :: m) = (k', v) :: erase k m := by
  simp [erase, h]

theorem lookup_erase_self {k : Str} {m : List (Str × β)} : lookup k (erase k m) = none :=
  lookup_is.filter_of_drop (fun _ => by simp) m

theorem lookup_erase_ne (h : k' ≠ k) : lookup k (erase k' m) = lookup k m :=
  lookup_is.filter_of_keep (fun _ => by simpa using h.symm) m

theorem insert_eq_cons_of_absent (h : hasKey k m = false) : insert k v m = (k, v) :: m := by
  refine congrArg _ (List.filter_eq_self.mpr fun e he => ?_)
  have : e.1 ≠ k := fun heq => hasKey_false_iff.mp h (heq ▸ List.mem_map_of_mem (f := (·.1)) he)
  simpa using this

theorem lookup_insert_self : lookup k (insert k v m) = some v := lookup_cons_self

theorem lookup_insert_ne (h : k' ≠ k) : lookup k (insert k' v m) = lookup k m := by
  rw [insert, lookup_cons_ne h, lookup_erase_ne h]

theorem insertPos_perm (x : Str) (l : List Str) : (insertPos x l).Perm (x :: l) := by
  induction l with
  | nil => exact .refl _
  | cons y ys ih =>
    simp only [insertPos]
    split
    · exact (ih.cons y).trans (.swap x y ys)
    · exact .refl _

theorem mem_insertPos {a x : Str} {l : List Str} : a ∈ insertPos x l ↔ a = x ∨ a ∈ l :=
  (insertPos_perm x l).mem_iff.trans List.mem_cons

theorem mem_setInsert {a x : Str} {l : List Str} : a ∈ setInsert x l ↔ a = x ∨ a ∈ l := by
  unfold setInsert
  split
  · rename_i h
    have hx : x ∈ l := by simpa using h
    exact ⟨.inr, fun h' => h'.elim (· ▸ hx) id⟩
  · exact mem_insertPos

theorem sortDedup_cons (x : Str) (l : List Str) : sortDedup (x :: l) = setInsert x (sortDedup l) := rfl

theorem mem_sortDedup {a : Str} {l : List Str} : a ∈ sortDedup l ↔ a ∈ l := by
  induction l with
  | nil => simp [sortDedup]
  | cons x xs ih => rw [sortDedup_cons, mem_setInsert, ih, List.mem_cons]

theorem mem_removeAux {pat : Str} {c : Char} (skip : Nat) (s : Str) (h : c ∈ removeAux pat skip s) : c ∈ s := by
  fun_induction removeAux pat skip s with
  | case1 => exact h
  | case2 skip d cs ih => exact List.mem_cons_of_mem _ (ih h)
  | case3 d cs hp ih => exact List.mem_cons_of_mem _ (ih h)
  | case4 d cs hp ih => exact (List.mem_cons.mp h).elim (· ▸ List.mem_cons_self) fun h' => List.mem_cons_of_mem _ (ih h')

theorem mem_removeAll {pat s : Str} {c : Char} (h : c ∈ removeAll pat s) : c ∈ s :=
  mem_removeAux 0 s h

end StrMap
