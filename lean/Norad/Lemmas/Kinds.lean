import Norad.Lemmas.SaveRun
/-!
Kind tracking: which paths exist after a successful run of normal-form effects, and of which kind (the `Bool` of
`EffPath`): the kinds after a run are the kinds before plus what the effects make (`runN_kinds`).
-/
namespace FontSave
open AbsFS

variable {β : Type}

def kindOf : Node β → Bool
  | .file _ => true
  | .dir => false

def kindAt (fs : FS β) (q : APath) : Option Bool := (node fs q).map kindOf

theorem kindAt_of_lookup_eq {g g' : FS β} {q : APath} (h : lookup g' q = lookup g q) : kindAt g' q = kindAt g q := by
  unfold kindAt node; rw [h]

theorem kindAt_false_iff {g : FS β} {q : APath} : kindAt g q = some false ↔ isDir g q = true := by
  rw [isDir_iff, kindAt]
  rcases node g q with _ | _ | b <;> simp [kindOf]

theorem kindAt_dir {g : FS β} {q : APath} (h : isDir g q = true) : kindAt g q = some false := kindAt_false_iff.2 h

/-- which paths exist, with their kind as in `EffPath` -/
abbrev KRel := APath → Bool → Prop

def kOf (g : FS β) : KRel := fun q k => kindAt g q = some k

/-- the kinds after the effects `es` ran successfully: a union is that state because the effects of a plan only add kinds
    (a write over a file keeps `true`) -/
def addAll (K : KRel) (es : List (NEff β)) : KRel := fun q k => K q k ∨ ∃ e ∈ es, EffPath e q k

theorem addAll_one {K : KRel} {e : NEff β} {q : APath} {k : Bool} : addAll K [e] q k ↔ K q k ∨ EffPath e q k := by
  simp [addAll]

theorem addAll_cons {K : KRel} {e : NEff β} {es : List (NEff β)} {q : APath} {k : Bool} :
    addAll K (e :: es) q k ↔ addAll (addAll K [e]) es q k := by
  simp only [addAll, List.mem_cons, List.not_mem_nil, or_false, exists_eq_or_imp, exists_eq_left, or_assoc]

theorem not_kOf_of_none {g : FS β} {q : APath} {k : Bool} (h : node g q = none) : ¬ kOf g q k := by
  unfold kOf kindAt; rw [h]; exact nofun

theorem noFile_iff {g : FS β} {l : APath} : NoFile g l ↔ OnWay (fun m => ¬ kOf g m true) l := by
  refine forall_congr' fun m => imp_congr_right fun _ => imp_congr_right fun _ => ?_
  show (∀ b, node g m ≠ some (.file b)) ↔ ¬ (node g m).map kindOf = some true
  rcases node g m with _ | _ | b <;> simp [kindOf]

theorem EffPath.kind {e : NEff β} {q : APath} {k : Bool} (h : EffPath e q k) : k = kindOf e.node := by
  cases e with
  | mkdir l => exact h.2
  | write l b => exact h.2
  | mkdirAll l => exact h.2
  | fail x => exact h.elim

theorem runEff_makes_kind {e : NEff β} {g g' : FS β} (h : runEff e.toEff g = (none, g')) {q : APath} {k : Bool}
    (hp : EffPath e q k) : kindAt g' q = some k := by
  rw [kindAt, runEff_node h, NEff.after, if_pos (makes_iff.mpr ⟨k, hp⟩), hp.kind]; rfl

theorem runEff_kinds (e : NEff β) {g g' : FS β} (h : runEff e.toEff g = (none, g')) (q : APath) (k : Bool) :
    kindAt g' q = some k ↔ (kindAt g q = some k ∨ EffPath e q k) := by
  by_cases hc : lookup g' q = lookup g q
  · rw [kindAt_of_lookup_eq hc]
    exact ⟨Or.inl, fun hk => hk.elim id fun hp => kindAt_of_lookup_eq hc ▸ runEff_makes_kind h hp⟩
  · obtain ⟨hq0, ⟨k', hk'⟩, _, hold⟩ := runEff_changes e g q (by rwa [h])
    have hk'' := runEff_makes_kind h hk'
    constructor
    · intro hk
      rw [hk''] at hk
      cases hk
      exact Or.inr hk'
    · rintro (hk | hk)
      · -- only a plain file can have been overwritten
        rcases hold with hn | ⟨hnd, b, rfl⟩
        · rw [kindAt, hn] at hk; cases hk
        · rw [hk'', hk'.2]
          cases hn : node g q with
          | none => rw [kindAt, hn] at hk; cases hk
          | some n =>
            cases n with
            | dir => rw [isDir, hn] at hnd; cases hnd
            | file c => rw [kindAt, hn] at hk; exact hk
      · exact runEff_makes_kind h hk

theorem runN_kinds (es : List (NEff β)) :
    ∀ {g g' : FS β}, runN es g = (none, g') → ∀ q k, kOf g' q k ↔ addAll (kOf g) es q k := by
  induction es with
  | nil =>
    intro g g' h q k
    cases h
    simp [addAll]
  | cons e r ih =>
    intro g g' h q k
    obtain ⟨g2, h1, h2⟩ := runN_cons_ok.mp h
    exact (ih h2 q k).trans ((or_congr ((runEff_kinds e h1 q k).trans (addAll_one (K := kOf g)).symm) Iff.rfl).trans
      addAll_cons.symm)

theorem runN_no_fail (es : List (NEff β)) :
    ∀ {g g' : FS β}, runN es g = (none, g') → ∀ x, NEff.fail x ∉ es := by
  induction es with
  | nil => intro g g' _ x hx; cases hx
  | cons e r ih =>
    intro g g' h x hx
    obtain ⟨g2, h1, h2⟩ := runN_cons_ok.mp h
    rcases List.mem_cons.mp hx with rfl | hx
    · exact runEff_eq_ok.mp h1
    · exact ih h2 x hx

end FontSave
