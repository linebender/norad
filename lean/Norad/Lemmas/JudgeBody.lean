import Norad.Lemmas.JudgeNested
import Norad.Lemmas.GlifTables
import Norad.Lemmas.ObjectLibs
/-!
# One item of the glyph body

`CleanState ver pre s` is the exact parser state after the clean items `pre`.  From such a state a clean item that fits the
prefix is read, to the state of the prefix extended by it (`item_reach`); an item that is `BodyBad` — the reasons for which
`parse_body` of `src/glyph/parse.rs` refuses the next item, in the model's terms — makes the parse fail (`bodybad_rejected`).
`HardFlag` is a part of `BodyBad` that does not depend on what stands before the item; it is not all of that part
(`BodyBad.attrSyntax`, `.v1NoteElem`, `.libElem` do not depend on it either).  From `judge`'s own clauses the next item is one
or the other: `BodyBad`, or it fits (`item_decide`), as for the children of an outline and of a contour.
-/
namespace Glif
open Spec

section
variable {rd : Str → Option Nat}

def NShaped : NItem → Prop
  | .text none => False
  | _ => True

def IShaped : Item → Prop
  | .elem e => NodupAttrs e.attrs ∧ (if e.name = sNote then e.selfClosed = false else e.selfClosed = true)
  | .outline _ sc kids => (∀ k, k ∈ kids → OShaped k) ∧ (sc = true → kids = [])
  | .lib _ _ inner => ∀ e, e ∈ inner → libSkips e = true
  | .note _ kids => ∀ k, k ∈ kids → NShaped k
  | .comment => True

/-- `public.objectLibs`, if present, is a dictionary of dictionaries -/
def LibOK (l : Dict) : Prop := ∀ v, dictGet objectLibsKey l = some v → ∃ ol, v = PV.dict ol ∧ AllDicts ol

/-- (not used: the proofs carry `CleanState`; so `BodyStep`, `BodyRun`) -/
structure BodyLow (s' : PS) (ids : List Str) (nm : Option Str) : Prop where
  seen : ∀ i, i ∈ ids → i ∈ s'.seen
  adv : nm = some sAdvance → s'.seenAdvance = true
  outline : nm = some sOutline → s'.seenOutline = true
  lib : nm = some sLib → s'.seenLib = true
  image : nm = some sImage → s'.g.image.isSome = true

def noteWithText : Item → Prop
  | .note _ kids => ∃ t, NItem.text (some t) ∈ kids
  | _ => False

structure BodyStep (s s' : PS) (ids : List Str) (nm : Option Str) : Prop where
  mode : s'.mode = .body
  ver : s'.ver = s.ver
  seen : ∀ i, i ∈ s'.seen → i ∈ s.seen ∨ i ∈ ids
  adv : s'.seenAdvance = true → s.seenAdvance = true ∨ nm = some sAdvance
  outline : s'.seenOutline = true → s.seenOutline = true ∨ nm = some sOutline
  lib : s'.seenLib = true → s.seenLib = true ∨ nm = some sLib
  note : s'.g.note.isSome = true → s.g.note.isSome = true ∨ nm = some sNote
  image : s'.g.image.isSome = true → s.g.image.isSome = true ∨ nm = some sImage
  low : BodyLow s' ids nm

theorem lib_skip_reach {v : LibV} : ∀ (inner : List Ev) (s : PS), s.mode = .lib v →
    (∀ e, e ∈ inner → libSkips e = true) → Reach rd s inner s
  | [], s, _, _ => Reach.nil s
  | e :: r, s, hm, h => by
    exact Reach.cons (step_lib_skip hm (h e List.mem_cons_self)) (lib_skip_reach r s hm (fun x hx => h x (List.mem_cons_of_mem _ hx)))

theorem note_kids_reach : ∀ (kids : List NItem) (s : PS), s.mode = .note → (∀ k, k ∈ kids → NShaped k) →
    ∃ nt, Reach rd s (kids.flatMap NItem.evs) { s with g := { s.g with note := nt } } ∧
      ((s.g.note.isSome = true ∨ ∃ t, NItem.text (some t) ∈ kids) → nt.isSome = true)
  | [], s, _, _ => ⟨s.g.note, Reach.nil s, fun h => h.elim id (fun ⟨t, ht⟩ => by cases ht)⟩
  | k :: r, s, hm, h => by
    have skip : ∀ e, NItem.evs k = [e] → step rd s e = .ok (.inl s) → (∀ t, k ≠ .text (some t)) →
        ∃ nt, Reach rd s ((k :: r).flatMap NItem.evs) { s with g := { s.g with note := nt } } ∧
          ((s.g.note.isSome = true ∨ ∃ t, NItem.text (some t) ∈ k :: r) → nt.isSome = true) := by
      intro e he h1 hk
      obtain ⟨nt, hr, hlo⟩ := note_kids_reach r s hm (fun x hx => h x (List.mem_cons_of_mem _ hx))
      refine ⟨nt, ?_, fun hh => hlo (hh.imp id fun ⟨t, ht⟩ => ⟨t, (List.mem_cons.1 ht).resolve_left (fun e => hk t e.symm)⟩)⟩
      rw [List.flatMap_cons, he]
      exact Reach.cons h1 hr
    cases k with
    | comment => exact skip .comment rfl (step_comment s) (fun _ e => by cases e)
    | cdata => exact skip .cdata rfl (step_note hm _) (fun _ e => by cases e)
    | text t =>
      cases t with
      | none => exact absurd (h _ List.mem_cons_self) (by simp [NShaped])
      | some t =>
        have h1 := step_text (rd := rd) hm t
        obtain ⟨nt, hr, hlo⟩ := note_kids_reach r { s with g := { s.g with note := some t } } hm
          (fun x hx => h x (List.mem_cons_of_mem _ hx))
        exact ⟨nt, Reach.cons h1 hr, fun _ => hlo (Or.inl rfl)⟩

/-- `Spec.countName` for a list of items: `countName d n = cnt d.items n` by `rfl` -/
def cnt (its : List Item) (n : Str) : Nat := (its.filter (fun i => itemName i == some n)).length

theorem cnt_cons (it : Item) (r : List Item) (n : Str) :
    cnt (it :: r) n = cnt r n + (if itemName it = some n then 1 else 0) := by
  unfold cnt
  by_cases h : itemName it = some n <;> simp [h]

theorem cnt_append (a b : List Item) (n : Str) : cnt (a ++ b) n = cnt a n + cnt b n := by
  simp [cnt, List.filter_append]

structure BodyRun (s s' : PS) (its : List Item) : Prop where
  ver : s'.ver = s.ver
  seen : ∀ i, i ∈ s'.seen ↔ (i ∈ s.seen ∨ i ∈ its.flatMap itemIdents)
  adv : s'.seenAdvance = true ↔ (s.seenAdvance = true ∨ 0 < cnt its sAdvance)
  outline : s'.seenOutline = true ↔ (s.seenOutline = true ∨ 0 < cnt its sOutline)
  lib : s'.seenLib = true ↔ (s.seenLib = true ∨ 0 < cnt its sLib)
  image : s'.g.image.isSome = true ↔ (s.g.image.isSome = true ∨ 0 < cnt its sImage)
  note : s'.g.note.isSome = true → (s.g.note.isSome = true ∨ 0 < cnt its sNote)
  noteLow : (s.g.note.isSome = true ∨ ∃ it, it ∈ its ∧ noteWithText it) → s'.g.note.isSome = true

/-- the exact parser state after the clean items `pre`, except for `note`: the field is filled only if a note occurred, and
    certainly if a note with text occurred — the recorded finding `repeated-note-after-empty-note` lives in the gap -/
structure CleanState (ver : Nat) (pre : List Item) (s : PS) : Prop where
  mode : s.mode = .body
  ver : s.ver = ver
  seen : ∀ i, i ∈ s.seen ↔ i ∈ pre.flatMap itemIdents
  adv : s.seenAdvance = true ↔ 0 < cnt pre sAdvance
  outline : s.seenOutline = true ↔ 0 < cnt pre sOutline
  lib : s.seenLib = true ↔ 0 < cnt pre sLib
  image : s.g.image.isSome = true ↔ 0 < cnt pre sImage
  note : s.g.note.isSome = true → 0 < cnt pre sNote
  noteLow : (∃ it, it ∈ pre ∧ noteWithText it) → s.g.note.isSome = true
  libOK : LibOK s.g.lib

theorem cleanState_init (name : Str) (ver : Nat) : CleanState ver [] { g := { name := name }, ver := ver } := by
  constructor <;> simp [cnt, LibOK, dictGet]

theorem CleanState.snoc {ver : Nat} {pre : List Item} {s s' : PS} {it : Item} (hcs : CleanState ver pre s)
    (hm : s'.mode = .body) (hv : s'.ver = s.ver) (hseen : ∀ i, i ∈ s'.seen ↔ i ∈ s.seen ∨ i ∈ itemIdents it)
    (hadv : s'.seenAdvance = (s.seenAdvance || itemName it == some sAdvance))
    (hout : s'.seenOutline = (s.seenOutline || itemName it == some sOutline))
    (hlib : s'.seenLib = (s.seenLib || itemName it == some sLib))
    (himg : s'.g.image.isSome = (s.g.image.isSome || itemName it == some sImage))
    (hnote : s'.g.note.isSome = true → s.g.note.isSome = true ∨ itemName it = some sNote)
    (hnoteLow : s.g.note.isSome = true ∨ noteWithText it → s'.g.note.isSome = true)
    (hl : LibOK s'.g.lib) : CleanState ver (pre ++ [it]) s' := by
  have hc : ∀ n, cnt (pre ++ [it]) n = cnt pre n + (if itemName it = some n then 1 else 0) := fun n => by
    rw [cnt_append, cnt_cons]; simp [cnt]
  have flag : ∀ {n : Str} {b b' : Bool}, (b = true ↔ 0 < cnt pre n) → b' = (b || itemName it == some n) →
      (b' = true ↔ 0 < cnt (pre ++ [it]) n) := by
    intro n b b' h1 h2
    rw [h2, hc, Bool.or_eq_true, h1, beq_iff_eq]
    split <;> simp [*]
  refine ⟨hm, hv.trans hcs.ver, fun i => ?_, flag hcs.adv hadv, flag hcs.outline hout, flag hcs.lib hlib,
    flag hcs.image himg, fun h => ?_, ?_, hl⟩
  · rw [hseen, hcs.seen, List.flatMap_append, List.mem_append, List.flatMap_singleton]
  · rw [hc]
    rcases hnote h with h | h
    · have := hcs.note h; omega
    · rw [if_pos h]; omega
  · rintro ⟨x, hx, hw⟩
    rcases List.mem_append.1 hx with hx | hx
    · exact hnoteLow (.inl (hcs.noteLow ⟨x, hx, hw⟩))
    · exact hnoteLow (.inr (List.mem_singleton.1 hx ▸ hw))

/-- each inequality in both directions and all in one conjunction: the form `simp` takes apart by itself -/
theorem flag_names :
    (sAdvance ≠ sOutline ∧ sOutline ≠ sAdvance) ∧ (sAdvance ≠ sLib ∧ sLib ≠ sAdvance) ∧ (sAdvance ≠ sImage ∧ sImage ≠ sAdvance) ∧
    (sOutline ≠ sLib ∧ sLib ≠ sOutline) ∧ (sOutline ≠ sImage ∧ sImage ≠ sOutline) ∧ (sLib ≠ sImage ∧ sImage ≠ sLib) := by
  decide +kernel

theorem plain_names : ∀ n ∈ [sNote, sUnicode, sAnchor, sGuideline], ∀ m ∈ [sAdvance, sOutline, sLib, sImage], n ≠ m := by
  decide +kernel

theorem itemIdents_elem_nil : ∀ n ∈ [sAdvance, sUnicode, sImage, sNote], ∀ e : Elem, e.name = n → itemIdents (.elem e) = [] := by
  have h : ∀ n ∈ [sAdvance, sUnicode, sImage, sNote], n ≠ sAnchor ∧ n ≠ sGuideline := by decide +kernel
  intro n hn e he
  simp [itemIdents, he, h n hn]

theorem CleanState.snoc_plain {ver : Nat} {pre : List Item} {s s' : PS} {it : Item} (hcs : CleanState ver pre s)
    (hn : ∀ m ∈ [sAdvance, sOutline, sLib, sImage], itemName it ≠ some m)
    (hm : s'.mode = .body) (hv : s'.ver = s.ver) (hseen : ∀ i, i ∈ s'.seen ↔ i ∈ s.seen ∨ i ∈ itemIdents it)
    (hfl : s'.seenAdvance = s.seenAdvance ∧ s'.seenOutline = s.seenOutline ∧ s'.seenLib = s.seenLib ∧ s'.g.image = s.g.image)
    (hnote : s'.g.note.isSome = true → s.g.note.isSome = true ∨ itemName it = some sNote)
    (hnoteLow : s.g.note.isSome = true ∨ noteWithText it → s'.g.note.isSome = true)
    (hl : LibOK s'.g.lib) : CleanState ver (pre ++ [it]) s' := by
  have off : ∀ m ∈ [sAdvance, sOutline, sLib, sImage], ∀ b : Bool, b = (b || itemName it == some m) := fun m hm b => by
    rw [beq_eq_false_iff_ne.2 (hn m hm), Bool.or_false]
  obtain ⟨h1, h2, h3, h4⟩ := hfl
  exact hcs.snoc hm hv hseen (h1 ▸ off _ (by simp) _) (h2 ▸ off _ (by simp) _) (h3 ▸ off _ (by simp) _)
    (h4 ▸ off _ (by simp) _) hnote hnoteLow hl

theorem flag_off {pre : List Item} {b : Bool} {n : Str} (h : b = true ↔ 0 < cnt pre n) (h0 : cnt pre n = 0) : b = false := by
  cases b
  · rfl
  · exact absurd (h.1 rfl) (by omega)

theorem plain_item {it : Item} {n : Str} (hn : n ∈ [sNote, sUnicode, sAnchor, sGuideline]) (e : itemName it = some n) :
    ∀ m ∈ [sAdvance, sOutline, sLib, sImage], itemName it ≠ some m :=
  fun m hm e' => plain_names n hn m hm (Option.some.inj (e.symm.trans e'))

section
variable {ver : Nat} {pre : List Item} {s : PS}

/-- for any item named `note`: the element with its text, or an empty note delivered as a plain element -/
theorem note_reach (hcs : CleanState ver pre s) {it : Item} {a : Option (List Attr)} {kids : List NItem}
    (hname : itemName it = some sNote) (hids : itemIdents it = [])
    (hevs : Item.evs it = .start sNote a :: (kids.flatMap NItem.evs ++ [.close sNote]))
    (htext : noteWithText it → ∃ t, NItem.text (some t) ∈ kids) (hv : ver ≠ 1) (h0 : cnt pre sNote = 0)
    (hsh : ∀ k, k ∈ kids → NShaped k) : ∃ s', Reach rd s (Item.evs it) s' ∧ CleanState ver (pre ++ [it]) s' := by
  have hn : s.g.note = none := by simpa using mt hcs.note (by omega)
  have h1 : step rd s (.start sNote a) = .ok (.inl { s with mode := .note }) := by
    rw [step_start hcs.mode, bodyStart_note, if_neg (hcs.ver ▸ hv), hn]; rfl
  obtain ⟨nt, hr, hlo⟩ := note_kids_reach (rd := rd) kids { s with mode := .note } rfl hsh
  rw [hevs]
  refine ⟨_, Reach.cons h1 (Reach.append hr (Reach.one (step_close_note rfl))), ?_⟩
  exact hcs.snoc_plain (plain_item (by simp) hname) rfl rfl (by simp [hids]) ⟨rfl, rfl, rfl, rfl⟩ (fun _ => .inr hname)
    (fun h => hlo (h.imp id htext)) hcs.libOK

theorem lib_reach (hcs : CleanState ver pre s) {a : Option (List Attr)} {d : Dict} {inner : List Ev} (h0 : cnt pre sLib = 0)
    (hsh : ∀ e, e ∈ inner → libSkips e = true) (hl : LibOK d) :
    ∃ s', Reach rd s (Item.evs (.lib a (.dict d) inner)) s' ∧ CleanState ver (pre ++ [.lib a (.dict d) inner]) s' := by
  have hne := flag_names
  have h1 : step rd s (.startLib a (.dict d)) = .ok (.inl { s with seenLib := true, mode := .lib (.dict d) }) := by
    rw [step_startLib hcs.mode, flag_off hcs.lib h0, if_neg Bool.false_ne_true]; rfl
  have hr := lib_skip_reach (rd := rd) inner { s with seenLib := true, mode := .lib (.dict d) } rfl hsh
  exact ⟨_, Reach.cons h1 (Reach.append hr (Reach.one (step_close_lib (v := .dict _) rfl))),
    hcs.snoc rfl rfl (by simp [itemIdents]) (by simp [itemName, hne]) (by simp [itemName, hne]) (by simp [itemName])
      (by simp [itemName, hne]) .inl (·.elim id nofun) hl⟩

theorem outline_reach (law : ReadsNumerals rd) (hcs : CleanState ver pre s) {a : Option (List Attr)} {sc : Bool}
    {kids : List OItem} (h0 : cnt pre sOutline = 0) (hsh : IShaped (.outline a sc kids))
    (hclean : itemCheck rd ver (.outline a sc kids) = ([], false)) (hnd : (itemIdents (.outline a sc kids)).Nodup)
    (hfr : ∀ i, i ∈ itemIdents (.outline a sc kids) → i ∉ pre.flatMap itemIdents) :
    ∃ s', Reach rd s (Item.evs (.outline a sc kids)) s' ∧ CleanState ver (pre ++ [.outline a sc kids]) s' := by
  have hne := flag_names
  have hm := hcs.mode
  obtain rfl := hcs.ver
  have hso : s.seenOutline = false := flag_off hcs.outline h0
  -- whatever `finishOutline` makes of the contours and components, the rest of the state is as before
  have fin : ∀ {s' : PS}, s'.mode = .body → s'.ver = s.ver →
      (∀ i, i ∈ s'.seen ↔ i ∈ s.seen ∨ i ∈ itemIdents (.outline a sc kids)) → s'.seenAdvance = s.seenAdvance →
      s'.seenOutline = true → s'.seenLib = s.seenLib → s'.g.image = s.g.image → s'.g.note = s.g.note → s'.g.lib = s.g.lib →
      CleanState s.ver (pre ++ [.outline a sc kids]) s' := by
    intro s' h1 h2 h3 h4 h5 h6 h7 h8 h9
    exact hcs.snoc h1 h2 h3 (by simp [h4, itemName, hne]) (by simp [h5, itemName]) (by simp [h6, itemName, hne])
      (by simp [h7, itemName, hne]) (by rw [h8]; exact .inl) (by rw [h8]; exact (·.elim id nofun)) (h9 ▸ hcs.libOK)
  cases sc with
  | true =>
    have h1 : step rd s (.empty sOutline a) = .ok (.inl { s with seenOutline := true }) := by
      rw [step_empty hm, bodyEmpty_outline, hso, if_neg Bool.false_ne_true]; rfl
    exact ⟨_, Reach.one h1, fin hm rfl (by simp [itemIdents, hsh.2 rfl]) rfl rfl rfl rfl rfl rfl⟩
  | false =>
    have h1 : step rd s (.start sOutline a) = .ok (.inl { s with seenOutline := true, mode := .outline {} }) := by
      rw [step_start_outline hm, hso, if_neg Bool.false_ne_true]; rfl
    obtain ⟨sn, ob', hr, hs1⟩ := outline_kids_reach law kids { s with seenOutline := true, mode := .outline {} } {} rfl
      ⟨hsh.1, fun k hk => merge_clean_iff.1 hclean _ (List.mem_cons_of_mem _ (List.mem_map.2 ⟨k, hk, rfl⟩)), hnd,
        fun i hi hs => hfr i hi ((hcs.seen i).1 hs)⟩
    refine ⟨_, Reach.cons h1 (Reach.append hr (Reach.one (step_close_outline rfl))), ?_⟩
    unfold finishOutline
    split
    · cases upgradeV1 ob'.contours
      exact fin rfl rfl hs1 rfl rfl rfl rfl rfl rfl
    · exact fin rfl rfl hs1 rfl rfl rfl rfl rfl rfl

theorem belem_reach (law : ReadsNumerals rd) (hcs : CleanState ver pre s) {e : Elem} {as : List Attr}
    (hb : bodyNames.contains e.name = true) (hc : ElemClean rd ver e as) (hnda : (as.map (·.1)).Nodup) (hsc : e.selfClosed = true)
    (hfr : ∀ i, i ∈ itemIdents (.elem e) → i ∉ pre.flatMap itemIdents)
    (honce : ∀ n, n = sAdvance ∨ n = sImage → e.name = n → cnt pre n = 0) :
    ∃ s', Reach rd s (Item.evs (.elem e)) s' ∧ CleanState ver (pre ++ [.elem e]) s' := by
  have hne := flag_names
  have hm := hcs.mode
  have hl := hcs.libOK
  obtain rfl := hcs.ver
  have hevs : Item.evs (.elem e) = [.empty e.name (some as)] := by simp [Item.evs, Elem.evs, hsc, hc.attrs]
  have hfr' : itemIdents (.elem e) = (Spec.get as "identifier").toList → ∀ v, (sIdentifier, v) ∈ as → v ∉ s.seen :=
    fun hids v hv hs => hfr v (by rw [hids, get_of_mem_nodup hnda hv]; exact List.mem_cons_self) ((hcs.seen v).1 hs)
  rw [hevs]
  simp only [bodyNames, List.contains_cons, List.contains_nil, Bool.or_false, Bool.or_eq_true, beq_iff_eq] at hb
  rcases hb with hn | hn | hn | hn | hn
  · obtain ⟨⟨w, h⟩, hp⟩ := advance_clean_accepted law hc hn
    have hs : s.seenAdvance = false := flag_off hcs.adv (honce _ (.inl rfl) hn)
    refine ⟨_, Reach.one (by rw [step_empty hm, hn, bodyEmpty_advance, hs, if_neg Bool.false_ne_true, elemArm_some hp]), ?_⟩
    exact hcs.snoc hm rfl (by simp [itemIdents_elem_nil _ (by simp) e hn]) (by simp [itemName, hn])
      (by simp [itemName, hn, hne]) (by simp [itemName, hn, hne]) (by simp [itemName, hn, hne]) .inl (·.elim id nofun) hl
  · obtain ⟨cps, hp⟩ := unicode_clean_accepted law hc hn s.g.codepoints
    refine ⟨_, Reach.one (by rw [step_empty hm, hn, bodyEmpty_unicode, elemArm_some hp]), ?_⟩
    exact hcs.snoc_plain (plain_item (n := sUnicode) (by simp) (congrArg some hn)) hm rfl
      (by simp [itemIdents_elem_nil _ (by simp) e hn]) ⟨rfl, rfl, rfl, rfl⟩ .inl (·.elim id nofun) hl
  · have hids : itemIdents (.elem e) = (Spec.get as "identifier").toList := by
      simp only [itemIdents, hn, true_or, if_true, elemIdent_eq hc.attrs]
    obtain ⟨x, hp⟩ := anchor_clean_accepted law hc hn (hfr' hids)
    have hv : s.ver ≠ 1 := fun h => hc.v1 ⟨h, .inl hn⟩
    refine ⟨_, Reach.one (by rw [step_empty hm, hn, bodyEmpty_anchor, if_neg hv, elemArm_some hp]), ?_⟩
    exact hcs.snoc_plain (plain_item (n := sAnchor) (by simp) (congrArg some hn)) hm rfl
      (fun i => by rw [mem_addSeen_iff, parseAnchor_ident hnda hp, hids]) ⟨rfl, rfl, rfl, rfl⟩ .inl (·.elim id nofun) hl
  · have hids : itemIdents (.elem e) = (Spec.get as "identifier").toList := by
      simp only [itemIdents, hn, or_true, if_true, elemIdent_eq hc.attrs]
    obtain ⟨x, hp⟩ := guideline_clean_accepted law hc hn (hfr' hids)
    have hv : s.ver ≠ 1 := fun h => hc.v1 ⟨h, .inr (.inl hn)⟩
    refine ⟨_, Reach.one (by rw [step_empty hm, hn, bodyEmpty_guideline, if_neg hv, elemArm_some hp]), ?_⟩
    exact hcs.snoc_plain (plain_item (n := sGuideline) (by simp) (congrArg some hn)) hm rfl
      (fun i => by rw [mem_addSeen_iff, parseGuideline_ident hnda hp, hids]) ⟨rfl, rfl, rfl, rfl⟩ .inl (·.elim id nofun) hl
  · obtain ⟨x, hp⟩ := image_clean_accepted law hc hn
    have hv : s.ver ≠ 1 := fun h => hc.v1 ⟨h, .inr (.inr hn)⟩
    have hi : s.g.image.isSome = false := flag_off hcs.image (honce _ (.inr rfl) hn)
    refine ⟨_, Reach.one (by rw [step_empty hm, hn, bodyEmpty_image, if_neg hv, hi, if_neg Bool.false_ne_true, elemArm_some hp]), ?_⟩
    exact hcs.snoc hm rfl (by simp [itemIdents_elem_nil _ (by simp) e hn]) (by simp [itemName, hn, hne])
      (by simp [itemName, hn, hne]) (by simp [itemName, hn, hne]) (by simp [itemName, hn]) .inl (·.elim id nofun) hl

theorem item_reach (law : ReadsNumerals rd) {ver : Nat} {pre : List Item} {s : PS} (hcs : CleanState ver pre s) (it : Item)
    (hclean : itemCheck rd ver it = ([], false)) (hsh : IShaped it)
    (hnd : (itemIdents it).Nodup) (hfr : ∀ i, i ∈ itemIdents it → i ∉ pre.flatMap itemIdents)
    (honce : ∀ n, n ∈ [sAdvance, sOutline, sLib, sNote, sImage] → itemName it = some n → cnt pre n = 0)
    (hlnew : ∀ a d inner, it = .lib a (.dict d) inner → LibOK d) :
    ∃ s', Reach rd s (Item.evs it) s' ∧ CleanState ver (pre ++ [it]) s' := by
  -- `itemCheck` of a note, a lib, an outline merges: the container's attributes, then what is particular to the item
  cases it with
  | comment =>
    exact ⟨s, Reach.one (step_comment s), hcs.snoc_plain (fun _ _ e => by cases e) hcs.mode rfl (by simp [itemIdents])
      ⟨rfl, rfl, rfl, rfl⟩ .inl (·.elim id nofun) hcs.libOK⟩
  | note a kids =>
    have hv : ver ≠ 1 := fun e => by
      simpa [e] using merge_clean_iff.1 hclean _ (List.mem_cons_of_mem _ List.mem_cons_self)
    exact note_reach hcs rfl rfl rfl id hv (honce sNote (by simp) rfl) hsh
  | lib a v inner =>
    have hv := merge_clean_iff.1 hclean _ (List.mem_cons_of_mem _ List.mem_cons_self)
    cases v with
    | bad => simp at hv
    | notDict => simp at hv
    | dict d => exact lib_reach hcs (honce sLib (by simp) rfl) hsh (hlnew a d inner rfl)
  | outline a sc kids => exact outline_reach law hcs (honce sOutline (by simp) rfl) hsh hclean hnd hfr
  | elem e =>
    obtain ⟨hndA, hsc⟩ := hsh
    simp only [itemCheck] at hclean
    by_cases hb : bodyNames.contains e.name = true
    · rw [if_pos hb] at hclean
      have hne' : e.name ≠ sNote := fun h => by rw [h] at hb; exact absurd hb (by decide +kernel)
      rw [if_neg hne'] at hsc
      obtain ⟨as, hc⟩ := elemCheck_clean hclean
      exact belem_reach law hcs hb hc (hndA as hc.attrs) hsc hfr fun n hn e' =>
        honce n (by rcases hn with rfl | rfl <;> simp) (by simp [itemName, e'])
    · rw [if_neg hb] at hclean
      by_cases hnn : e.name = sNote
      · -- an empty note, explicit close
        simp only [hnn, if_true] at hclean hsc
        have hmc := merge_clean_iff.1 hclean
        have ha := containerAttrs_nil (by simpa using hmc _ List.mem_cons_self : containerAttrs e.attrs = [])
        have hv : ver ≠ 1 := fun e => by simpa [e] using hmc _ (List.mem_cons_of_mem _ List.mem_cons_self)
        exact note_reach (a := some []) (kids := []) hcs (congrArg some hnn) (itemIdents_elem_nil _ (by simp) e hnn)
          (by simp [Item.evs, Elem.evs, hsc, hnn, ha]) nofun hv (honce sNote (by simp) (congrArg some hnn)) nofun
      · rw [if_neg hnn] at hclean
        by_cases hll : e.name = sLib <;> simp [hll] at hclean

end

end

section
variable {rd : Str → Option Nat}
theorem bodyEmpty_fails (s : PS) (a : Option (List Attr)) {n : Str} (hb : bodyNames.contains n = true)
    (h : ∀ as, a = some as → ElemBad rd s.ver s.seen n as) : ∃ k, bodyEmpty rd s n a = .error k := by
  simp only [bodyNames, List.contains_cons, List.contains_nil, Bool.or_false, Bool.or_eq_true, beq_iff_eq] at hb
  rcases hb with rfl | rfl | rfl | rfl | rfl
  · rw [bodyEmpty_advance]
    split
    · exact ⟨_, rfl⟩
    · exact elemArm_error fun as ha => parseAdvance_none_iff.2 (h as ha)
  · rw [bodyEmpty_unicode]
    exact elemArm_error fun as ha => parseUnicode_none_iff.2 (h as ha)
  · rw [bodyEmpty_anchor]
    split
    · exact ⟨_, rfl⟩
    · exact elemArm_error fun as ha => parseAnchor_none_iff.2 (h as ha)
  · rw [bodyEmpty_guideline]
    split
    · exact ⟨_, rfl⟩
    · exact elemArm_error fun as ha => parseGuideline_none_iff.2 (h as ha)
  · rw [bodyEmpty_image]
    split
    · exact ⟨_, rfl⟩
    · split
      · exact ⟨_, rfl⟩
      · exact elemArm_error fun as ha => parseImage_none (h as ha)

/-- body items that `judge` flags with a hard error, by clause family -/
inductive HardFlag (ver : Nat) : Item → Prop
  /-- `unknown-element` -/
  | unknownElement (e : Elem) : bodyNames.contains e.name = false → e.name ≠ sNote → e.name ≠ sLib → e.name ≠ sOutline →
      HardFlag ver (.elem e)
  /-- `v1-element`: anchor, guideline, image in a format-1 glyph -/
  | v1Element (e : Elem) : ver = 1 → (e.name = sAnchor ∨ e.name = sGuideline ∨ e.name = sImage) → e.selfClosed = true →
      HardFlag ver (.elem e)
  /-- `v1-element`: note in a format-1 glyph -/
  | v1Note (a : Option (List Attr)) (kids : List NItem) : ver = 1 → HardFlag ver (.note a kids)
  /-- `unknown-attr` on advance, unicode, anchor, guideline, image -/
  | unknownAttr (e : Elem) (as : List Attr) (a : Attr) : bodyNames.contains e.name = true → e.selfClosed = true →
      e.attrs = some as → a ∈ as → (specAttrNames e.name).contains a.1 = false → HardFlag ver (.elem e)
  /-- `lib`: the lib does not read as a dictionary -/
  | libNotDict (a : Option (List Attr)) (v : LibV) (inner : List Ev) : (∀ d, v ≠ .dict d) →
      (∀ e, e ∈ inner → libSkips e = true) → HardFlag ver (.lib a v inner)

theorem bodyStart_error {s : PS} {n : Str} (ho : n = sOutline → s.seenOutline = true)
    (hn : n = sNote → s.ver = 1 ∨ s.g.note.isSome = true) : ∃ k, bodyStart s n = .error k := by
  unfold bodyStart
  by_cases h1 : n = sOutline
  · rw [if_pos h1, if_pos (ho h1)]; exact ⟨_, rfl⟩
  · rw [if_neg h1]
    by_cases h2 : n = sNote
    · rw [if_pos h2]
      rcases hn h2 with h | h
      · rw [if_pos h]; exact ⟨_, rfl⟩
      · rw [h]; split <;> exact ⟨_, rfl⟩
    · rw [if_neg h2]; exact ⟨_, rfl⟩

theorem elem_rejected {s : PS} (hm : s.mode = .body) (e : Elem) (hs : ∃ k, bodyStart s e.name = .error k)
    (he : ∃ k, bodyEmpty rd s e.name e.attrs = .error k) (rest : List Ev) :
    accepted (run rd s (Elem.evs e ++ rest)) = false :=
  e.evs_rejected (hs.imp fun _ h => (step_start hm _ _).trans h) (he.imp fun _ h => (step_empty hm _ _).trans h) rest

theorem hard_item_rejected {s : PS} {ver : Nat} (hm : s.mode = .body) (hv : s.ver = ver) {it : Item}
    (hf : HardFlag ver it) (rest : List Ev) : accepted (run rd s (Item.evs it ++ rest)) = false := by
  cases hf with
  | unknownElement e hb h1 h2 h3 =>
    have hn : bodyEmptyNames.contains e.name = false := by
      simp only [bodyEmptyNames, bodyNames, List.contains_cons, List.contains_nil, Bool.or_false, Bool.or_eq_false_iff,
        beq_eq_false_iff_ne, ne_eq] at hb ⊢
      exact ⟨fun e' => h3 e', hb⟩
    exact elem_rejected hm e (bodyStart_error (fun e' => absurd e' h3) (fun e' => absurd e' h1))
      ⟨_, bodyEmpty_unknown rd s e.attrs hn⟩ rest
  | v1Element e h1 hn hsc =>
    have hc : v1RefusedEmpty.contains e.name = true := by
      rcases hn with h | h | h <;> rw [h] <;> decide +kernel
    obtain ⟨m, hm'⟩ := (v1_refusals rd s (hv.trans h1) e.attrs).1 hc
    simp only [Item.evs, Elem.evs, hsc, if_true, List.cons_append]
    exact rejected_of_step ((step_empty hm _ _).trans hm') _
  | v1Note a kids h1 =>
    obtain ⟨m, hm'⟩ := (v1_refusals rd s (hv.trans h1) a (n := sNote)).2 (by decide +kernel)
    exact rejected_of_step ((step_start hm _ _).trans hm') _
  | unknownAttr e as a hb hsc hattrs ha hnot =>
    have hn : (attrTable e.name).isSome = true :=
      attrTable_isSome e.name (List.mem_append_left [sPoint, sComponent] (List.contains_iff_mem.1 hb))
    obtain ⟨k, hk⟩ := bodyEmpty_fails (rd := rd) s (some as) hb fun _ e =>
      Option.some.inj e ▸ ElemBad.attr a ha (attrBad_of_unknown hn hnot)
    simp only [Item.evs, Elem.evs, hsc, hattrs, if_true, List.cons_append]
    exact rejected_of_step ((step_empty hm _ _).trans hk) _
  | libNotDict a v inner hnd hskip =>
    by_cases hs : s.seenLib = true
    · exact rejected_of_step (k := .duplicateElement "lib") (by rw [step_startLib hm, if_pos hs]) _
    · have h1 : step rd s (.startLib a v) = .ok (.inl { s with seenLib := true, mode := .lib v }) := by
        rw [step_startLib hm, if_neg hs]; rfl
      have hr := lib_skip_reach (rd := rd) inner { s with seenLib := true, mode := .lib v } rfl hskip
      have : Item.evs (.lib a v inner) ++ rest = (.startLib a v :: inner) ++ (.close sLib :: rest) := by
        simp [Item.evs, List.append_assoc]
      rw [this, run_of_reach rd (Reach.cons h1 hr)]
      cases v with
      | bad => exact rejected_of_step (step_close_lib (v := .bad) rfl) _
      | notDict => exact rejected_of_step (step_close_lib (v := .notDict) rfl) _
      | dict d => exact absurd rfl (hnd d)

/-- so `judge_hard_error_rejected` is about `judge`'s hard errors -/
theorem hardFlag_flagged {ver : Nat} {it : Item} (hf : HardFlag ver it) : (itemCheck rd ver it).1 ≠ [] := by
  cases hf with
  | unknownElement e hb h1 h2 h3 =>
    simp only [itemCheck, hb, h1, h2, Bool.false_eq_true, if_false]
    simp
  | v1Note a kids h1 =>
    simp only [itemCheck]
    exact merge_flagged (r := (["v1-element"], false)) (by simp [h1]) (by simp)
  | libNotDict a v inner hnd hskip =>
    simp only [itemCheck]
    cases v with
    | dict d => exact absurd rfl (hnd d)
    | bad => exact merge_flagged (r := (["lib"], false)) (by simp) (by simp)
    | notDict => exact merge_flagged (r := (["lib"], false)) (by simp) (by simp)
  | v1Element e h1 hn hsc =>
    have hb : bodyNames.contains e.name = true := by rcases hn with h | h | h <;> rw [h] <;> decide +kernel
    simp only [itemCheck, hb, if_true]
    unfold elemCheck
    cases attrTable e.name with
    | none => simp
    | some tbl =>
      cases e.attrs with
      | none => simp
      | some as => exact merge_flagged (r := (["v1-element"], false)) (by simp [h1, hn]) (by simp)
  | unknownAttr e as a hb hsc hattrs ha hnot =>
    simp only [itemCheck, hb, if_true]
    unfold elemCheck
    cases ht : attrTable e.name with
    | none => simp
    | some tbl =>
      simp only [hattrs]
      have hfind : tbl.find? (fun t => t.1.toList = a.1) = none := by
        apply List.find?_eq_none.2
        intro t htm hd
        have : a.1 ∈ specAttrNames e.name := by
          simp only [specAttrNames, ht, Option.getD_some]
          exact List.mem_map.2 ⟨t, htm, by simpa using hd⟩
        rw [List.contains_iff_mem.2 this] at hnot
        cases hnot
      refine merge_flagged (r := (["unknown-attr"], false)) ?_ (by simp)
      exact List.mem_append_left _ (List.mem_map.2 ⟨a, ha, by simp [hfind]⟩)

/-- a body item the parser refuses after the clean items `pre` of a glyph of format `ver` -/
inductive BodyBad (rd : Str → Option Nat) (ver : Nat) (pre : List Item) : Item → Prop
  | hard (it : Item) : HardFlag ver it → BodyBad rd ver pre it
  | dupOnce (it : Item) (n : Str) : itemName it = some n → (n = sAdvance ∨ n = sOutline ∨ n = sLib ∨ n = sImage) →
      0 < cnt pre n → BodyBad rd ver pre it
  /-- a second note after a note with text (`duplicate_note_rejected`; `item_decide` never answers this: `dup-note` is excluded) -/
  | dupNote (it : Item) : itemName it = some sNote → (∃ x, x ∈ pre ∧ noteWithText x) → BodyBad rd ver pre it
  /-- the attributes of advance, unicode, anchor, guideline or image are not well-formed XML attributes -/
  | attrSyntax (e : Elem) : bodyNames.contains e.name = true → e.attrs = none → BodyBad rd ver pre (.elem e)
  | elem (e : Elem) (as : List Attr) : bodyNames.contains e.name = true → e.attrs = some as →
      ElemBad rd ver (pre.flatMap itemIdents) e.name as → BodyBad rd ver pre (.elem e)
  /-- an element named `note` (the empty note written `<note></note>` or `<note/>`) in a format-1 glyph -/
  | v1NoteElem (e : Elem) : ver = 1 → e.name = sNote → BodyBad rd ver pre (.elem e)
  /-- `<lib/>`: a lib without a dictionary -/
  | libElem (e : Elem) : e.name = sLib → BodyBad rd ver pre (.elem e)
  | outlineChild (a : Option (List Attr)) (kpre : List OItem) (kbad : OItem) (kpost : List OItem) :
      OKidsClean rd ver (pre.flatMap itemIdents) kpre →
      OBad rd ver (pre.flatMap itemIdents ++ kpre.flatMap oitemIdents) kbad →
      BodyBad rd ver pre (.outline a false (kpre ++ kbad :: kpost))

theorem body_dispatch_names : (∀ n ∈ [sAdvance, sUnicode, sAnchor, sGuideline, sImage, sLib], n ≠ sOutline ∧ n ≠ sNote) ∧
    bodyEmptyNames.contains sNote = false ∧ bodyEmptyNames.contains sLib = false := by decide +kernel

theorem bodybad_rejected (law : ReadsNumerals rd) {ver : Nat} {pre : List Item} {s : PS} (hcs : CleanState ver pre s)
    {it : Item} (h : BodyBad rd ver pre it) (rest : List Ev) : accepted (run rd s (Item.evs it ++ rest)) = false := by
  have hm := hcs.mode
  have hseen : ∀ i, i ∈ pre.flatMap itemIdents ↔ i ∈ s.seen := fun i => (hcs.seen i).symm
  obtain ⟨hnames, hnNote, hnLib⟩ := body_dispatch_names
  have start_plain : ∀ {n}, n ∈ [sAdvance, sUnicode, sAnchor, sGuideline, sImage, sLib] → ∃ k, bodyStart s n = .error k :=
    fun hn => bodyStart_error (fun e => absurd e (hnames _ hn).1) (fun e => absurd e (hnames _ hn).2)
  have start_body : ∀ {n}, bodyNames.contains n = true → ∃ k, bodyStart s n = .error k := fun hb =>
    start_plain (by
      simp only [bodyNames, List.contains_cons, List.contains_nil, Bool.or_false, Bool.or_eq_true, beq_iff_eq] at hb
      simp only [List.mem_cons, List.not_mem_nil, or_false]
      rcases hb with h | h | h | h | h <;> simp [h])
  cases h with
  | hard it hf => exact hard_item_rejected hm hcs.ver hf rest
  | dupOnce it n hn hcase hc =>
    -- both events that can open an item named `n` are refused once the flag of `n` is set
    have hstart : ∃ k, bodyStart s n = .error k := by
      rcases hcase with rfl | rfl | rfl | rfl
      · exact start_plain (by simp)
      · exact bodyStart_error (fun _ => hcs.outline.2 hc) (fun e => absurd e elemNames.note.symm)
      · exact start_plain (by simp)
      · exact start_plain (by simp)
    have hempty : ∀ a, ∃ k, bodyEmpty rd s n a = .error k := by
      intro a
      rcases hcase with rfl | rfl | rfl | rfl
      · exact ⟨_, by rw [bodyEmpty_advance, if_pos (hcs.adv.2 hc)]⟩
      · exact ⟨_, by rw [bodyEmpty_outline, if_pos (hcs.outline.2 hc)]⟩
      · exact ⟨_, bodyEmpty_unknown rd s a hnLib⟩
      · rw [bodyEmpty_image, hcs.image.2 hc]
        split <;> exact ⟨_, rfl⟩
    cases it with
    | comment => cases hn
    | note a kids => cases hn; exact absurd rfl (plain_names sNote (by simp) sNote (by simpa using hcase))
    | lib a v inner =>
      cases hn
      exact rejected_of_step (k := .duplicateElement "lib") (by rw [step_startLib hm, if_pos (hcs.lib.2 hc)]) _
    | outline a sc kids =>
      cases hn
      obtain ⟨k1, h1⟩ := hstart
      obtain ⟨k2, h2⟩ := hempty a
      cases sc
      · exact rejected_of_step ((step_start hm _ _).trans h1) _
      · exact rejected_of_step ((step_empty hm _ _).trans h2) _
    | elem e => cases hn; exact elem_rejected hm e hstart (hempty _) rest
  | dupNote it hn hex =>
    have hstart : ∃ k, bodyStart s sNote = .error k :=
      bodyStart_error (fun e => absurd e elemNames.note) (fun _ => .inr (hcs.noteLow hex))
    cases it with
    | comment => cases hn
    | lib a v inner => exact absurd (Option.some.inj hn).symm (plain_names sNote (by simp) sLib (by simp))
    | outline a sc kids => exact absurd (Option.some.inj hn).symm elemNames.note
    | note a kids =>
      obtain ⟨k, hk⟩ := hstart
      exact rejected_of_step ((step_start hm _ _).trans hk) _
    | elem e =>
      have hen : e.name = sNote := Option.some.inj hn
      exact elem_rejected hm e (hen ▸ hstart) ⟨_, hen ▸ bodyEmpty_unknown rd s e.attrs hnNote⟩ rest
  | attrSyntax e hb ha =>
    exact elem_rejected hm e (start_body hb) (bodyEmpty_fails s e.attrs hb fun as h => by rw [ha] at h; cases h) rest
  | elem e as hb ha hbad =>
    refine elem_rejected hm e (start_body hb) (bodyEmpty_fails s e.attrs hb fun as' h => ?_) rest
    obtain rfl : as = as' := Option.some.inj (ha.symm.trans h)
    exact hcs.ver ▸ hbad.congr hseen
  | v1NoteElem e hv hn =>
    rw [← hcs.ver] at hv
    exact elem_rejected hm e (hn ▸ bodyStart_error (fun e => absurd e elemNames.note) (fun _ => .inl hv))
      ⟨_, hn ▸ bodyEmpty_unknown rd s e.attrs hnNote⟩ rest
  | libElem e hn =>
    exact elem_rejected hm e (hn ▸ start_plain (by simp)) ⟨_, hn ▸ bodyEmpty_unknown rd s e.attrs hnLib⟩ rest
  | outlineChild a kpre kbad kpost hk hbad =>
    by_cases hso : s.seenOutline = true
    · obtain ⟨k, hk⟩ := bodyStart_error (fun _ => hso) (fun e => absurd e elemNames.note.symm)
      exact rejected_of_step ((step_start hm _ _).trans hk) _
    · have h1 : step rd s (.start sOutline a) = .ok (.inl { s with seenOutline := true, mode := .outline {} }) := by
        rw [step_start_outline hm, if_neg hso]; rfl
      simp only [Item.evs, List.cons_append, run, h1]
      rw [List.append_assoc]
      exact outline_kids_bad law kpre kbad kpost { s with seenOutline := true, mode := .outline {} } {} rfl
        hseen (hcs.ver ▸ hk) (hcs.ver ▸ hbad) _

end

/-- the rules of `Spec.itemCheck` that correspond to a recorded finding, i.e. where norad accepts what `judge` flags:
    `container-attrs` (`container-attributes-unexamined`), `ident-empty` (`empty-identifier-accepted`), `hex-plus`
    (`hex-plus-sign-accepted`) -/
def findingItemRules : List String := ["container-attrs", "ident-empty", "hex-plus"]

section
variable {rd : Str → Option Nat}

theorem note_rule {a : Option (List Attr)} {ver : Nat} {r : String}
    (hr : r ∈ (merge [(containerAttrs a, false), (if ver == 1 then ["v1-element"] else [], false)]).1)
    (hca : r ≠ "container-attrs") : ver = 1 := by
  obtain ⟨x, hx, hrx⟩ := mem_merge_iff.1 hr
  simp only [List.mem_cons, List.not_mem_nil, or_false] at hx
  rcases hx with rfl | rfl
  · exact absurd (containerAttrs_rule hrx) hca
  · by_cases hv : ver = 1
    · exact hv
    · simp [hv] at hrx

theorem bodyBad_of_rule (lawT : ReadsTrimmed rd) {ver : Nat} (pre : List Item) {it : Item} (hsh : IShaped it)
    (hno : ∀ a sc kids, it ≠ .outline a sc kids) (hne : ∀ e, it = .elem e → e.name ≠ sOutline)
    {r : String} (hr : r ∈ (itemCheck rd ver it).1) (hnf : r ∉ findingItemRules) : BodyBad rd ver pre it := by
  -- `findingItemRules` is `container-attrs` and `findingValueRules`
  have hnf' : r ∉ findingValueRules := fun hm => hnf (List.mem_cons_of_mem _ hm)
  have hca : r ≠ "container-attrs" := fun e => hnf (e ▸ List.mem_cons_self)
  cases it with
  | comment => cases hr
  | outline a sc kids => exact absurd rfl (hno a sc kids)
  | note a kids => exact .hard _ (.v1Note a kids (note_rule hr hca))
  | lib a v inner =>
    obtain ⟨x, hx, hrx⟩ := mem_merge_iff.1 hr
    simp only [List.mem_cons, List.not_mem_nil, or_false] at hx
    rcases hx with rfl | rfl
    · exact absurd (containerAttrs_rule hrx) hca
    · refine .hard _ (.libNotDict a v inner ?_ hsh)
      rintro dd rfl
      cases hrx
  | elem e =>
    obtain ⟨hndA, hsc⟩ := hsh
    simp only [itemCheck] at hr
    by_cases hb : bodyNames.contains e.name = true
    · simp only [hb, if_true] at hr
      cases ha : e.attrs with
      | none => exact .attrSyntax e hb ha
      | some as =>
        by_cases hv1 : r = "v1-element"
        · subst hv1
          obtain ⟨hv, hname⟩ := v1_element_names hr
          have hnn : e.name ≠ sNote := by rintro hh; rw [hh] at hb; exact absurd hb (by decide +kernel)
          rw [if_neg hnn] at hsc
          exact .hard _ (.v1Element e hv hname hsc)
        · exact .elem e as hb ha
            (elemBad_of_rule lawT (List.mem_append_left _ (List.contains_iff_mem.1 hb)) ha (hndA as ha) hr hnf' hv1)
    · simp only [hb, Bool.false_eq_true, if_false] at hr
      by_cases hn : e.name = sNote
      · rw [if_pos hn] at hr
        exact .v1NoteElem e (note_rule hr hca) hn
      · rw [if_neg hn] at hr
        by_cases hl : e.name = sLib
        · exact .libElem e hl
        · exact .hard _ (.unknownElement e (by simpa using hb) hn hl (hne e rfl))

/-- `once` does not list `note`: after an empty note the parser accepts a second one (recorded finding
    `repeated-note-after-empty-note`), so a second note fits and `JudgeClean.snoc` asks for the count separately -/
structure ItemFits (rd : Str → Option Nat) (ver : Nat) (pre : List Item) (it : Item) : Prop where
  clean : itemCheck rd ver it = ([], false)
  nodup : (itemIdents it).Nodup
  fresh : ∀ i, i ∈ itemIdents it → i ∉ pre.flatMap itemIdents
  once : ∀ n, n = sAdvance ∨ n = sOutline ∨ n = sLib ∨ n = sImage → itemName it = some n → cnt pre n = 0

theorem item_decide (lawT : ReadsTrimmed rd) {ver : Nat} (pre : List Item) {it : Item} (hsh : IShaped it)
    (hne : ∀ e, it = .elem e → e.name ≠ sOutline)
    (hal : ∀ a sc kids, it = .outline a sc kids → ∀ e, OItem.elem e ∈ kids → e.name ≠ sContour)
    (h2 : (itemCheck rd ver it).2 = false) (hnf : ∀ r, r ∈ (itemCheck rd ver it).1 → r ∉ findingItemRules) :
    BodyBad rd ver pre it ∨ ItemFits rd ver pre it := by
  by_cases hdup : ∃ n, (n = sAdvance ∨ n = sOutline ∨ n = sLib ∨ n = sImage) ∧ itemName it = some n ∧ 0 < cnt pre n
  · obtain ⟨n, hcase, hn, hc⟩ := hdup
    exact .inl (.dupOnce it n hn hcase hc)
  have honce : ∀ n, n = sAdvance ∨ n = sOutline ∨ n = sLib ∨ n = sImage → itemName it = some n → cnt pre n = 0 :=
    fun n hcase hn => Nat.eq_zero_of_not_pos fun hc => hdup ⟨n, hcase, hn, hc⟩
  -- an item that is not an outline: a rule makes it `BodyBad`, no rule leaves the identifier of an anchor or guideline
  have plain : (∀ a sc kids, it ≠ .outline a sc kids) → (itemIdents it).Nodup →
      (∀ i, i ∈ itemIdents it → i ∈ pre.flatMap itemIdents → BodyBad rd ver pre it) →
      BodyBad rd ver pre it ∨ ItemFits rd ver pre it := by
    intro hno hnd hid
    by_cases hc : (itemCheck rd ver it).1 = []
    · by_cases hex : ∃ i, i ∈ itemIdents it ∧ i ∈ pre.flatMap itemIdents
      · obtain ⟨i, h1, h3⟩ := hex
        exact .inl (hid i h1 h3)
      · exact .inr ⟨Prod.ext hc h2, hnd, fun i hi hp => hex ⟨i, hi, hp⟩, honce⟩
    · obtain ⟨r, hr⟩ := List.exists_mem_of_ne_nil _ hc
      exact .inl (bodyBad_of_rule lawT pre hsh hno hne hr (hnf r hr))
  cases it with
  | comment => exact plain nofun List.nodup_nil nofun
  | note a kids => exact plain nofun List.nodup_nil nofun
  | lib a v inner => exact plain nofun List.nodup_nil nofun
  | elem e =>
    refine plain nofun ?_ fun i hi hseen => ?_
    · simp only [itemIdents]
      split
      · exact elemIdent_nodup e
      · exact List.nodup_nil
    · simp only [itemIdents] at hi
      split at hi
      · rename_i hn
        cases ha : e.attrs with
        | none => simp [elemIdent, ha] at hi
        | some as =>
          rw [elemIdent_eq ha] at hi
          exact .elem e as (List.contains_iff_mem.2 (by rcases hn with h | h <;> rw [h] <;> simp [bodyNames])) ha
            (.attr (sIdentifier, i) (get_mem (Option.mem_toList.1 hi))
              (attrBad_ident_seen (by rcases hn with h | h <;> simp [h]) hseen))
      · cases hi
  | outline a sc kids =>
    have hca : containerAttrs a = [] := List.eq_nil_iff_forall_not_mem.2 fun r hr =>
      hnf r (mem_merge_iff.2 ⟨(containerAttrs a, false), List.mem_cons_self, hr⟩)
        (containerAttrs_rule hr ▸ List.mem_cons_self)
    cases sc with
    | true =>
      obtain rfl : kids = [] := hsh.2 rfl
      exact .inr ⟨merge_clean_iff.2 fun x hx => by rw [List.mem_singleton.1 hx, hca], List.nodup_nil, nofun, honce⟩
    | false =>
      have hk2 : ∀ k, k ∈ kids → (oitemCheck rd ver k).2 = false := fun k hk =>
        merge_snd_false h2 (List.mem_cons_of_mem _ (List.mem_map.2 ⟨k, hk, rfl⟩))
      have hknf : ∀ k, k ∈ kids → ∀ r, r ∈ (oitemCheck rd ver k).1 → r ∉ findingValueRules ∧ r ≠ "container-attrs" :=
        fun k hk r hr => by
          have := hnf r (mem_merge_iff.2 ⟨_, List.mem_cons_of_mem _ (List.mem_map.2 ⟨k, hk, rfl⟩), hr⟩)
          exact ⟨fun hm => this (List.mem_cons_of_mem _ hm), fun e => this (e ▸ List.mem_cons_self)⟩
      rcases okids_split lawT kids (pre.flatMap itemIdents) hsh.1 (hal a false kids rfl) hk2 hknf with
        hk | ⟨kpre, kbad, kpost, rfl, hk, hbd⟩
      · refine .inr ⟨merge_clean_iff.2 fun x hx => ?_, hk.nodup, hk.fresh, honce⟩
        rcases List.mem_cons.1 hx with rfl | hx
        · rw [hca]
        · obtain ⟨k, hkm, rfl⟩ := List.mem_map.1 hx
          exact hk.clean k hkm
      · exact .inl (.outlineChild a kpre kbad kpost hk hbd)

end

end Glif
