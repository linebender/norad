/-!
# String literals inside the kernel

A `String` is its UTF-8 bytes.  Evaluating a fact about a table of literals, the kernel encodes every distinct literal
once per declaration (nothing is kept across declarations) and `String.toList` decodes on top of that; the byte list is
the cheapest thing it can get out of a literal.  `code` and `chars` are one pass over the bytes: a Bool checker reads
each string of a table once through them and compares numbers or characters afterwards, and `code_inj`, `chars_eq`,
`nodup_of_distinct_codes` carry the result back to the strings.  For a single literal in a goal core's
`String.toList_ofList` is enough (`rw`: a literal unifies with `String.ofList cs`).
-/
namespace StrCode

def bytes (s : String) : List UInt8 := s.toByteArray.data.toList

theorem bytes_inj {s t : String} (h : bytes s = bytes t) : s = t :=
  String.toByteArray_inj.1 (ByteArray.ext (Array.ext' h))

/-- base 257 with every byte increased by 1: no digit is 0, so neither a zero byte nor the length is lost -/
def digits (l : List UInt8) : Nat := l.foldr (fun b n => b.toNat + 1 + 257 * n) 0

theorem digits_inj : ∀ l l' : List UInt8, digits l = digits l' → l = l'
  | [], [], _ => rfl
  | [], b :: r, h | b :: r, [], h => by simp only [digits, List.foldr_cons, List.foldr_nil] at h; omega
  | b :: r, b' :: r', h => by
    have digit (x x' n n' : Nat) (hx : x < 256) (hx' : x' < 256) (h : x + 1 + 257 * n = x' + 1 + 257 * n') :
        x = x' ∧ n = n' := by omega
    have := digit _ _ _ _ b.toNat_lt b'.toNat_lt h
    rw [UInt8.toNat_inj.1 this.1, digits_inj r r' this.2]

def code (s : String) : Nat := digits (bytes s)

theorem code_inj {s t : String} (h : code s = code t) : s = t := bytes_inj (digits_inj _ _ h)

/-- in this direction for `simp only`: it turns the string tests inside a fixed function into tests on codes -/
theorem code_eq_iff {s t : String} : s = t ↔ code s = code t := ⟨congrArg code, code_inj⟩

def distinct : List Nat → Bool
  | [] => true
  | a :: r => r.all (fun b => !Nat.beq a b) && distinct r

theorem nodup_of_distinct_codes : ∀ {l : List String}, distinct (l.map code) = true → l.Nodup
  | [], _ => List.nodup_nil
  | a :: r, h => by
    have ⟨hfirst, hrest⟩ : (∀ b ∈ r, Nat.beq (code a) (code b) = false) ∧ distinct (r.map code) = true := by
      simpa [distinct, List.all_eq_true] using h
    exact List.nodup_cons.2 ⟨fun ha => Nat.ne_of_beq_eq_false (hfirst a ha) rfl, nodup_of_distinct_codes hrest⟩

def chars (s : String) : List Char :=
  if (bytes s).all (· < 128) then (bytes s).map fun b => Char.ofNat b.toNat else s.toList

theorem utf8EncodeChar_ascii (b : UInt8) (h : b < 128) : String.utf8EncodeChar (Char.ofNat b.toNat) = [b] := by
  have h' : b.toNat < 128 := h
  have hv : (Char.ofNat b.toNat).val.toNat = b.toNat := by
    simp [Char.ofNat, Nat.isValidChar, show b.toNat < 55296 by omega, Char.ofNatAux]
  simp [String.utf8EncodeChar, hv, show b.toNat ≤ 127 by omega]

@[simp] theorem chars_eq (s : String) : chars s = s.toList := by
  unfold chars
  split
  · rename_i h
    -- the string with these characters has the same bytes
    rw [← String.toList_ofList (l := (bytes s).map _)]
    congr 1
    rw [← String.toByteArray_inj, String.toByteArray_ofList, List.utf8Encode, List.flatMap_map]
    have : (bytes s).flatMap (fun b => String.utf8EncodeChar (Char.ofNat b.toNat)) = bytes s := by
      generalize bytes s = l at h
      induction l with
      | nil => rfl
      | cons b r ih =>
        simp only [List.all_cons, Bool.and_eq_true, decide_eq_true_eq] at h
        simp [utf8EncodeChar_ascii b h.1, ih h.2]
    rw [this]
    apply ByteArray.ext
    simp [bytes]
  · rfl

theorem contains_eq_codes (l : List String) (k : String) : l.contains k = (l.map code).contains (code k) := by
  induction l with
  | nil => rfl
  | cons a r ih =>
    rw [List.map_cons, List.contains_cons, List.contains_cons, ih, Bool.eq_iff_iff]
    simp only [Bool.or_eq_true, beq_iff_eq, code_eq_iff]

def keysIn {κ} [BEq κ] (a b : List κ) : Bool := a.all b.contains

theorem subset_of_keysIn {α κ} [BEq κ] [LawfulBEq κ] {key : α → κ} (inj : Function.Injective key) {a b : List α}
    (h : keysIn (a.map key) (b.map key) = true) : ∀ x ∈ a, x ∈ b := by
  intro x hx
  obtain ⟨y, hy, e⟩ := List.mem_map.1 (List.contains_iff_mem.1 (List.all_eq_true.1 h _ (List.mem_map_of_mem hx)))
  exact inj e ▸ hy

end StrCode
