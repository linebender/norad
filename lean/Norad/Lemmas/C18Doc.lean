import Norad.Lemmas.C18
import Norad.Lemmas.Assoc
/-!
# C18 — document level: every struct's writer output is read back by its reader
-/
namespace C18
open C18.Spec

@[simp] theorem attr_mk_nil (k : String) : attr? (mkAttrs []) k = none := rfl

theorem attr_is : IsLookup fun k (a : List (String × String)) => attr? a k :=
  ⟨fun _ => rfl, fun k k' v r => by
    by_cases h : k' = k
    · subst h; simp [attr?, List.lookup]
    · simp [attr?, List.lookup, h, show (k == k') = false by simpa using fun e : k = k' => h e.symm]⟩

@[simp] theorem attr_mk_cons (k k' : String) (ov : Option String) (r : List (String × Option String)) :
    attr? (mkAttrs ((k', ov) :: r)) k = if k' = k then ov.or (attr? (mkAttrs r) k) else attr? (mkAttrs r) k := by
  cases ov with
  | none => simp [mkAttrs]
  | some v => exact (attr_is.cons k k' v _).trans (by split <;> rfl)

theorem readOptF32_show {c : Codec} (L : CodecLaws c) (ov : Option F32) (h : optOk ov = true) :
    readOptF32 c (ov.map c.showF32) = some ov := by
  cases ov with
  | none => rfl
  | some x => simp [readOptF32, L.f32_rt x h]

theorem wrapList_ne {m : String} {items : List Tree} (h : items ≠ []) :
    wrapList m items = [.elem m [] items] := by
  cases items with
  | nil => exact absurd rfl h
  | cons t r => rfl

/-! `simp` computes `childrenNamed n` of appended pieces with these, once the writers of the pieces are unfolded far
enough for `named` to see the element names. -/

@[simp] theorem childrenNamed_nil (n : String) : childrenNamed n [] = [] := rfl

@[simp] theorem childrenNamed_cons (n : String) (t : Tree) (r : List Tree) :
    childrenNamed n (t :: r) = if named n t then t :: childrenNamed n r else childrenNamed n r := by
  simp [childrenNamed, List.filter_cons]

@[simp] theorem childrenNamed_append (n : String) (a b : List Tree) :
    childrenNamed n (a ++ b) = childrenNamed n a ++ childrenNamed n b := by simp [childrenNamed]

@[simp] theorem childrenNamed_map (n : String) {α : Type} (g : α → Tree) (xs : List α) :
    childrenNamed n (xs.map g) = (xs.filter fun x => named n (g x)).map g := by
  simp [childrenNamed, List.filter_map, Function.comp_def]

@[simp] theorem childrenNamed_ite (n : String) (p : Prop) [Decidable p] (a b : List Tree) :
    childrenNamed n (if p then a else b) = if p then childrenNamed n a else childrenNamed n b := by
  split <;> rfl

@[simp] theorem childrenNamed_wrapList (n m : String) (items : List Tree) :
    childrenNamed n (wrapList m items) = if m = n then wrapList m items else [] := by
  unfold wrapList
  by_cases h : items.isEmpty = true
  · simp [h, childrenNamed]
  · by_cases hm : m = n <;> simp [h, childrenNamed, named, hm]

theorem readVec1_of {α : Type} (f : Tree → Option α) {n : String} {cs ts : List Tree} {xs : List α}
    (hcs : childrenNamed n cs = ts) (hne : ts ≠ []) (h : ts.mapM f = some xs) : readVec1 f n cs = some xs := by
  unfold readVec1; rw [hcs]
  cases ts with
  | nil => exact absurd rfl hne
  | cons _ _ => exact h

theorem readVec1_map {α : Type} (f : Tree → Option α) {n : String} (g : α → Tree) {xs : List α} {cs : List Tree}
    (hcs : childrenNamed n cs = xs.map g) (hne : xs ≠ []) (h : ∀ x ∈ xs, f (g x) = some x) :
    readVec1 f n cs = some xs :=
  readVec1_of f hcs (by simpa using hne) (mapM_map_some f g xs h)

theorem oneChild_eq {n m : String} {cs : List Tree} {as : List (String × String)} {k : List Tree}
    (h : childrenNamed n cs = [.elem m as k]) : oneChild n cs = .one as k := by
  unfold oneChild; rw [h]

theorem oneChild_single (n : String) (as : List (String × String)) (k : List Tree) :
    oneChild n [Tree.elem n as k] = .one as k := by
  simp [oneChild, childrenNamed, named]

theorem readLocation_congr (c : Codec) (a b : List Tree)
    (h : childrenNamed "location" a = childrenNamed "location" b) :
    readLocation c a = readLocation c b := by unfold readLocation oneChild; rw [h]

theorem readWrapped_map {α : Type} (f : Tree → Option α) {w item : String} (g : α → Tree) {xs : List α}
    {cs : List Tree} (hcs : childrenNamed w cs = wrapList w (xs.map g)) (hne : xs ≠ [])
    (hn : ∀ x, named item (g x) = true) (h : ∀ x ∈ xs, f (g x) = some x) :
    readWrapped f w item cs = some xs := by
  rw [readWrapped, oneChild_eq (hcs.trans (wrapList_ne (by simpa using hne)))]
  exact readVec1_map f g (by simp [hn]) hne h

theorem splitSp_word (w : List Char) (hw : ' ' ∉ w) : ∀ (rest cur : List Char),
    splitSp (w ++ rest) cur = splitSp rest (cur ++ w) := by
  induction w with
  | nil => intro rest cur; simp
  | cons ch r ih =>
    simp only [List.mem_cons, not_or] at hw
    have : ¬ ch = ' ' := fun e => hw.1 e.symm
    simp [splitSp, this, ih hw.2]

theorem splitSp_join : ∀ ws : List (List Char), (∀ w ∈ ws, w ≠ [] ∧ ' ' ∉ w) →
    splitSp (joinSp ws) [] = ws
  | [], _ => by simp [joinSp, splitSp]
  | [w], h => by
    have hw := h w (by simp)
    have := splitSp_word w hw.2 [] []
    simp only [List.append_nil, List.nil_append] at this
    simp [joinSp, this, splitSp, hw.1]
  | w :: w2 :: r, h => by
    have hw := h w (by simp)
    have ih := splitSp_join (w2 :: r) (fun x hx => h x (by simp [hx]))
    have := splitSp_word w hw.2 (' ' :: joinSp (w2 :: r)) []
    simp [joinSp, this, splitSp, hw.1, ih]

theorem readValues_show {c : Codec} (L : CodecLaws c) (vs : List F32) (h : vs.all F32.notNaN = true) :
    readValues c (showValues c vs) = some vs := by
  unfold readValues showValues
  simp only [String.toList_ofList]
  rw [splitSp_join]
  · have := mapM_map_some (fun w => c.readF32 (String.ofList w)) (fun v => (c.showF32 v).toList) vs
      (by intro x hx; simp; exact L.f32_rt x (by simp [List.all_eq_true] at h; exact h x hx))
    exact this
  · intro w hw
    simp only [List.mem_map] at hw
    obtain ⟨v, _, rfl⟩ := hw
    exact ⟨L.f32_ne v, fun hm => absurd (List.all_eq_true.1 (L.f32_safe v) ' ' hm) (by decide)⟩

theorem dimension_rt {c : Codec} (L : CodecLaws c) (d : Dimension) (h : dimOk d = true) :
    dimensionOf c (dimensionNode c d) = some d := by
  simp only [dimOk, Bool.and_eq_true] at h
  simp [dimensionOf, dimensionNode, optF32Attr, readOptF32_show L _ h.1.1, readOptF32_show L _ h.1.2,
    readOptF32_show L _ h.2]

theorem named_dimension (c : Codec) (n : String) (d : Dimension) :
    named n (dimensionNode c d) = ("dimension" == n) := rfl

theorem location_rt {c : Codec} (L : CodecLaws c) (l : List Dimension) (h : locOk l = true) {cs : List Tree}
    (hcs : childrenNamed "location" cs = [locationNode c l]) : readLocation c cs = some l := by
  simp only [locOk, Bool.and_eq_true, Bool.not_eq_true', List.isEmpty_eq_false_iff, List.all_eq_true] at h
  rw [readLocation, oneChild_eq hcs]
  exact readVec1_map _ _ (by simp [named_dimension]) h.1 fun x hx => dimension_rt L x (h.2 x hx)

theorem map_rt {c : Codec} (L : CodecLaws c) (m : AxisMapping) (h1 : m.input.notNaN = true)
    (h2 : m.output.notNaN = true) : mapOf c (mapNode c m) = some m := by
  simp [mapOf, mapNode, L.f32_rt _ h1, L.f32_rt _ h2]

theorem readOptMaps_rt {c : Codec} (L : CodecLaws c) (om : Option (List AxisMapping))
    (h : ∀ ms, om = some ms → ms ≠ [] ∧ ∀ m ∈ ms, m.input.notNaN = true ∧ m.output.notNaN = true) :
    readOptMaps c (childrenNamed "map" (mapNodes c om)) = some om := by
  cases om with
  | none => rfl
  | some ms =>
    obtain ⟨hne, hm⟩ := h ms rfl
    obtain ⟨m, r, rfl⟩ := List.exists_cons_of_ne_nil hne
    have := mapM_map_some (mapOf c) (mapNode c) (m :: r) fun x hx => map_rt L x (hm x hx).1 (hm x hx).2
    have hc : childrenNamed "map" (mapNodes c (some (m :: r))) = mapNode c m :: r.map (mapNode c) := by
      simp [mapNodes, named, mapNode]
    rw [hc, readOptMaps, ← List.map_cons, this]
    · rfl
    · nofun  -- the arm of `readOptMaps` for no `map` child does not apply

theorem axis_rt {c : Codec} (L : CodecLaws c) (a : Axis) (h : axisOk a = true) :
    axisOf c (axisNode c a) = some a := by
  simp only [axisOk, Bool.and_eq_true] at h
  obtain ⟨⟨⟨⟨hdefault, hmin⟩, hmax⟩, hvalues⟩, hmap⟩ := h
  have hv : readOptValues c (a.values.map (showValues c)) = some a.values := by
    cases hv : a.values with
    | none => rfl
    | some vs => rw [hv] at hvalues; simp [readOptValues, readValues_show L vs hvalues]
  have hh : readHidden (if a.hidden = true then some "true" else none) = some a.hidden := by
    cases a.hidden <;> simp [readHidden, readBool]
  have hm : readOptMaps c (childrenNamed "map" (mapNodes c a.map)) = some a.map := by
    apply readOptMaps_rt L
    intro ms hms
    rw [hms] at hmap
    simp only [Bool.and_eq_true, Bool.not_eq_true', List.isEmpty_eq_false_iff, List.all_eq_true] at hmap
    exact hmap
  simp [axisOf, axisNode, optF32Attr, L.f32_rt _ hdefault, readOptF32_show L _ hmin, readOptF32_show L _ hmax, hv, hh,
    hm]

theorem condition_rt {c : Codec} (L : CodecLaws c) (x : Condition) (h1 : optOk x.minimum = true)
    (h2 : optOk x.maximum = true) : conditionOf c (conditionNode c x) = some x := by
  simp [conditionOf, conditionNode, optF32Attr, readOptF32_show L _ h1, readOptF32_show L _ h2]

theorem conditionSet_rt {c : Codec} (L : CodecLaws c) (s : ConditionSet)
    (h : s.conditions.all (fun x => optOk x.minimum && optOk x.maximum) = true) :
    conditionSetOf c (conditionSetNode c s) = some s := by
  simp only [List.all_eq_true, Bool.and_eq_true] at h
  have hc : childrenNamed "condition" (s.conditions.map (conditionNode c)) = s.conditions.map (conditionNode c) := by
    simp [named, conditionNode]
  rw [conditionSetNode, conditionSetOf, hc, mapM_map_some _ _ _ fun x hx => condition_rt L x (h x hx).1 (h x hx).2]
  rfl

/-- the specification's character ranges for a glyph name lie inside the model's (`Name::is_valid`) -/
theorem glyphNameOk_nameValid (s : String) (h : glyphNameOk s = true) : nameValid s = true := by
  simp only [glyphNameOk, nameValid, Bool.and_eq_true, List.all_eq_true, decide_eq_true_eq] at h ⊢
  refine ⟨by simpa using h.1, fun ch hch => ?_⟩
  have := h.2 ch hch
  simp only [Bool.not_eq_true', Bool.or_eq_false_iff, decide_eq_false_iff_not, Bool.and_eq_false_imp,
    decide_eq_true_eq, beq_eq_false_iff_ne] at this ⊢
  omega

theorem sub_rt (s : Substitution) (h : (glyphNameOk s.name && glyphNameOk s.withName) = true) :
    subOf (subNode s) = some s := by
  simp only [Bool.and_eq_true] at h
  simp [subOf, subNode, glyphNameOk_nameValid _ h.1, glyphNameOk_nameValid _ h.2]

theorem rule_rt {c : Codec} (L : CodecLaws c) (r : Rule) (h : ruleOk r = true) :
    ruleOf c (ruleNode c r) = some r := by
  simp only [ruleOk, Bool.and_eq_true, Bool.not_eq_true', List.isEmpty_eq_false_iff, List.all_eq_true] at h
  obtain ⟨⟨⟨hsets, hsubs⟩, hconds⟩, hnames⟩ := h
  have e1 := readVec1_map (conditionSetOf c) (conditionSetNode c) (n := "conditionset")
    (cs := r.conditionSets.map (conditionSetNode c) ++ r.substitutions.map subNode)
    (by simp [named, conditionSetNode, subNode]) hsets
    fun x hx => conditionSet_rt L x (by simpa [List.all_eq_true] using hconds x hx)
  have e2 := readVec1_map subOf subNode (n := "sub")
    (cs := r.conditionSets.map (conditionSetNode c) ++ r.substitutions.map subNode)
    (by simp [named, conditionSetNode, subNode]) hsubs fun x hx => sub_rt x (by simpa using hnames x hx)
  simp [ruleOf, ruleNode, e1, e2]

theorem libNodes_shape {c : Codec} {l : KVs} {ls : List Tree} (e : libNodes c l = .ok ls) (n : String) :
    childrenNamed n ls = if n = "lib" then ls else [] := by
  cases l with
  | nil => cases e; simp
  | cons k v r =>
    obtain ⟨ts, -, rfl⟩ := Out.map_eq_ok.1 e
    by_cases hn : n = "lib"
    · simp [named, hn]
    · simpa [named, hn] using fun e : "lib" = n => hn e.symm

theorem lib_rt {c : Codec} (L : CodecLaws c) (l : KVs) (hs : kvsStated l = true) (hc : kvsClean l = true)
    (hd : kvsDates c l = true) :
    ∃ ls, libNodes c l = .ok ls ∧ ∀ cs, childrenNamed "lib" cs = ls → readLib c cs = some l := by
  cases l with
  | nil => exact ⟨[], rfl, fun cs h => by rw [readLib, oneChild, h]⟩
  | cons k v r =>
    obtain ⟨ts, h1, h2⟩ := kvs_rt L (.cons k v r) hs hc hd
    refine ⟨[.elem "lib" [] [.elem "dict" [] ts]], by simp [libNodes, h1, Out.map], fun cs h => ?_⟩
    simp [readLib, oneChild_eq h, oneChild_single, h2, KVs.insertAll_nil _ (kvsStated_distinct _ hs)]

theorem source_rt {c : Codec} (L : CodecLaws c) (s : Source) (h : locOk s.location = true) :
    sourceOf c (sourceNode c s) = some s := by
  have := location_rt L s.location h (cs := [locationNode c s.location]) (by simp [named, locationNode])
  simp [sourceOf, sourceNode, this]

theorem instanceChildren_named {c : Codec} {l : KVs} {ls : List Tree} (e : libNodes c l = .ok ls) (loc : List Dimension) :
    childrenNamed "location" (locationNode c loc :: ls) = [locationNode c loc] ∧
    childrenNamed "lib" (locationNode c loc :: ls) = ls := by
  constructor <;> simp [named, locationNode, libNodes_shape e]

theorem instance_rt {c : Codec} (L : CodecLaws c) (i : Instance) (hl : locOk i.location = true)
    (hs : kvsStated i.lib = true) (hc : kvsClean i.lib = true) (hd : kvsDates c i.lib = true) :
    ∃ t, instanceNode c i = .ok t ∧ named "instance" t = true ∧ instanceOf c t = some i := by
  obtain ⟨ls, h1, h3⟩ := lib_rt L i.lib hs hc hd
  obtain ⟨hloc, hlib⟩ := instanceChildren_named h1 i.location
  exact ⟨.elem "instance" (instanceAttrs i) (locationNode c i.location :: ls),
    by simp [instanceNode, h1, Out.map], rfl,
    by simp [instanceOf, location_rt L i.location hl hloc, h3 _ hlib, instanceAttrs]⟩

theorem instances_rt {c : Codec} (L : CodecLaws c) : ∀ is : List Instance,
    (∀ i ∈ is, locOk i.location = true ∧ kvsStated i.lib = true ∧ kvsClean i.lib = true ∧ kvsDates c i.lib = true) →
    ∃ ts, instanceNodes c is = .ok ts ∧ (∀ t ∈ ts, named "instance" t = true) ∧
      ts.mapM (instanceOf c) = some is
  | [], _ => ⟨[], rfl, by simp, by simp⟩
  | i :: r, h => by
    obtain ⟨hl, hs, hc, hd⟩ := h i (by simp)
    obtain ⟨t, h1, h2, h3⟩ := instance_rt L i hl hs hc hd
    obtain ⟨ts, h4, h5, h6⟩ := instances_rt L r (fun x hx => h x (by simp [hx]))
    exact ⟨t :: ts, by simp [instanceNodes, h1, h4, Out.bind], by simpa [h2] using h5,
      by simp [List.mapM_cons, h3, h6]⟩

theorem readRules_rt {c : Codec} (L : CodecLaws c) (r : Rules) (h : r.rules.all ruleOk = true) (cs : List Tree)
    (hcs : childrenNamed "rules" cs = if rulesIsEmpty r then [] else [rulesNode c r]) :
    readRules c cs = some r := by
  unfold readRules oneChild
  rw [hcs]
  by_cases hr : rulesIsEmpty r = true
  · obtain ⟨p, rs⟩ := r
    simp only [rulesIsEmpty, Bool.and_eq_true, List.isEmpty_iff, beq_iff_eq] at hr
    simp [rulesIsEmpty, hr.1, hr.2]
  · have h1 : readOptProcessing (some (showProcessing r.processing)) = some r.processing := by
      cases r.processing <;> simp [showProcessing, readOptProcessing, readProcessing]
    have h2 : (childrenNamed "rule" (r.rules.map (ruleNode c))).mapM (ruleOf c) = some r.rules := by
      rw [show childrenNamed "rule" (r.rules.map (ruleNode c)) = r.rules.map (ruleNode c) by simp [named, ruleNode]]
      exact mapM_map_some _ _ _ (fun x hx => rule_rt L x (List.all_eq_true.1 h x hx))
    simp [hr, rulesNode, h1, h2, -childrenNamed_map]

def topChildren (c : Codec) (d : Doc) (insts ls : List Tree) : List Tree :=
  wrapList "axes" (d.axes.map (axisNode c)) ++
  (if rulesIsEmpty d.rules then [] else [rulesNode c d.rules]) ++
  wrapList "sources" (d.sources.map (sourceNode c)) ++
  wrapList "instances" insts ++ ls

/-- what `toTree` writes, given what the two fallible parts wrote -/
def docTree (c : Codec) (d : Doc) (insts ls : List Tree) : Tree :=
  .elem "designspace" (mkAttrs (docAttrs c d)) (topChildren c d insts ls)

-- `rfl`: `topChildren` spells the children exactly as the body of `toTree` does
theorem toTree_eq_ok {c : Codec} {d : Doc} {t : Tree} : toTree c d = .ok t ↔
    ∃ insts, instanceNodes c d.instances = .ok insts ∧ ∃ ls, libNodes c d.lib = .ok ls ∧ docTree c d insts ls = t := by
  simp only [toTree, Out.bind_eq_ok, Out.ok.injEq]; rfl

structure TopSlots (c : Codec) (d : Doc) (insts ls : List Tree) : Prop where
  axes : childrenNamed "axes" (topChildren c d insts ls) = wrapList "axes" (d.axes.map (axisNode c))
  rules : childrenNamed "rules" (topChildren c d insts ls) = if rulesIsEmpty d.rules then [] else [rulesNode c d.rules]
  sources : childrenNamed "sources" (topChildren c d insts ls) = wrapList "sources" (d.sources.map (sourceNode c))
  instances : childrenNamed "instances" (topChildren c d insts ls) = wrapList "instances" insts
  lib : childrenNamed "lib" (topChildren c d insts ls) = ls

theorem topChildren_named {c : Codec} {d : Doc} {ls : List Tree} (e : libNodes c d.lib = .ok ls) (insts : List Tree) :
    TopSlots c d insts ls := by
  constructor <;> simp [topChildren, libNodes_shape e, named, rulesNode]

/-- `WellFormed c d`, part by part: `StatedWF` (the first eight fields), `DatesPrintable`, `LibTextClean` -/
structure WellFormedParts (c : Codec) (d : Doc) : Prop where
  format : d.format.notNaN = true
  axes_ne : d.axes ≠ []
  axes : ∀ a ∈ d.axes, axisOk a = true
  rules : ∀ r ∈ d.rules.rules, ruleOk r = true
  sources_ne : d.sources ≠ []
  sources : ∀ s ∈ d.sources, locOk s.location = true
  instances : ∀ i ∈ d.instances, locOk i.location = true ∧ kvsStated i.lib = true
  lib : kvsStated d.lib = true
  instDates : ∀ i ∈ d.instances, kvsDates c i.lib = true
  libDates : kvsDates c d.lib = true
  instClean : ∀ i ∈ d.instances, kvsClean i.lib = true
  libClean : kvsClean d.lib = true

theorem wellFormed_parts {c : Codec} {d : Doc} (h : WellFormed c d = true) : WellFormedParts c d := by
  simp only [WellFormed, StatedWF, DatesPrintable, LibTextClean, Bool.and_eq_true, Bool.not_eq_true',
    List.isEmpty_eq_false_iff, List.all_eq_true] at h
  obtain ⟨⟨⟨⟨⟨⟨⟨⟨⟨hf, hax⟩, haxs⟩, hru⟩, hso⟩, hsos⟩, hins⟩, hlib⟩, hd1, hd2⟩, hc1, hc2⟩ := h
  exact ⟨hf, hax, haxs, hru, hso, hsos, hins, hlib, hd1, hd2, hc1, hc2⟩

theorem doc_rt {c : Codec} (L : CodecLaws c) (d : Doc) (h : WellFormed c d = true) :
    ∃ insts ls, instanceNodes c d.instances = .ok insts ∧ libNodes c d.lib = .ok ls ∧
      toTree c d = .ok (docTree c d insts ls) ∧ fromTree c (docTree c d insts ls) = some d := by
  have W := wellFormed_parts h
  obtain ⟨insts, i1, hin, hinsts⟩ := instances_rt L d.instances
    (fun i hi => ⟨(W.instances i hi).1, (W.instances i hi).2, W.instClean i hi, W.instDates i hi⟩)
  obtain ⟨ls, l1, hl3⟩ := lib_rt L d.lib W.lib W.libClean W.libDates
  refine ⟨insts, ls, i1, l1, toTree_eq_ok.2 ⟨insts, i1, ls, l1, rfl⟩, ?_⟩
  have S := topChildren_named l1 insts
  have e1 : readWrapped (axisOf c) "axes" "axis" (topChildren c d insts ls) = some d.axes :=
    readWrapped_map _ _ S.axes W.axes_ne (fun _ => rfl) fun a ha => axis_rt L a (W.axes a ha)
  have e2 : readWrapped (sourceOf c) "sources" "source" (topChildren c d insts ls) = some d.sources :=
    readWrapped_map _ _ S.sources W.sources_ne (fun _ => rfl) fun s hs => source_rt L s (W.sources s hs)
  have e3 : readRules c (topChildren c d insts ls) = some d.rules :=
    readRules_rt L d.rules (List.all_eq_true.2 W.rules) _ S.rules
  have e4 : readWrappedDefault (instanceOf c) "instances" "instance" (topChildren c d insts ls)
      = some d.instances := by
    unfold readWrappedDefault oneChild
    rw [S.instances]
    by_cases hne : insts = []
    · subst hne; simpa [wrapList] using hinsts
    · rw [wrapList_ne hne]
      exact readVec1_of _ (by simpa [List.filter_eq_self, childrenNamed] using hin) hne hinsts
  simp [docTree, fromTree, L.f32_rt _ W.format, e1, e2, e3, e4, hl3 _ S.lib]

end C18
