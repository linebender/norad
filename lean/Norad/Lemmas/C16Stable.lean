import Norad.Lemmas.C16
/-! Laziness.  A `get` touches only its own cell, and what it puts there depends on the other entries
    only through their keys.  Hence a settled cell (loaded or failed) is not touched by any read-only
    operation, whatever the disk does; `get`s of different keys commute; and the cells a save writes
    after the wipe are the cells its forcing pass left. -/
namespace C16
open Path

variable {kind : Kind} {s s1 : Store} {disk d : Disk} {items i j : Items} {ks : List Key} {k k' : Key} {c : Cell}
  {ws : List WriteFile}

theorem hasKey_keys (h : i.map (·.1) = j.map (·.1)) (p : P) : hasKey i p = hasKey j p := by
  rw [hasKey_eq_any_keys, hasKey_eq_any_keys, h]

theorem validate_keys (h : i.map (·.1) = j.map (·.1)) (kind : Kind) (k : Key) (b : Bytes) :
    validate kind k i b = validate kind k j b := by
  have hd : descendantInStore i (parse k) = descendantInStore j (parse k) := by
    rw [descendantInStore_eq_any_keys, descendantInStore_eq_any_keys, h]
  have ha : ancestorInStore i (parse k) = ancestorInStore j (parse k) := by
    exact congrArg _ (funext fun a => by rw [hasKey_keys h])
  cases kind with
  | data => simp only [validate, validateData, ha, hd]
  | image => rfl

theorem loadItem_keys (h : i.map (·.1) = j.map (·.1)) (kind : Kind) (d : Disk) (k : Key) :
    loadItem kind d k i = loadItem kind d k j := by
  unfold loadItem
  cases d k with
  | none => rfl
  | some b => simp only [validate_keys h]

theorem find?_get_ne_none (s : Store) (d : Disk) (k' : Key) (h : find? s.items k ≠ none) :
    find? (get s d k').1.items k ≠ none := by
  rwa [Option.ne_none_iff_isSome, find?_isSome, hasKey_keys (keys_get s d k'), ← find?_isSome,
    ← Option.ne_none_iff_isSome]

theorem iterFrom_cons (s : Store) (d : Disk) (k : Key) (r : List Key) : iterFrom s d (k :: r) =
    ((iterFrom (get s d k).1 d r).1, (k, (get s d k).2.getD (.error .io)) :: (iterFrom (get s d k).1 d r).2) := rfl

theorem find?_get_other (s : Store) (d : Disk) {a b : Key} (hab : parse a ≠ parse b) :
    find? (get s d a).1.items b = find? s.items b := by
  rcases get_fst s d a with hg | ⟨_, _, hg⟩ <;> rw [hg]
  rw [find?_map_upd]
  cases hf : find? s.items b with
  | none => rfl
  | some e => rw [Option.map_some, upd_other fun h => hab (h.symm.trans (find?_mem hf).2)]

def Settled (s : Store) (k : Key) (c : Cell) : Prop :=
  (∃ k0, find? s.items k = some (k0, c)) ∧ c ≠ .notLoaded

theorem Settled.get_eq (h : Settled s k c) (disk : Disk) : get s disk k = (s, some (cellResult c)) :=
  let ⟨⟨k0, hf⟩, hne⟩ := h
  get_settled_ignores_disk s disk k k0 c hf hne

theorem settled_get (h : Settled s k c) : Settled (get s disk k').1 k c := by
  by_cases hp : parse k' = parse k
  · have h' : Settled s k' c := ⟨h.1.imp fun k0 hf => find?_congr hp ▸ hf, h.2⟩
    rwa [h'.get_eq]
  · exact ⟨h.1.imp fun k0 hf => (find?_get_other s disk hp).trans hf, h.2⟩

theorem get_settles (h : find? s.items k ≠ none) :
    ∃ c, Settled (get s disk k).1 k c ∧ (get s disk k).2 = some (cellResult c) := by
  fun_cases get s disk k
  next hf => exact absurd hf h
  next k0 hf _ =>
    refine ⟨_, ⟨⟨k0, ?_⟩, loadItem_ne_notLoaded _ _ _ _⟩, rfl⟩
    rw [setCell_of_hasKey (find?_hasKey hf), find?_map_upd, hf, Option.map_some, upd_same (find?_mem hf).2]
  next k0 c hc hf => exact ⟨c, ⟨⟨k0, hf⟩, hc⟩, rfl⟩

theorem settled_iterFrom (ks : List Key) (h : Settled s k c) : Settled (iterFrom s disk ks).1 k c :=
  iterFrom_preserves (Q := fun s => Settled s k c) (fun _ _ => settled_get) ks h

theorem settled_forceUntilError (ks : List Key)
    (h : Settled s k c) : Settled (forceUntilError s disk ks).1 k c :=
  forceUntilError_preserves (Q := fun s => Settled s k c) (fun _ _ => settled_get) ks h

/-- a change of the disk counts as read-only -/
def Op.readOnly : Op → Bool
  | .get _ => true
  | .iter => true
  | .keys => true
  | .isEmpty => true
  | .setDisk _ => true
  | _ => false

theorem settled_step {st : State} {op : Op} (hro : op.readOnly = true)
    (h : Settled st.store k c) : Settled (step st op).1.store k c := by
  cases op with
  | insert | remove | clear => cases hro
  | get k' => exact settled_get h
  | iter => exact settled_iterFrom _ h
  | _ => exact h

theorem settled_run {st : State} (ops : List Op)
    (hro : ∀ op ∈ ops, op.readOnly = true) (h : Settled st.store k c) : Settled (run st ops).store k c := by
  induction ops generalizing st with
  | nil => exact h
  | cons op r ih =>
    exact ih (fun o ho => hro o (List.mem_cons_of_mem _ ho)) (settled_step (hro op (List.mem_cons_self ..)) h)

theorem upd_comm {a b : Key} (ca cb : Cell) (hab : parse a ≠ parse b) (e : Key × Cell) :
    upd b cb (upd a ca e) = upd a ca (upd b cb e) := by
  by_cases ha : parse e.1 = parse a
  · have hb : parse e.1 ≠ parse b := fun h => hab (ha.symm.trans h)
    rw [upd_other (k := b) hb, upd_same ha, upd_other (k := b) (e := (e.1, ca)) hb]
  · rw [upd_other (k := a) ha, upd_other (k := a) (e := upd b cb e) (by rw [upd_fst]; exact ha)]

theorem get_comm (s : Store) (d : Disk) {a b : Key} (hab : parse a ≠ parse b) :
    (get (get s d a).1 d b).1 = (get (get s d b).1 d a).1 := by
  -- a key that is not lazy is not made lazy by a `get` of the other key, and its own `get` changes nothing
  have idle : ∀ {a b : Key}, parse a ≠ parse b → (¬ ∃ k0, find? s.items a = some (k0, .notLoaded)) →
      (get (get s d b).1 d a).1 = (get (get s d a).1 d b).1 := by
    intro a b hab ha
    have h1 : (get s d a).1 = s := (get_fst s d a).resolve_right fun ⟨k0, hf, _⟩ => ha ⟨k0, hf⟩
    have h2 : (get (get s d b).1 d a).1 = (get s d b).1 := (get_fst _ d a).resolve_right
      fun ⟨k0, hf, _⟩ => ha ⟨k0, (find?_get_other s d (Ne.symm hab)).symm.trans hf⟩
    rw [h1, h2]
  by_cases ha : ∃ k0, find? s.items a = some (k0, .notLoaded)
  · by_cases hb : ∃ k0, find? s.items b = some (k0, .notLoaded)
    · -- both lazy: each cell is filled with what its key loads, the other entry counting only as a key
      obtain ⟨ka, hfa⟩ := ha
      obtain ⟨kb, hfb⟩ := hb
      rw [get_of_lazy ((find?_get_other s d hab).trans hfb),
        get_of_lazy ((find?_get_other s d (Ne.symm hab)).trans hfa), get_of_lazy hfa, get_of_lazy hfb]
      simp only [loadItem_keys (keys_map_upd ..), List.map_map]
      -- left: `⟨kind, map (upd ∘ upd)⟩` in the two orders
      exact congrArg _ (List.map_congr_left fun e _ => upd_comm _ _ hab e)
    · exact idle (Ne.symm hab) hb
  · exact (idle hab ha).symm

theorem iterFrom_fst (s : Store) (d : Disk) (ks : List Key) :
    (iterFrom s d ks).1 = ks.foldl (fun s k => (get s d k).1) s := by
  induction ks generalizing s with
  | nil => rfl
  | cons k r ih => exact ih _

theorem forceUntilError_fst_of_none
    (h : forceUntilError s d ks = (s1, none)) : s1 = ks.foldl (fun s k => (get s d k).1) s := by
  fun_induction forceUntilError s d ks with
  | case1 => exact (congrArg Prod.fst h).symm
  | case2 s k r s b heq ih => rw [List.foldl_cons, heq]; exact ih h
  | case3 => cases h

theorem keys_forceUntilError (s : Store) (disk : Disk) (ks : List Key) :
    keys (forceUntilError s disk ks).1 = keys s :=
  forceUntilError_preserves (Q := fun s' => keys s' = keys s) (fun s' k h => (keys_get s' disk k).trans h) ks rfl

theorem kind_forceUntilError (s : Store) (disk : Disk) (ks : List Key) :
    (forceUntilError s disk ks).1.kind = s.kind :=
  forceUntilError_preserves (Q := fun s' => s'.kind = s.kind) (fun s' k h => (kind_get s' disk k).trans h) ks rfl

theorem forceUntilError_none_loaded
    (h : forceUntilError s disk ks = (s1, none)) : ∀ k ∈ ks, ∃ b, Settled s1 k (.loaded b) := by
  fun_induction forceUntilError s disk ks with
  | case1 => exact fun k hk => nomatch hk
  | case3 => cases h
  | case2 s k' r s' b heq ih =>
    intro k hk
    rcases List.mem_cons.1 hk with rfl | hk
    · have hv : (get s disk k).2 = some (.ok b) := congrArg Prod.snd heq
      obtain ⟨c, hs, hr⟩ := get_settles (disk := disk) (find?_ne_none_of_get hv)
      rw [hv] at hr
      cases c with
      | notLoaded => exact absurd rfl hs.2
      | error e => cases hr
      | loaded b' =>
        have := settled_forceUntilError (disk := disk) r hs
        rw [heq, h] at this
        exact ⟨b', this⟩
    · exact ih h k hk

theorem writesOfItems_eq_some (h : writesOfItems kind items = some ws) :
    items = ws.map (fun w => (w.key, .loaded w.bytes)) ∧ ∀ w ∈ ws, w.kind = kind := by
  fun_induction writesOfItems kind items generalizing ws <;> cases h
  case case1 => exact ⟨rfl, fun _ hw => nomatch hw⟩
  case case2 k b r ws' hr ih => exact ⟨congrArg _ (ih hr).1, List.forall_mem_cons.2 ⟨rfl, (ih hr).2⟩⟩

theorem writesOf_eq_some (h : writesOf s = some ws) :
    s.items = ws.map (fun w => (w.key, .loaded w.bytes)) ∧ ∀ w ∈ ws, w.kind = s.kind :=
  writesOfItems_eq_some h

theorem writesOf_keys (h : writesOf s = some ws) : ws.map (·.key) = keys s := by
  rw [keys, (writesOf_eq_some h).1, List.map_map]
  rfl

theorem writesOf_distinct (hi : Inv s) (h : writesOf s = some ws) :
    (∀ w ∈ ws, w.key ∈ keys s) ∧ ws.Pairwise fun a b => parse a.key ≠ parse b.key := by
  have hk := writesOf_keys h
  refine ⟨fun w hw => hk ▸ List.mem_map_of_mem hw, ?_⟩
  have := hi.keysOK.pairwise_ne
  rwa [← hk, List.pairwise_map] at this

theorem writesOfItems_isSome
    (h : ∀ e ∈ items, ∃ b, e.2 = .loaded b) : (writesOfItems kind items).isSome = true := by
  fun_induction writesOfItems kind items with
  | case1 => rfl                                       -- no entry
  | case2 => rfl                                       -- loaded, rest written
  | case3 k b r hr ih => rw [hr] at ih; exact ih fun e he => h e (List.mem_cons_of_mem _ he)        -- loaded, rest `none`
  | case4 e r hne => obtain ⟨b, hb⟩ := h e List.mem_cons_self; exact (hne e.1 b (by rw [← hb])).elim -- not loaded

theorem writesOf_isSome_after_force (hi : Inv s)
    (h : forceUntilError s disk (keys s) = (s1, none)) : (writesOf s1).isSome = true := by
  have hinv : Inv s1 := by have := inv_forceUntilError s disk (keys s) hi; rwa [h] at this
  have hkeys : keys s1 = keys s := by have := keys_forceUntilError s disk (keys s); rwa [h] at this
  apply writesOfItems_isSome
  intro e he
  obtain ⟨b, ⟨k0, hf⟩, _⟩ := forceUntilError_none_loaded h e.1 (hkeys ▸ List.mem_map_of_mem he)
  rw [hinv.find?_self he] at hf
  exact ⟨b, congrArg Prod.snd (Option.some.inj hf)⟩

end C16
