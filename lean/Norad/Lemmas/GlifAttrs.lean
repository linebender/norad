import Norad.Spec.C12
import Norad.Model.GlifWrite
import Norad.Lemmas.KeyChain
import Norad.Lemmas.Assoc
/-!
The attribute loops of the glif parser.  All but `uniStep` and `ctStep` have one shape (`keyed`: the name selects a key,
the key acts on the value).  For the side of `Spec.judge`, the keys of a loop are the rows of `Spec.attrTable` (`KeyTable`,
one evaluated table check per element); every keyed loop is a view of one collected record (`Rec`, `collect`,
`parseX_view`).
-/
namespace Glif
open Spec

theorem foldAttrs_nil' {σ : Type} (st : σ → Attr → Option σ) (acc : σ) : foldAttrs st acc [] = some acc := rfl

theorem foldAttrs_cons' {σ : Type} (st : σ → Attr → Option σ) (acc : σ) (a : Attr) (as : List Attr) :
    foldAttrs st acc (a :: as) = (st acc a).bind (fun acc' => foldAttrs st acc' as) := by
  simp only [foldAttrs]; cases st acc a <;> rfl

theorem foldAttrs_one {σ : Type} (st : σ → Attr → Option σ) (acc : σ) (a : Attr) : foldAttrs st acc [a] = st acc a := by
  simp only [foldAttrs]; cases st acc a <;> rfl

theorem foldAttrs_append {σ : Type} (step : σ → Attr → Option σ) (acc : σ) (l₁ l₂ : List Attr) :
    foldAttrs step acc (l₁ ++ l₂) = (foldAttrs step acc l₁).bind (fun acc' => foldAttrs step acc' l₂) := by
  fun_induction foldAttrs step acc l₁ <;> simp_all [foldAttrs]

theorem foldAttrs_seq {σ : Type} {st : σ → Attr → Option σ} {acc acc₁ : σ} {l₁ l₂ : List Attr} {r : Option σ}
    (h₁ : foldAttrs st acc l₁ = some acc₁) (h₂ : foldAttrs st acc₁ l₂ = r) : foldAttrs st acc (l₁ ++ l₂) = r := by
  rw [foldAttrs_append, h₁]; exact h₂

theorem foldAttrs_none_of_mem {σ : Type} (step : σ → Attr → Option σ) (a : Attr)
    (h : ∀ acc, step acc a = none) :
    ∀ (as : List Attr) (acc : σ), a ∈ as → foldAttrs step acc as = none := by
  intro as acc
  fun_induction foldAttrs step acc as with
  | case1 => nofun
  | case2 => exact fun _ => rfl
  | case3 acc b bs acc' hb ih =>
    intro hm
    rcases List.mem_cons.1 hm with rfl | hm
    · rw [h] at hb; cases hb
    · exact ih hm

theorem foldAttrs_none_iff {σ : Type} {st : σ → Attr → Option σ} {B : Attr → Prop} (h : ∀ acc a, st acc a = none ↔ B a) :
    ∀ (as : List Attr) (acc : σ), foldAttrs st acc as = none ↔ ∃ a ∈ as, B a := by
  intro as acc
  fun_induction foldAttrs st acc as with
  | case1 => simp
  | case2 acc a r hs => simp [(h acc a).1 hs]
  | case3 acc a r acc1 hs ih =>
    have : ¬B a := fun hb => by rw [(h acc a).2 hb] at hs; cases hs
    simp [ih, this]

theorem foldAttrs_inv {σ : Type} (step : σ → Attr → Option σ) (P : σ → Prop)
    (hstep : ∀ acc a acc', P acc → step acc a = some acc' → P acc') :
    ∀ (as : List Attr) (acc acc' : σ), P acc → foldAttrs step acc as = some acc' → P acc' := by
  intro as acc
  fun_induction foldAttrs step acc as with
  | case1 => rintro _ hp ⟨⟩; exact hp
  | case2 => nofun
  | case3 acc b bs acc1 hb ih => exact fun acc' hp h => ih acc' (hstep _ _ _ hp hb) h

theorem foldAttrs_view {σ τ : Type} {f : σ → Attr → Option σ} {g : τ → Attr → Option τ} (φ : τ → σ)
    (h : ∀ m a, f (φ m) a = (g m a).map φ) : ∀ (as : List Attr) (m : τ), foldAttrs f (φ m) as = (foldAttrs g m as).map φ := by
  intro as m
  fun_induction foldAttrs g m as <;> simp_all [foldAttrs]

theorem foldAttrs_perm {σ : Type} (step : σ → Attr → Option σ)
    (hcomm : ∀ acc (a b : Attr), a.1 ≠ b.1 →
      (step acc a).bind (fun s => step s b) = (step acc b).bind (fun s => step s a))
    {l₁ l₂ : List Attr} (hp : l₁.Perm l₂) (hd : (l₁.map (fun e => e.1)).Nodup) (acc : σ) :
    foldAttrs step acc l₁ = foldAttrs step acc l₂ := by
  induction hp generalizing acc with
  | nil => rfl
  | cons a _ ih =>
    simp only [List.map_cons, List.nodup_cons] at hd
    simp only [foldAttrs]
    cases step acc a with
    | none => rfl
    | some acc' => exact ih hd.2 acc'
  | swap a b l =>
    simp only [List.map_cons, List.nodup_cons, List.mem_cons, not_or] at hd
    have hc := hcomm acc b a hd.1.1
    simp only [foldAttrs]
    cases hb : step acc b <;> cases ha : step acc a <;> simp only [hb, ha, Option.bind_none, Option.bind_some] at hc
    · rfl
    · simp [← hc]
    · simp [hc]
    · simp only [hc]
  | trans h₁ _ ih₁ ih₂ =>
    have hd₂ := (h₁.map (fun e : Attr => e.1)).nodup_iff.1 hd
    rw [ih₁ hd acc, ih₂ hd₂ acc]

theorem foldAttrs_perm_single {σ : Type} {step : σ → Attr → Option σ} {n : Str}
    (hother : ∀ acc a, a.1 ≠ n → step acc a = none)
    {l₁ l₂ : List Attr} (hp : l₁.Perm l₂) (hd : (l₁.map (fun e => e.1)).Nodup) (acc : σ) :
    foldAttrs step acc l₁ = foldAttrs step acc l₂ := by
  refine foldAttrs_perm step (fun acc a b hab => ?_) hp hd acc
  by_cases ha : a.1 = n
  · have hb : b.1 ≠ n := fun hb => hab (ha.trans hb.symm)
    simp [fun acc => hother acc b hb]
  · simp [fun acc => hother acc a ha]

section
variable {σ : Type} (st : σ → Attr → Option σ) (acc : σ)

theorem foldAttrs_optAttr {α : Type} (k : String) (o : Option α) (spell : α → Str) (set : σ → Option α → σ)
    (h0 : set acc none = acc) (h1 : ∀ x, o = some x → st acc (k.toList, spell x) = some (set acc (some x))) :
    foldAttrs st acc (optAttr k (o.map spell)) = some (set acc o) := by
  cases o with
  | none => exact congrArg some h0.symm
  | some x => exact (foldAttrs_one st acc _).trans (h1 x rfl)

theorem foldAttrs_optStr (k : String) (o : Option Str) (set : σ → Option Str → σ) (h0 : set acc none = acc)
    (h1 : ∀ x, o = some x → st acc (k.toList, x) = some (set acc (some x))) :
    foldAttrs st acc (optAttr k o) = some (set acc o) := by
  simpa only [Option.map_id_fun, id_eq] using foldAttrs_optAttr st acc k o id set h0 h1

theorem foldAttrs_gate (c : Bool) (a : Attr) {acc' : σ} (h1 : c = true → st acc a = some acc') (h0 : c = false → acc' = acc) :
    foldAttrs st acc (if c then [a] else []) = some acc' := by
  cases c with
  | true => exact (foldAttrs_one st acc a).trans (h1 rfl)
  | false => exact congrArg some (h0 rfl).symm

end

/-- `Spec.get` takes the name as a `String`; on the characters it is a lookup -/
theorem get_is : IsLookup (fun (s : Str) (as : List Attr) => Spec.get as (String.ofList s)) :=
  ⟨fun _ => rfl, fun k k' v r => by
    simp only [Spec.get, List.find?_cons, String.toList_ofList]; by_cases h : k' = k <;> simp [h]⟩

theorem get_eq (as : List Attr) (k : String) :
    Spec.get as k = (fun (s : Str) (as : List Attr) => Spec.get as (String.ofList s)) k.toList as := by
  simp only [String.ofList_toList]

theorem get_mem {as : List Attr} {k : String} {v : Str} (h : Spec.get as k = some v) : (k.toList, v) ∈ as :=
  get_is.mem ((get_eq ..).symm.trans h)

theorem has_iff_mem {as : List Attr} {k : String} : has as k = true ↔ k.toList ∈ as.map (·.1) := by
  rw [has, Option.isSome_iff_ne_none, Ne, get_eq, get_is.eq_none_iff, Decidable.not_not]

theorem not_mem_of_get_none {as : List Attr} {k : String} (h : Spec.get as k = none) : k.toList ∉ as.map (·.1) :=
  get_is.eq_none_iff.1 ((get_eq ..).symm.trans h)

theorem get_of_mem_nodup {as : List Attr} {k : String} {v : Str} (hnd : (as.map (·.1)).Nodup)
    (hm : (k.toList, v) ∈ as) : Spec.get as k = some v :=
  (get_eq ..).trans (get_is.of_mem_nodup hnd hm)

def keyed {κ σ : Type} (keyOf : Str → Option κ) (apply : κ → Str → σ → Option σ) (acc : σ) (a : Attr) : Option σ :=
  match keyOf a.1 with
  | none => none
  | some k => apply k a.2 acc

/-- `keys` in the order of the rows of `attrTable n` (the check compares row by row), which is not always the order of the
    key function's chain -/
structure KeyTable {κ : Type} (keyOf : Str → Option κ) (name : κ → Str) (kind : κ → AK) (n : Str) (keys : List κ) : Prop where
  names : KeyNames keyOf name
  all : ∀ k, k ∈ keys
  table : (attrTable n).map (List.map fun p => (keyOf p.1.toList, p.2)) = some (keys.map fun k => (some k, kind k))

section
variable {κ : Type} {keyOf : Str → Option κ} {name : κ → Str} {kind : κ → AK} {n : Str} {keys : List κ}

theorem KeyTable.rows (T : KeyTable keyOf name kind n keys) : ∃ tbl, attrTable n = some tbl ∧
    (∀ p ∈ tbl, ∃ k, keyOf p.1.toList = some k ∧ p.2 = kind k) ∧ (∀ k, ∃ p ∈ tbl, keyOf p.1.toList = some k ∧ p.2 = kind k) := by
  obtain ⟨tbl, ht, hm⟩ := Option.map_eq_some_iff.1 T.table
  refine ⟨tbl, ht, fun p hp => ?_, fun k => ?_⟩
  · have : (keyOf p.1.toList, p.2) ∈ keys.map fun k => (some k, kind k) := hm ▸ List.mem_map.2 ⟨p, hp, rfl⟩
    obtain ⟨k, _, hk⟩ := List.mem_map.1 this
    exact ⟨k, (congrArg Prod.fst hk).symm, (congrArg Prod.snd hk).symm⟩
  · have : (some k, kind k) ∈ tbl.map fun p => (keyOf p.1.toList, p.2) := hm ▸ List.mem_map.2 ⟨k, T.all k, rfl⟩
    obtain ⟨p, hp, hk⟩ := List.mem_map.1 this
    exact ⟨p, hp, congrArg Prod.fst hk, congrArg Prod.snd hk⟩

end

section
variable {rd : Str → Option Nat} {ver : Nat} {seen : List Str}

def aKind : AKey → AK
  | .x => .num | .y => .num | .name => .name | .color => .color | .ident => .ident

theorem aKeyTable : KeyTable aKeyOf aKeyName aKind sAnchor [.x, .y, .name, .color, .ident] :=
  ⟨aKeyNames, fun k => by cases k <;> simp, by decide +kernel⟩

theorem aStep_keyed : aStep rd ver seen = keyed aKeyOf (aApply rd ver seen) := by
  funext acc a; unfold aStep keyed; cases aKeyOf a.1 <;> rfl

def pKind : PKey → AK
  | .x => .num | .y => .num | .name => .name | .typ => .ptype | .smooth => .smooth | .ident => .ident

theorem pKeyTable : KeyTable pKeyOf pKeyName pKind sPoint [.x, .y, .typ, .smooth, .name, .ident] :=
  ⟨pKeyNames, fun k => by cases k <;> simp, by decide +kernel⟩

theorem pStep_keyed : pStep rd ver seen = keyed pKeyOf (pApply rd ver seen) := by
  funext acc a; unfold pStep keyed; cases pKeyOf a.1 <;> rfl

def guKind : GuKey → AK
  | .x => .num | .y => .num | .angle => .angle | .name => .name | .color => .color | .ident => .ident

theorem guKeyTable : KeyTable guKeyOf guKeyName guKind sGuideline [.x, .y, .angle, .name, .color, .ident] :=
  ⟨guKeyNames, fun k => by cases k <;> simp, by decide +kernel⟩

theorem guStep_keyed : guStep rd ver seen = keyed guKeyOf (guApply rd ver seen) := by
  funext acc a; unfold guStep keyed; cases guKeyOf a.1 <;> rfl

def iKind : IKey → AK
  | .t _ => .num | .color => .color | .fileName => .file

theorem iKeyTable : KeyTable iKeyOf iKeyName iKind sImage
    [.fileName, .color, .t .xScale, .t .xyScale, .t .yxScale, .t .yScale, .t .xOffset, .t .yOffset] :=
  ⟨iKeyNames, fun k => by rcases k with ⟨⟨⟩⟩ | _ | _ <;> simp, by decide +kernel⟩

theorem iStep_keyed : iStep rd = keyed iKeyOf (iApply rd) := by
  funext acc a; unfold iStep keyed; cases iKeyOf a.1 <;> rfl

def cKind : CKey → AK
  | .t _ => .num | .base => .name | .ident => .ident

theorem cKeyTable : KeyTable cKeyOf cKeyName cKind sComponent
    [.base, .ident, .t .xScale, .t .xyScale, .t .yxScale, .t .yScale, .t .xOffset, .t .yOffset] :=
  ⟨cKeyNames, fun k => by rcases k with ⟨⟨⟩⟩ | _ | _ <;> simp, by decide +kernel⟩

theorem cStep_keyed : cStep rd ver seen = keyed cKeyOf (cApply rd ver seen) := by
  funext acc a; unfold cStep keyed; cases cKeyOf a.1 <;> rfl

theorem advKeyTable : KeyTable advKeyOf advKeyName (fun _ => .num) sAdvance [.width, .height] :=
  ⟨advKeyNames, fun k => by cases k <;> simp, by decide +kernel⟩

theorem advStep_keyed : advStep rd = keyed advKeyOf (advApply rd) := by
  funext acc a; unfold advStep keyed; cases advKeyOf a.1 <;> rfl

theorem gStep_keyed : gStep = keyed gKeyOf gApply := by
  funext acc a; unfold gStep keyed; cases gKeyOf a.1 <;> rfl

/-! The name functions are reducible, so `xStep_name .x` rewrites at the literal `"x".toList`; not at
`"identifier".toList` (the name of `.ident` is the model's `sIdentifier`): give the lemma as a term there. -/

theorem gStep_name (k : GKey) (v : Str) (acc : GlyphAcc) : gStep acc (gKeyName k, v) = gApply k v acc := by
  simp only [gStep, gKeyNames.of_name k]
theorem advStep_name (k : AdvKey) (v : Str) (acc : Nat × Nat) : advStep rd acc (advKeyName k, v) = advApply rd k v acc := by
  simp only [advStep, advKeyNames.of_name k]
theorem aStep_name (k : AKey) (v : Str) (acc : AnchorAcc) :
    aStep rd ver seen acc (aKeyName k, v) = aApply rd ver seen k v acc := by simp only [aStep, aKeyNames.of_name k]
theorem guStep_name (k : GuKey) (v : Str) (acc : GuideAcc) :
    guStep rd ver seen acc (guKeyName k, v) = guApply rd ver seen k v acc := by simp only [guStep, guKeyNames.of_name k]
theorem iStep_name (k : IKey) (v : Str) (acc : ImageAcc) : iStep rd acc (iKeyName k, v) = iApply rd k v acc := by
  simp only [iStep, iKeyNames.of_name k]
theorem cStep_name (k : CKey) (v : Str) (acc : CompAcc) :
    cStep rd ver seen acc (cKeyName k, v) = cApply rd ver seen k v acc := by simp only [cStep, cKeyNames.of_name k]
theorem pStep_name (k : PKey) (v : Str) (acc : PointAcc) :
    pStep rd ver seen acc (pKeyName k, v) = pApply rd ver seen k v acc := by simp only [pStep, pKeyNames.of_name k]

end

theorem readPointType_names : readPointType "move".toList = some .move ∧ readPointType "line".toList = some .line ∧
    readPointType "curve".toList = some .curve ∧ readPointType "qcurve".toList = some .qcurve := by decide +kernel

/-- a fact about the characters of a string literal, on the explicit list (which `simp` normalises `"lit".toList` to) -/
theorem of_lit {α : Type} {f : Str → α} {s : String} {l : List Char} {a : α} (h : f s.toList = a)
    (hs : String.ofList l = s) : f l = a := by
  subst hs
  rwa [String.toList_ofList] at h

@[simp] theorem tKeyOf_lit_xScale : tKeyOf ['x', 'S', 'c', 'a', 'l', 'e'] = some TKey.xScale :=
  of_lit (tKeyNames.of_name .xScale) rfl
@[simp] theorem tKeyOf_lit_xyScale : tKeyOf ['x', 'y', 'S', 'c', 'a', 'l', 'e'] = some TKey.xyScale :=
  of_lit (tKeyNames.of_name .xyScale) rfl
@[simp] theorem tKeyOf_lit_yxScale : tKeyOf ['y', 'x', 'S', 'c', 'a', 'l', 'e'] = some TKey.yxScale :=
  of_lit (tKeyNames.of_name .yxScale) rfl
@[simp] theorem tKeyOf_lit_yScale : tKeyOf ['y', 'S', 'c', 'a', 'l', 'e'] = some TKey.yScale :=
  of_lit (tKeyNames.of_name .yScale) rfl
@[simp] theorem tKeyOf_lit_xOffset : tKeyOf ['x', 'O', 'f', 'f', 's', 'e', 't'] = some TKey.xOffset :=
  of_lit (tKeyNames.of_name .xOffset) rfl
@[simp] theorem tKeyOf_lit_yOffset : tKeyOf ['y', 'O', 'f', 'f', 's', 'e', 't'] = some TKey.yOffset :=
  of_lit (tKeyNames.of_name .yOffset) rfl
theorem sIdentifier_lit : sIdentifier = ['i', 'd', 'e', 'n', 't', 'i', 'f', 'i', 'e', 'r'] := String.toList_ofList
theorem sHex_lit : sHex = ['h', 'e', 'x'] := String.toList_ofList

section
variable {rd : Str → Option Nat} {ver : Nat} {seen : List Str} {vx vy : Str} {x y : Nat}

theorem aFold_xy (hx : rd vx = some x) (hy : rd vy = some y) (acc : AnchorAcc) :
    foldAttrs (aStep rd ver seen) acc [("x".toList, vx), ("y".toList, vy)] = some { acc with x := some x, y := some y } := by
  simp only [foldAttrs_cons', foldAttrs_nil', Option.bind_some, aStep_name .x, aStep_name .y, aApply, hx, hy]

theorem pFold_xy (hx : rd vx = some x) (hy : rd vy = some y) (acc : PointAcc) :
    foldAttrs (pStep rd ver seen) acc [("x".toList, vx), ("y".toList, vy)] = some { acc with x := some x, y := some y } := by
  simp only [foldAttrs_cons', foldAttrs_nil', Option.bind_some, pStep_name .x, pStep_name .y, pApply, hx, hy]

end

section
variable {rd : Str → Option Nat}

def tGet : TKey → Transform → Nat
  | .xScale, t => t.xScale | .xyScale, t => t.xyScale | .yxScale, t => t.yxScale
  | .yScale, t => t.yScale | .xOffset, t => t.xOffset | .yOffset, t => t.yOffset

theorem tSet_tGet (k : TKey) (t : Transform) : tSet k (tGet k t) t = t := by cases k <;> rfl

/-- `mk t`: the accumulator of the loop `st` with transformation `t`; second disjunct of `h`: a key that is left out ends
    with its default -/
theorem coef_fold {σ : Type} {st : σ → Attr → Option σ} (mk : Transform → σ)
    (hst : ∀ t s k v n, tKeyOf s = some k → rd v = some n → st (mk t) (s, v) = some (mk (tSet k n t)))
    (seg : TKey → List Attr) (val : TKey → Nat)
    (h : ∀ k, (∃ v, seg k = [(tKeyName k, v)] ∧ rd v = some (val k)) ∨ (seg k = [] ∧ tGet k {} = val k)) :
    foldAttrs st (mk {}) (seg .xScale ++ seg .xyScale ++ seg .yxScale ++ seg .yScale ++ seg .xOffset ++ seg .yOffset) =
      some (mk ⟨val .xScale, val .xyScale, val .yxScale, val .yScale, val .xOffset, val .yOffset⟩) := by
  have one : ∀ k t₀, tGet k t₀ = tGet k {} → foldAttrs st (mk t₀) (seg k) = some (mk (tSet k (val k) t₀)) := by
    intro k t₀ h0
    rcases h k with ⟨v, hs, hv⟩ | ⟨hs, hd⟩
    · rw [hs]; exact (foldAttrs_one ..).trans (hst t₀ _ k v _ (tKeyNames.of_name k) hv)
    · rw [hs, ← hd, ← h0, tSet_tGet]; rfl
  exact foldAttrs_seq (foldAttrs_seq (foldAttrs_seq (foldAttrs_seq (foldAttrs_seq (one .xScale _ rfl) (one .xyScale _ rfl))
    (one .yxScale _ rfl)) (one .yScale _ rfl)) (one .xOffset _ rfl)) (one .yOffset _ rfl)

end

/-! The keyed loops as views of one collected record.  A keyed loop asks, per attribute, a reader whether the value is
acceptable and stores what was read in the field of the key.  `Rec κ` stores the value itself: `collect` keeps, per key, the
value of the last attribute with the key's name and stops at a value `ok` does not accept.  The accumulator of an element is
a view of that collection (the readers applied to the collected values: `aOf`, …), its parser the collection followed by the
view and the finishing step (`parseX_view`). -/

/-- the file name of an image and the value of `smooth` are never refused in the attribute loop -/
def readable (rd : Str → Option Nat) (ver : Nat) (seen : List Str) : AK → Str → Bool
  | .num, v => (rd v).isSome
  | .angle, v => match rd v with | some b => angleOk b | none => false
  | .name, v => validName v
  | .color, v => (readCol rd v).isSome
  | .ident, v => (readIdent ver seen v).isSome
  | .hex, v => (parseHex v).isSome
  | .ptype, v => (readPointType v).isSome
  | .smooth, _ => true
  | .file, _ => true

abbrev readableBy {κ : Type} (kind : κ → AK) (rd : Str → Option Nat) (ver : Nat) (seen : List Str) (k : κ) (v : Str) : Bool :=
  readable rd ver seen (kind k) v

abbrev Rec (κ : Type) := κ → Option Str

def upd {κ : Type} [DecidableEq κ] (m : Rec κ) (k : κ) (v : Str) : Rec κ := fun k' => if k' = k then some v else m k'

theorem upd_same {κ : Type} [DecidableEq κ] (m : Rec κ) (k : κ) (v : Str) : upd m k v k = some v := if_pos rfl

theorem upd_other {κ : Type} [DecidableEq κ] (m : Rec κ) {k k' : κ} (v : Str) (h : k' ≠ k) : upd m k v k' = m k' := if_neg h

def recApply {κ : Type} [DecidableEq κ] (ok : κ → Str → Bool) (k : κ) (v : Str) (m : Rec κ) : Option (Rec κ) :=
  if ok k v then some (upd m k v) else none

def collect {κ : Type} [DecidableEq κ] (keyOf : Str → Option κ) (ok : κ → Str → Bool) (as : List Attr) : Option (Rec κ) :=
  foldAttrs (keyed keyOf (recApply ok)) (fun _ => none) as

section
variable {κ σ : Type} [DecidableEq κ] {keyOf : Str → Option κ} {name : κ → Str} {apply : κ → Str → σ → Option σ}
  {view : Rec κ → σ} {ok : κ → Str → Bool}

theorem keyed_view (h : ∀ k v m, apply k v (view m) = (recApply ok k v m).map view) (as : List Attr) :
    foldAttrs (keyed keyOf apply) (view fun _ => none) as = (collect keyOf ok as).map view :=
  foldAttrs_view view (fun m a => by unfold keyed; cases keyOf a.1 <;> simp only [Option.map_none, h]) as _

theorem collect_none_iff (as : List Attr) : collect keyOf ok as = none ↔
    ∃ a ∈ as, ∀ k, keyOf a.1 = some k → ok k a.2 = false :=
  foldAttrs_none_iff (fun acc a => by
    unfold keyed recApply
    cases keyOf a.1 with
    | none => simp
    | some k => cases ok k a.2 <;> simp) as _

theorem untaken_of_none {s v : Str} (h : keyOf s = none) : ∀ k, keyOf s = some k → ok k v = false :=
  fun k hk => by rw [h] at hk; cases hk

theorem untaken_of_name (T : KeyNames keyOf name) {k0 : κ} {v : Str} (h : ok k0 v = false) :
    ∀ k, keyOf (name k0) = some k → ok k v = false :=
  fun k hk => by cases (T.of_name k0).symm.trans hk; exact h

theorem collect_none_of_mem {as : List Attr} {a : Attr} (ha : a ∈ as) (h : ∀ k, keyOf a.1 = some k → ok k a.2 = false) :
    collect keyOf ok as = none :=
  (collect_none_iff as).2 ⟨a, ha, h⟩

private theorem recFold_at (T : KeyNames keyOf name) : ∀ {as : List Attr} {m m' : Rec κ},
    foldAttrs (keyed keyOf (recApply ok)) m as = some m' → ∀ k,
    if name k ∈ as.map (·.1) then ∃ v, (name k, v) ∈ as ∧ m' k = some v ∧ ok k v = true else m' k = m k
  | [], m, m', h, k => by cases h; exact (if_neg (show name k ∉ ([] : List Attr).map (·.1) from List.not_mem_nil)).mpr rfl
  | a :: r, m, m', h, k => by
    -- the first attribute is taken: its name has a key `k'`, and its value, which `ok` accepts, is stored under `k'`
    cases hk : keyOf a.1 with
    | none => simp only [foldAttrs, keyed, hk] at h; cases h
    | some k' =>
      cases hok : ok k' a.2 with
      | false => simp only [foldAttrs, keyed, recApply, hk, hok, Bool.false_eq_true, if_false] at h; cases h
      | true =>
        simp only [foldAttrs, keyed, recApply, hk, hok, if_true] at h
        have ih := recFold_at T h k
        have hn : a.1 = name k' := T.name_of hk
        by_cases hr : name k ∈ r.map (·.1)
        · rw [if_pos hr] at ih
          obtain ⟨v, hv, hw⟩ := ih
          rw [if_pos (show name k ∈ List.map (·.1) (a :: r) from List.mem_cons_of_mem _ hr)]
          exact ⟨v, List.mem_cons_of_mem _ hv, hw⟩
        · rw [if_neg hr] at ih
          by_cases hkk : k = k'
          · subst hkk
            rw [if_pos (show name k ∈ List.map (·.1) (a :: r) from hn ▸ List.mem_cons_self)]
            exact ⟨a.2, by rw [← hn]; exact List.mem_cons_self, by rw [ih, upd_same], hok⟩
          · have : name k ≠ a.1 := fun e => by rw [← e, T.of_name] at hk; exact hkk (Option.some.inj hk)
            rw [if_neg (show name k ∉ List.map (·.1) (a :: r) from fun hm => (List.mem_cons.1 hm).elim this hr), ih,
              upd_other _ _ hkk]

theorem collect_some (T : KeyNames keyOf name) {as : List Attr} {m : Rec κ} (h : collect keyOf ok as = some m) {k : κ}
    {v : Str} (hv : m k = some v) : (name k, v) ∈ as ∧ ok k v = true := by
  have := recFold_at T h k
  split at this
  · obtain ⟨w, hw, h1, h2⟩ := this
    cases h1.symm.trans hv
    exact ⟨hw, h2⟩
  · rw [this] at hv; cases hv

theorem collect_none_at (T : KeyNames keyOf name) {as : List Attr} {m : Rec κ} (h : collect keyOf ok as = some m) (k : κ) :
    m k = none ↔ name k ∉ as.map (·.1) := by
  have := recFold_at T h k
  split at this
  · rename_i hin
    obtain ⟨w, -, h1, -⟩ := this
    rw [h1]
    exact ⟨nofun, fun hn => absurd hin hn⟩
  · rename_i hin
    exact ⟨fun _ => hin, fun _ => this⟩

theorem collect_get (T : KeyNames keyOf name) {as : List Attr} (hnd : (as.map (·.1)).Nodup) {m : Rec κ}
    (h : collect keyOf ok as = some m) {k : κ} {s : String} (hs : name k = s.toList) :
    m k = Spec.get as s ∧ ∀ v, Spec.get as s = some v → ok k v = true := by
  have := recFold_at T h k
  rw [hs] at this
  cases hg : Spec.get as s with
  | none =>
    rw [if_neg (not_mem_of_get_none hg)] at this
    exact ⟨this, nofun⟩
  | some v =>
    rw [if_pos (List.mem_map.2 ⟨_, get_mem hg, rfl⟩)] at this
    obtain ⟨w, hw, h1, h2⟩ := this
    rw [get_of_mem_nodup hnd hw] at hg
    cases hg
    exact ⟨h1, fun _ e => Option.some.inj e ▸ h2⟩

theorem collect_has (T : KeyNames keyOf name) {as : List Attr} {m : Rec κ} (h : collect keyOf ok as = some m) {k : κ}
    {s : String} (hs : name k = s.toList) {τ : Type} {r : Str → Option τ} (hr : ∀ v, ok k v = true → (r v).isSome = true) :
    ((m k).bind r).isSome = has as s := by
  have := recFold_at T h k
  rw [hs] at this
  cases hh : has as s with
  | true =>
    rw [if_pos (has_iff_mem.1 hh)] at this
    obtain ⟨v, -, h1, h2⟩ := this
    rw [h1]; exact hr v h2
  | false =>
    rw [if_neg (fun hm => by rw [has_iff_mem.2 hm] at hh; cases hh)] at this
    rw [this]; rfl

theorem recApply_comm (m : Rec κ) (k₁ k₂ : κ) (v₁ v₂ : Str) (hk : k₁ ≠ k₂) :
    (recApply ok k₁ v₁ m).bind (recApply ok k₂ v₂) = (recApply ok k₂ v₂ m).bind (recApply ok k₁ v₁) := by
  unfold recApply
  cases ok k₁ v₁ <;> cases ok k₂ v₂ <;>
    simp only [Bool.false_eq_true, if_true, if_false, Option.bind_none, Option.bind_some, Option.some.injEq]
  exact update_comm m (some v₁) (some v₂) hk

theorem collect_perm (T : KeyNames keyOf name) {l₁ l₂ : List Attr} (hp : l₁.Perm l₂)
    (hd : (l₁.map (fun e => e.1)).Nodup) : collect keyOf ok l₁ = collect keyOf ok l₂ := by
  refine foldAttrs_perm _ (fun acc a b hab => ?_) hp hd _
  unfold keyed
  cases ha : keyOf a.1 with
  | none => simp
  | some ka =>
    cases hb : keyOf b.1 with
    | none => simp
    | some kb => exact recApply_comm acc ka kb a.2 b.2 fun e => hab ((T.name_of ha).trans (e ▸ T.name_of hb).symm)

end

section
variable {rd : Str → Option Nat} {ver : Nat} {seen : List Str}

theorem readIdent_some {ver : Nat} {seen : List Str} {v i : Str} (h : readIdent ver seen v = some i) :
    i = v ∧ v ∉ seen ∧ validIdent v = true := by
  revert h
  fun_cases readIdent ver seen v
  · nofun
  · rintro ⟨⟩; simp_all
  · nofun

theorem collect_ident {κ : Type} [DecidableEq κ] {keyOf : Str → Option κ} {name : κ → Str} {kind : κ → AK}
    (T : KeyNames keyOf name) {as : List Attr} (hnd : (as.map (·.1)).Nodup) {m : Rec κ}
    (h : collect keyOf (readableBy kind rd ver seen) as = some m) {k : κ} (hs : name k = sIdentifier) (hk : kind k = .ident) :
    (m k).bind (readIdent ver seen) = Spec.get as "identifier" := by
  obtain ⟨h1, h2⟩ := collect_get T hnd h (s := "identifier") hs
  rw [h1]
  cases hg : Spec.get as "identifier" with
  | none => rfl
  | some v =>
    have := h2 v hg
    rw [readableBy, hk] at this
    obtain ⟨i, hi⟩ := Option.isSome_iff_exists.1 this
    exact hi.trans (congrArg some (readIdent_some hi).1)

def aOf (rd : Str → Option Nat) (ver : Nat) (seen : List Str) (m : Rec AKey) : AnchorAcc :=
  { x := (m .x).bind rd, y := (m .y).bind rd, name := m .name, color := (m .color).bind (readCol rd),
    ident := (m .ident).bind (readIdent ver seen) }

/- Key by key (and so in the six lemmas like it): `aApply` runs the reader of the key on `v` and stores the result in the
   field of the key; `recApply` asks `readable`, which is `isSome` of the same reader, and stores `v`; the view applies the
   reader to what is stored.  The other fields are the same on both sides. -/
theorem aApply_view (k : AKey) (v : Str) (m : Rec AKey) : aApply rd ver seen k v (aOf rd ver seen m) =
    (recApply (readableBy aKind rd ver seen) k v m).map (aOf rd ver seen) := by
  cases k <;> simp only [aApply, recApply, readableBy, aKind, readable] <;> split <;> simp [aOf, upd, *]

theorem parseAnchor_view (as : List Attr) : parseAnchor rd ver seen as =
    (collect aKeyOf (readableBy aKind rd ver seen) as).bind fun m => aFinish (aOf rd ver seen m) := by
  rw [parseAnchor, aStep_keyed, show ({} : AnchorAcc) = aOf rd ver seen fun _ => none from rfl, keyed_view aApply_view]
  cases collect aKeyOf (readableBy aKind rd ver seen) as <;> rfl

def pOf (rd : Str → Option Nat) (ver : Nat) (seen : List Str) (m : Rec PKey) : PointAcc :=
  { x := (m .x).bind rd, y := (m .y).bind rd, typ := ((m .typ).bind readPointType).getD .off,
    smooth := (m .smooth).any fun v => decide (v = "yes".toList), name := m .name,
    ident := (m .ident).bind (readIdent ver seen) }

theorem pApply_view (k : PKey) (v : Str) (m : Rec PKey) : pApply rd ver seen k v (pOf rd ver seen m) =
    (recApply (readableBy pKind rd ver seen) k v m).map (pOf rd ver seen) := by
  cases k <;> simp only [pApply, recApply, readableBy, pKind, readable]
  case smooth => simp [pOf, upd]
  all_goals split <;> simp [pOf, upd, *]

theorem parsePoint_view (as : List Attr) : parsePoint rd ver seen as =
    (collect pKeyOf (readableBy pKind rd ver seen) as).bind fun m => pFinish (pOf rd ver seen m) := by
  rw [parsePoint, pStep_keyed, show ({} : PointAcc) = pOf rd ver seen fun _ => none from rfl, keyed_view pApply_view]
  cases collect pKeyOf (readableBy pKind rd ver seen) as <;> rfl

def guOf (rd : Str → Option Nat) (ver : Nat) (seen : List Str) (m : Rec GuKey) : GuideAcc :=
  { x := (m .x).bind rd, y := (m .y).bind rd, angle := (m .angle).bind rd, name := m .name,
    color := (m .color).bind (readCol rd), ident := (m .ident).bind (readIdent ver seen) }

theorem guApply_view (k : GuKey) (v : Str) (m : Rec GuKey) : guApply rd ver seen k v (guOf rd ver seen m) =
    (recApply (readableBy guKind rd ver seen) k v m).map (guOf rd ver seen) := by
  cases k <;> simp only [guApply, recApply, readableBy, guKind, readable]
  case angle =>
    -- the reader of an angle is `rd` followed by the range test
    split
    · split <;> simp [guOf, upd, *]
    · simp [*]
  all_goals split <;> simp [guOf, upd, *]

theorem parseGuideline_view (as : List Attr) : parseGuideline rd ver seen as =
    (collect guKeyOf (readableBy guKind rd ver seen) as).bind fun m => guFinish (guOf rd ver seen m) := by
  rw [parseGuideline, guStep_keyed, show ({} : GuideAcc) = guOf rd ver seen fun _ => none from rfl, keyed_view guApply_view]
  cases collect guKeyOf (readableBy guKind rd ver seen) as <;> rfl

def trOf (rd : Str → Option Nat) (m : TKey → Option Str) : Transform :=
  { xScale := ((m .xScale).bind rd).getD f64One, xyScale := ((m .xyScale).bind rd).getD 0,
    yxScale := ((m .yxScale).bind rd).getD 0, yScale := ((m .yScale).bind rd).getD f64One,
    xOffset := ((m .xOffset).bind rd).getD 0, yOffset := ((m .yOffset).bind rd).getD 0 }

theorem tSet_trOf {m : TKey → Option Str} {k : TKey} {v : Str} {n : Nat} (h : rd v = some n) :
    tSet k n (trOf rd m) = trOf rd fun k' => if k' = k then some v else m k' := by
  cases k <;> simp [tSet, trOf, h]

def cOf (rd : Str → Option Nat) (ver : Nat) (seen : List Str) (m : Rec CKey) : CompAcc :=
  { base := m .base, ident := (m .ident).bind (readIdent ver seen), transform := trOf rd fun k => m (.t k) }

theorem cApply_view (k : CKey) (v : Str) (m : Rec CKey) : cApply rd ver seen k v (cOf rd ver seen m) =
    (recApply (readableBy cKind rd ver seen) k v m).map (cOf rd ver seen) := by
  cases k <;> simp only [cApply, recApply, readableBy, cKind, readable] <;> split <;> simp [cOf, upd, *]
  exact tSet_trOf ‹_›  -- the transform keys, value read

theorem parseComponent_view (as : List Attr) : parseComponent rd ver seen as =
    (collect cKeyOf (readableBy cKind rd ver seen) as).bind fun m => cFinish (cOf rd ver seen m) := by
  rw [parseComponent, cStep_keyed, show ({} : CompAcc) = cOf rd ver seen fun _ => none from rfl, keyed_view cApply_view]
  cases collect cKeyOf (readableBy cKind rd ver seen) as <;> rfl

def iOf (rd : Str → Option Nat) (m : Rec IKey) : ImageAcc :=
  { fileName := m .fileName, color := (m .color).bind (readCol rd), transform := trOf rd fun k => m (.t k) }

/-- `ver` and `seen` are immaterial here and for `advance` (no key of either is an identifier); they are arguments so that
    the loop is the one `AttrBad rd ver seen` speaks of, whatever `ver` and `seen` are -/
theorem iApply_view (ver : Nat) (seen : List Str) (k : IKey) (v : Str) (m : Rec IKey) : iApply rd k v (iOf rd m) =
    (recApply (readableBy iKind rd ver seen) k v m).map (iOf rd) := by
  cases k <;> simp only [iApply, recApply, readableBy, iKind, readable]
  case fileName => simp [iOf, upd]
  all_goals split <;> simp [iOf, upd, *]
  exact tSet_trOf ‹_›  -- the transform keys, value read

theorem parseImage_view (ver : Nat) (seen : List Str) (as : List Attr) : parseImage rd as =
    (collect iKeyOf (readableBy iKind rd ver seen) as).bind fun m => iFinish (iOf rd m) := by
  rw [parseImage, iStep_keyed, show ({} : ImageAcc) = iOf rd fun _ => none from rfl, keyed_view (iApply_view ver seen)]
  cases collect iKeyOf (readableBy iKind rd ver seen) as <;> rfl

def advOf (rd : Str → Option Nat) (m : Rec AdvKey) : Nat × Nat :=
  (((m .width).bind rd).getD 0, ((m .height).bind rd).getD 0)

theorem advApply_view (ver : Nat) (seen : List Str) (k : AdvKey) (v : Str) (m : Rec AdvKey) : advApply rd k v (advOf rd m) =
    (recApply (readableBy (fun _ => AK.num) rd ver seen) k v m).map (advOf rd) := by
  cases k <;> simp only [advApply, recApply, readableBy, readable] <;> split <;> simp [advOf, upd, *]

theorem parseAdvance_view (ver : Nat) (seen : List Str) (as : List Attr) : parseAdvance rd as =
    (collect advKeyOf (readableBy (fun _ => AK.num) rd ver seen) as).map (advOf rd) := by
  rw [parseAdvance, advStep_keyed, show ((0, 0) : Nat × Nat) = advOf rd fun _ => none from rfl,
    keyed_view (advApply_view ver seen)]

/-- the `glyph` start tag: its numbers are `u32`, not a kind of the element tables -/
def gOk : GKey → Str → Bool
  | .name, v => validName v
  | .format, v => (parseU32 10 v).isSome
  | .formatMinor, v => (parseU32 10 v).isSome

def gOf (m : Rec GKey) : GlyphAcc :=
  { name := m .name, major := ((m .format).bind (parseU32 10)).getD 0, minor := ((m .formatMinor).bind (parseU32 10)).getD 0 }

theorem gApply_view (k : GKey) (v : Str) (m : Rec GKey) : gApply k v (gOf m) = (recApply gOk k v m).map gOf := by
  cases k <;> simp only [gApply, recApply, gOk] <;> split <;> simp [gOf, upd, *]

theorem gFold_view (as : List Attr) : foldAttrs gStep {} as = (collect gKeyOf gOk as).map gOf := by
  rw [gStep_keyed, show ({} : GlyphAcc) = gOf fun _ => none from rfl, keyed_view gApply_view]

end

end Glif
