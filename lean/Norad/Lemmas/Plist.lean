import Norad.Model.Plist
import Norad.Lemmas.SortCanon
/-! C10: sorting an association list by key (`sortEntries`: a permutation, canonical for a map), `recursive_sort_plist_keys`
    on plist values (sorted where it reaches, a function of the value as a map, `==`). -/
namespace StrMap

variable {β : Type}

theorem insertEntry_perm (e : Str × β) (m : List (Str × β)) : (insertEntry e m).Perm (e :: m) := by
  induction m with
  | nil => exact .refl _
  | cons y ys ih =>
    simp only [insertEntry]
    split
    · exact (ih.cons y).trans (.swap e y ys)
    · exact .refl _

theorem sortEntries_perm_self (m : List (Str × β)) : (sortEntries m).Perm m := by
  induction m with
  | nil => exact .refl _
  | cons e r ih => exact (insertEntry_perm e _).trans (ih.cons e)

theorem keys_insertEntry (e : Str × β) (m : List (Str × β)) :
    keys (insertEntry e m) = insertPos e.1 (keys m) := by
  induction m with
  | nil => rfl
  | cons y ys ih =>
    simp only [insertEntry, keys, List.map_cons, insertPos]
    split
    · exact congrArg (y.1 :: ·) ih
    · rfl

theorem lookup_insertEntry (e : Str × β) (m : List (Str × β)) (h : e.1 ∉ keys m) (k : Str) :
    lookup k (insertEntry e m) = if e.1 = k then some e.2 else lookup k m := by
  induction m with
  | nil => rfl
  | cons y ys ih =>
    obtain ⟨yk, yv⟩ := y
    have hy : e.1 ≠ yk := fun he => h (he ▸ List.mem_cons_self)
    simp only [insertEntry]
    split
    · by_cases hk : yk = k
      · rw [hk, lookup_cons_self, lookup_cons_self, if_neg (hk ▸ hy)]
      · rw [lookup_cons_ne hk, lookup_cons_ne hk, ih fun he => h (List.mem_cons_of_mem _ he)]
    · rfl

theorem keys_sortEntries (m : List (Str × β)) (h : (keys m).Nodup) :
    keys (sortEntries m) = sortDedup (keys m) := by
  induction m with
  | nil => rfl
  | cons e r ih =>
    have ⟨he, hr⟩ : e.1 ∉ keys r ∧ (keys r).Nodup := List.nodup_cons.mp h
    show keys (insertEntry e (sortEntries r)) = setInsert e.1 (sortDedup (keys r))
    rw [keys_insertEntry, ih hr, setInsert, if_neg]
    simpa [mem_sortDedup] using he

theorem sorted_keys_sortEntries (m : List (Str × β)) (h : (keys m).Nodup) :
    Sorted (keys (sortEntries m)) := by
  rw [keys_sortEntries m h]; exact sorted_sortDedup _

theorem lookup_sortEntries (m : List (Str × β)) (h : (keys m).Nodup) (k : Str) :
    lookup k (sortEntries m) = lookup k m :=
  (lookup_is.perm (sortEntries_perm_self m).symm h k).symm

/-- `sort_keys` gives the same list for every insertion order of the same map -/
theorem sortEntries_perm {m m' : List (Str × β)} (hp : m.Perm m') (hn : (keys m).Nodup) :
    sortEntries m = sortEntries m' :=
  List.Perm.eq_of_pairwise (le := fun a b => strLt a.1 b.1 = true)
    (fun _ _ _ _ hab hba => (strLt_not_both hab hba).elim)
    (List.pairwise_map.mp (sorted_keys_sortEntries m hn))
    (List.pairwise_map.mp (sorted_keys_sortEntries m' ((hp.map _).nodup_iff.mp hn)))
    ((sortEntries_perm_self m).trans (hp.trans (sortEntries_perm_self m').symm))

end StrMap

namespace PlistM
open StrMap

theorem sortVals_eq_map : ∀ es : List (Str × PV), sortVals es = es.map (fun e => (e.1, sortRec e.2))
  | [] => rfl
  | (k, v) :: r => congrArg ((k, sortRec v) :: ·) (sortVals_eq_map r)

theorem keys_sortVals (es : List (Str × PV)) : keys (sortVals es) = keys es := by
  rw [sortVals_eq_map, keys, List.map_map]; rfl

/-! `PV` is nested through `List`: the predicates below, like `sortRec`/`sortVals`, come as value / entries / elements by
structural recursion (a `∀ e ∈ es` is no structural call), and so do the theorems about them. -/

mutual
/-- well-formed as `plist::Dictionary`s: keys distinct in every dictionary the sort reaches -/
def WF : PV → Prop
  | .dict es => (keys es).Nodup ∧ WFE es
  | _ => True
def WFE : List (Str × PV) → Prop
  | [] => True
  | (_, v) :: r => WF v ∧ WFE r
end

mutual
/-- every dictionary reachable from the value through dictionary values only (never through an
    array) has strictly ascending keys -/
def SortedReach : PV → Prop
  | .dict es => Sorted (keys es) ∧ SortedReachE es
  | _ => True
def SortedReachE : List (Str × PV) → Prop
  | [] => True
  | (_, v) :: r => SortedReach v ∧ SortedReachE r
end

theorem sortedReachE_iff : ∀ es : List (Str × PV), SortedReachE es ↔ ∀ e ∈ es, SortedReach e.2
  | [] => ⟨fun _ => nofun, fun _ => trivial⟩
  | (k, v) :: r => (and_congr_right' (sortedReachE_iff r)).trans
    (List.forall_mem_cons (p := fun e : Str × PV => SortedReach e.2) (a := (k, v))).symm

mutual
/-- after `recursive_sort_plist_keys` every dictionary that is reachable
    from the lib through dictionary values only has strictly ascending keys (Rust `str` order).
    Exactly that and no more: `SortedReach` is `True` of an array, which the function does not visit.  groups.plist, kerning.plist and contents.plist are written from `BTreeMap`s
    (sorted by construction; observed by the harness oracle `sorted=1`). -/
theorem written_plists_sorted (v : PV) (h : WF v) : SortedReach (sortRec v) :=
  match v, h with
  | .dict es, ⟨hn, hw⟩ =>
    And.intro (sorted_keys_sortEntries _ (show (keys (sortVals es)).Nodup from keys_sortVals es ▸ hn))
      ((sortedReachE_iff _).mpr fun e he =>
        (sortedReachE_iff _).mp (sortVals_sortedReach es hw) e ((sortEntries_perm_self _).mem_iff.mp he))
  | .int _, _ | .str _, _ | .arr _, _ => trivial
theorem sortVals_sortedReach : ∀ es : List (Str × PV), WFE es → SortedReachE (sortVals es)
  | [], _ => trivial
  | (_, v) :: r, ⟨hv, hr⟩ => And.intro (written_plists_sorted v hv) (sortVals_sortedReach r hr)
end

mutual
/-- the same map built by another insertion history: at every dictionary the sort reaches the
    entries may come in another order; scalars and arrays (with everything below them) are identical -/
inductive Reorder : PV → PV → Prop
  | refl (v : PV) : Reorder v v
  | dict {es es' es'' : List (Str × PV)} : ReorderE es es' → es'.Perm es'' → Reorder (.dict es) (.dict es'')
inductive ReorderE : List (Str × PV) → List (Str × PV) → Prop
  | nil : ReorderE [] []
  | cons {k : Str} {v v' : PV} {r r' : List (Str × PV)} :
      Reorder v v' → ReorderE r r' → ReorderE ((k, v) :: r) ((k, v') :: r')
end

mutual
theorem sortRec_reorder : ∀ {v v' : PV}, Reorder v v' → WF v → sortRec v = sortRec v'
  | .dict es, _, h, hw => by
    cases h with
    | refl => rfl
    | @dict _ es' es'' hE hp =>
      have e1 : sortVals es = sortVals es' := sortVals_reorder hE hw.2
      have hp' : (sortVals es').Perm (sortVals es'') := by
        rw [sortVals_eq_map, sortVals_eq_map]; exact hp.map _
      exact congrArg PV.dict
        ((congrArg sortEntries e1).trans (sortEntries_perm hp' (e1 ▸ keys_sortVals es ▸ hw.1)))
  | .int _, _, h, _ | .str _, _, h, _ | .arr _, _, h, _ => by cases h; rfl
theorem sortVals_reorder : ∀ {es es' : List (Str × PV)}, ReorderE es es' → WFE es → sortVals es = sortVals es'
  | [], _, h, _ => by cases h; rfl
  | (k, v) :: r, _, h, hw => by
    cases h with
    | @cons _ _ v' _ r' hv hr =>
      show (k, sortRec v) :: sortVals r = (k, sortRec v') :: sortVals r'
      rw [sortRec_reorder hv hw.1, sortVals_reorder hr hw.2]
end

theorem lookupPV_is : IsLookup lookupPV := ⟨fun _ => rfl, fun _ _ _ _ => rfl⟩

mutual
/-- well-formed at every depth, also inside arrays: every dictionary has distinct keys
    (what a `plist::Dictionary` guarantees) -/
def WFAll : PV → Prop
  | .dict es => (keys es).Nodup ∧ WFAllE es
  | .arr xs => WFAllA xs
  | _ => True
def WFAllE : List (Str × PV) → Prop
  | [] => True
  | (_, v) :: r => WFAll v ∧ WFAllE r
def WFAllA : List PV → Prop
  | [] => True
  | v :: r => WFAll v ∧ WFAllA r
end

mutual
theorem wf_of_wfAll : ∀ v : PV, WFAll v → WF v
  | .dict es, ⟨hn, hw⟩ => And.intro hn (wfE_of_wfAllE es hw)
  | .int _, _ | .str _, _ | .arr _, _ => trivial
theorem wfE_of_wfAllE : ∀ es : List (Str × PV), WFAllE es → WFE es
  | [], _ => trivial
  | (_, v) :: r, ⟨hv, hr⟩ => And.intro (wf_of_wfAll v hv) (wfE_of_wfAllE r hr)
end

theorem entriesIn_of (a b : List (Str × PV)) (hn : (keys b).Nodup)
    (h : ∀ e ∈ a, ∃ v', (e.1, v') ∈ b ∧ pvEq e.2 v' = true) : entriesIn a b = true := by
  induction a with
  | nil => rfl
  | cons e r ih =>
    obtain ⟨v', h1, h2⟩ := h e List.mem_cons_self
    have hl : lookupPV e.1 b = some v' := lookupPV_is.of_mem_nodup hn h1
    show (match lookupPV e.1 b with | some v' => pvEq e.2 v' | none => false) && entriesIn r b
    rw [hl]
    exact Bool.and_eq_true_iff.mpr ⟨h2, ih fun e he => h e (List.mem_cons_of_mem _ he)⟩

mutual
theorem pvEq_refl : ∀ v : PV, WFAll v → pvEq v v = true
  | .int _, _ | .str _, _ => beq_self_eq_true _
  | .dict es, ⟨hn, hw⟩ =>
    Bool.and_eq_true_iff.mpr ⟨beq_self_eq_true _, entriesIn_of es es hn fun e he => ⟨e.2, he, entries_refl es hw e he⟩⟩
  | .arr xs, h => arr_refl xs h
theorem entries_refl : ∀ es : List (Str × PV), WFAllE es → ∀ e ∈ es, pvEq e.2 e.2 = true
  | (_, v) :: r, ⟨hv, hr⟩, e, he => by
    rcases List.mem_cons.mp he with rfl | he'
    · exact pvEq_refl v hv
    · exact entries_refl r hr e he'
theorem arr_refl : ∀ xs : List PV, WFAllA xs → arrEq xs xs = true
  | [], _ => rfl
  | v :: r, ⟨hv, hr⟩ => Bool.and_eq_true_iff.mpr ⟨pvEq_refl v hv, arr_refl r hr⟩
end

theorem reorderE_keys : ∀ {es es' : List (Str × PV)}, ReorderE es es' → keys es = keys es'
  | [], _, h => by cases h; rfl
  | (k, _) :: _, _, h => by cases h with | cons _ hr => exact congrArg (k :: ·) (reorderE_keys hr)

mutual
/-- a lib rebuilt in another insertion order (at the dictionaries the sort reaches)
    compares equal to the original under `plist::Value::eq` — for values whose dictionaries have distinct
    keys at every depth, also inside arrays (`WFAll`: what `plist::Dictionary` guarantees). -/
theorem reorder_implies_eq {v v' : PV} (h : Reorder v v') (hw : WFAll v) : pvEq v v' = true :=
  match v, h, hw with
  | .dict es, h, hw => by
    cases h with
    | refl => exact pvEq_refl _ hw
    | @dict _ es' es'' hE hp =>
      have hl : es.length = es''.length := by
        rw [← hp.length_eq, ← List.length_map (as := es), ← List.length_map (as := es')]
        exact congrArg List.length (reorderE_keys hE)
      have hn'' : (keys es'').Nodup := (hp.map _).nodup_iff.mp (show (keys es').Nodup from reorderE_keys hE ▸ hw.1)
      refine Bool.and_eq_true_iff.mpr ⟨beq_iff_eq.mpr hl, entriesIn_of es es'' hn'' fun e he => ?_⟩
      obtain ⟨v', hm, hv⟩ := reorderE_mem hE hw.2 e he
      exact ⟨v', hp.subset hm, hv⟩
  | .int _, h, hw | .str _, h, hw | .arr _, h, hw => by cases h; exact pvEq_refl _ hw
theorem reorderE_mem : ∀ {es es' : List (Str × PV)}, ReorderE es es' → WFAllE es →
    ∀ e ∈ es, ∃ v', (e.1, v') ∈ es' ∧ pvEq e.2 v' = true
  | (k, v) :: r, _, h, hw, e, he => by
    cases h with
    | @cons _ _ v' _ r' hv hr =>
      rcases List.mem_cons.mp he with rfl | he'
      · exact ⟨v', List.mem_cons_self, reorder_implies_eq hv hw.1⟩
      · obtain ⟨w, hw1, hw2⟩ := reorderE_mem hr hw.2 e he'
        exact ⟨w, List.mem_cons_of_mem _ hw1, hw2⟩
end

theorem writeAll_cons (e : Str × Str) (l : List (Str × Str)) (fs : Files) :
    writeAll (e :: l) fs = writeAll l (writeFile (normKey e.1) e.2 fs) := rfl

end PlistM
