import Norad.Model.FontInfoUp
import Norad.Lemmas.Assoc
/-! C14: `getKey`/`setKey` as a map, what folding the hint rows leaves under each attribute (`applyHints_row`), and `load` as
    "convert (`convertedInfo`), then assemble" (`load_eq`). -/
namespace C14
open FI

theorem lookup_nil {β} (k : String) : lookup ([] : List (String × β)) k = none := rfl

theorem lookup_cons {β} (a : String × β) (r : List (String × β)) (k : String) :
    lookup (a :: r) k = if a.1 = k then some a.2 else lookup r k := by
  unfold lookup
  rw [List.find?_cons]
  by_cases h : a.1 = k
  · rw [if_pos h, beq_iff_eq.2 h]
  · rw [if_neg h, beq_eq_false_iff_ne.2 h]

theorem lookup_is {β : Type _} : IsLookup (fun k (t : List (String × β)) => lookup t k) :=
  ⟨fun _ => rfl, fun k k' v r => lookup_cons (k', v) r k⟩

theorem getKey_setKey_self (info : List (String × Val)) (k : String) (v : Option Val) :
    getKey (setKey info k v) k = v := by
  unfold getKey setKey
  cases v with
  | none => exact lookup_is.filter_of_drop (fun _ => by simp) info
  | some x => simp [lookup_is.append k, lookup_is.filter_of_drop (k := k), lookup_cons]

theorem getKey_setKey_other (info : List (String × Val)) (k k' : String) (v : Option Val) (hne : k' ≠ k) :
    getKey (setKey info k v) k' = getKey info k' := by
  unfold getKey setKey
  cases v with
  | none => exact lookup_is.filter_of_keep (fun _ => by simpa using hne) info
  | some x =>
    rw [lookup_is.append k', lookup_is.filter_of_keep (fun _ => by simpa using hne), lookup_cons, if_neg (Ne.symm hne)]
    exact Option.or_none

theorem getKey_hintStep_other (hint acc : List (String × Val)) (row : String × String) (k : String)
    (hne : k ≠ row.2) : getKey (hintStep hint acc row) k = getKey acc k := by
  fun_cases hintStep hint acc row <;> first | rfl | exact getKey_setKey_other _ _ _ _ hne

theorem getKey_applyHints_other (hint : List (String × Val)) (rows : List (String × String))
    (acc : List (String × Val)) (k : String) (hk : k ∉ rows.map (·.2)) :
    getKey (applyHints rows hint acc) k = getKey acc k :=
  foldl_keeps (π := (getKey · k))
    (fun _ r hr => getKey_hintStep_other _ _ _ _ fun e => hk (e ▸ List.mem_map_of_mem hr)) acc

theorem applyHints_row (hint : List (String × Val)) (rows : List (String × String)) :
    (rows.map (·.2)).Nodup → ∀ (acc : List (String × Val)) (row : String × String), row ∈ rows →
      (∀ v, lookup hint row.1 = some v → getKey (applyHints rows hint acc) row.2 = some (flatten v)) ∧
      (lookup hint row.1 = none → hintConditional.contains row.1 = false →
        getKey (applyHints rows hint acc) row.2 = none) := by
  induction rows with
  | nil => intro _ acc row h; cases h
  | cons r rs ih =>
    intro hnd acc row hmem
    rw [List.map_cons, List.nodup_cons] at hnd
    rcases List.mem_cons.1 hmem with rfl | hr
    · have here : getKey (applyHints (row :: rs) hint acc) row.2 = getKey (hintStep hint acc row) row.2 :=
        getKey_applyHints_other hint rs _ _ hnd.1
      rw [here]
      unfold hintStep
      refine ⟨fun v hv => ?_, fun hn hc => ?_⟩
      · rw [hv]; exact getKey_setKey_self _ _ _
      · rw [hn, hc]; exact getKey_setKey_self acc row.2 none
    · exact ih hnd.2 _ row hr

theorem convertAll_error_of_mem (t : Tables) (table : List (String × String × Conv)) {k k3 : String} {v : Val}
    {c : Conv} {e : ConvErr} (hl : lookup table k = some (k3, c)) (he : applyConv t c v = .error e) :
    ∀ attrs : List (String × Val), (k, v) ∈ attrs → ∃ e', convertAll t table attrs = .error e'
  | (ka, va) :: r, hmem => by
    rcases List.mem_cons.1 hmem with heq | hr
    · cases heq
      exact ⟨e, by simp only [convertAll, hl, he]⟩
    · obtain ⟨e', he'⟩ := convertAll_error_of_mem t table hl he r hr
      rw [convertAll, he']
      cases lookup table ka with
      | none => exact ⟨_, rfl⟩
      | some p =>
        obtain ⟨k3a, ca⟩ := p
        dsimp only
        cases applyConv t ca va with
        | error e2 => exact ⟨e2, rfl⟩
        | ok o => cases o <;> exact ⟨e', rfl⟩

theorem roundMag_bounds (n d : Nat) (hd : 0 < d) :
    2 * (roundMag n d * d) ≤ 2 * n + d ∧ 2 * n + d < 2 * (roundMag n d * d) + 2 * d := by
  have h1 := Nat.div_mul_le_self (2 * n + d) (2 * d)
  have h2 := Nat.lt_div_mul_add (a := 2 * n + d) (b := 2 * d) (by omega)
  rw [Nat.mul_left_comm] at h1 h2
  exact ⟨h1, h2⟩

theorem validated_ok {info info' : List (String × Val)} (h : validated info = .ok info') :
    info' = info ∧ C13.validate (project info) = .ok := by
  unfold validated at h
  split at h <;> cases h
  exact ⟨rfl, ‹_›⟩

theorem fromFile_ok {fmt : Nat} {attrs info : List (String × Val)} (h : fromFile fmt attrs = .ok info) :
    C13.validate (project info) = .ok := by
  revert h
  fun_cases fromFile fmt attrs
  · nofun   -- an attribute of the wrong type: refused
  · nofun   -- a conversion refused
  · intro h; obtain ⟨e, hv⟩ := validated_ok h; rw [e]; exact hv

/-- the hint data `load` moves in: only a format-1 font with a lib has any -/
def hinted (i : Input) : Option (List (String × Val)) := if i.fmt = 1 && i.hasLib then i.robofab.hint else none

theorem hinted_eq {i : Input} {h : List (String × Val)} (h1 : i.fmt = 1) (hl : i.hasLib = true)
    (hh : i.robofab.hint = some h) : hinted i = some h := by
  rw [hinted, h1, hl, hh]; rfl

/-- the font info `load` returns: the converted attributes, with the hint data of a format-1 lib moved in -/
def convertedInfo (i : Input) : Except LoadErr (List (String × Val)) :=
  (fromFile i.fmt i.attrs).bind fun info =>
    match hinted i with
    | some h => validated (applyHints Gen.hintRows h info)
    | none => .ok info

/-- what `load` builds around the font info: the feature text and the lib keys, neither of which can fail -/
def assemble (i : Input) (info : List (String × Val)) : Output :=
  let fea0 := if i.reqFeatures then i.feaFile.getD "" else ""
  let lib0 := if i.reqLib then i.libKeys else []
  let text := featureText i.robofab
  { info := info, formatVersion := 3,
    features := if i.fmt = 1 && i.hasLib then (if text.isEmpty then fea0 else text) else fea0,
    libKeys := if i.fmt = 1 && i.hasLib then lib0.filter (fun k => !Gen.robofabRemoved.contains k) else lib0 }

theorem load_eq (i : Input) : load i = (convertedInfo i).map (assemble i) := by
  unfold load convertedInfo assemble hinted
  cases fromFile i.fmt i.attrs with
  | error e => rfl
  | ok info =>
    dsimp only [Except.bind]
    cases (decide (i.fmt = 1) && i.hasLib)
    · rfl
    · simp only [↓reduceIte]
      cases i.robofab.hint with
      | none => rfl
      | some h => dsimp only; cases validated (applyHints Gen.hintRows h info) <;> rfl

theorem load_ok {i : Input} {o : Output} (h : load i = .ok o) :
    ∃ info, convertedInfo i = .ok info ∧ o = assemble i info := by
  rw [load_eq] at h
  cases hc : convertedInfo i with
  | error e => rw [hc] at h; cases h
  | ok info => rw [hc] at h; cases h; exact ⟨info, rfl, rfl⟩

theorem convertedInfo_ok {i : Input} {info' : List (String × Val)} (hc : convertedInfo i = .ok info') :
    ∃ info, fromFile i.fmt i.attrs = .ok info ∧
      info' = (match hinted i with | some h => applyHints Gen.hintRows h info | none => info) ∧
      C13.validate (project info') = .ok := by
  unfold convertedInfo at hc
  cases hf : fromFile i.fmt i.attrs with
  | error e => rw [hf] at hc; cases hc
  | ok info =>
    rw [hf] at hc
    refine ⟨info, rfl, ?_⟩
    cases hh : hinted i with
    | none => rw [hh] at hc; cases hc; exact ⟨rfl, fromFile_ok hf⟩
    | some h => rw [hh] at hc; obtain ⟨e, hv⟩ := validated_ok hc; exact ⟨e, e ▸ hv⟩

end C14
