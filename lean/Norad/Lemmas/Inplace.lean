import Norad.Lemmas.FontLoad
import Norad.Lemmas.SafePlan
/-!
Ingredients of C08's in-place theorem: what forcing a lazy cell of a loaded store reads, and the store part
of the plan, which writes back what the input file system held.
-/
namespace FontSave
open AbsFS FontLoad

variable {β : Type}

def storePath (t : APath) (kind : StoreKind) (rel : APath) : APath := t ++ [(storeDirName kind).toList] ++ rel

theorem forceCell_notLoaded {cfg : Cfg β} {kind : StoreKind} {fs : FS β} {root : APath} {keys : List Path.P}
    {k : Path.P} {b : β} (h : forceCell cfg kind fs root keys k .notLoaded = .loaded b) :
    readFile fs (joinRel (sub root (storeDirName kind)) k) = .ok b := by
  unfold forceCell at h
  cases hr : readFile fs (joinRel (sub root (storeDirName kind)) k) with
  | error e => simp [hr] at h
  | ok b' =>
    simp only [hr] at h
    split at h
    · cases h; rfl
    · cases h

/-- the list step 5 forces from a loaded store carries the bytes of the *input* file system -/
theorem forced_entries {cfg : Cfg β} {sw : Bool} {kind : StoreKind} {fs : FS β} {t : APath} {s : Store β}
    {d : List (Path.P × β)}
    (hl : loadStore sw kind fs t = .ok s) (hf : forceStore cfg kind fs s = some d) :
    ∀ kb ∈ d, ∃ rel, rel ≠ [] ∧ kb.1 = relKey rel ∧ node fs (storePath t kind rel) = some (.file kb.2) := by
  intro kb hkb
  obtain ⟨c, hc1, hc2⟩ := forceList_mem hf hkb
  obtain ⟨hshape, hroot⟩ := loadStore_ok hl
  obtain ⟨hnl, rel, hrel0, hrel⟩ := hshape _ hc1
  subst hnl
  rw [hrel, (hroot (Or.inl (List.ne_nil_of_mem hc1))).1] at hc2
  refine ⟨rel, hrel0, hrel, ?_⟩
  have hr := forceCell_notLoaded hc2
  rw [joinRel_safe _ _ (safeRel_relKey hrel0), namesOf_relKey, sub_eq, ← tC_append] at hr
  exact (readFile_normal.mp hr).2.2

/-- later writes to the same place write the same bytes, so no distinctness is needed -/
theorem writes_back {A : List (Eff β)} {N : List (NEff β)} {fs fs1 fs' : FS β}
    (h : runEffs (A ++ N.map NEff.toEff) fs1 = (none, fs'))
    (hfrom : ∀ q b, NEff.write q b ∈ N → node fs q = some (.file b)) {p : APath} {b : β} (hin : NEff.write p b ∈ N) :
    lookup fs' p = some (.file b) := by
  obtain ⟨N1, N2, rfl⟩ := List.append_of_mem hin
  rw [List.map_append, List.map_cons, ← List.append_assoc] at h
  obtain ⟨fsB, _, h2⟩ := runEffs_append_ok h
  obtain ⟨fsC, h3, h4⟩ := runN_cons_ok.mp (show runN (.write p b :: N2) fsB = _ from h2)
  obtain ⟨hp0, _, _, rfl⟩ := writeFile_normal.mp (runEff_eq_ok.mp h3)
  have hw : ∀ b', NEff.write p b' ∈ N2 → b' = b := fun b' hb' => by
    have := (hfrom p b' (List.mem_append_right _ (List.mem_cons_of_mem _ hb'))).symm.trans (hfrom p b hin)
    cases this
    rfl
  have := runN_keeps_file N2 p b hp0 hw (AbsFS.set fsB p (.file b)) (by rw [lookup_set, if_pos rfl])
  rwa [h4] at this

theorem store_block_writes_back {cfg : Cfg β} {f : AFont β} {fs fs' : FS β} {t : APath} {sd si : Bool}
    (hld : loadStore sd .data fs t = .ok f.data) (hli : loadStore si .images fs t = .ok f.images)
    (hsave : saveImpl cfg f fs t = (none, fs'))
    (kind : StoreKind) (rel : APath) (b : β)
    (hmem : (relKey rel, Cell.notLoaded) ∈ (f.store kind).items)
    (hfile : node fs (storePath t kind rel) = some (.file b)) :
    lookup fs' (storePath t kind rel) = some (.file b) := by
  obtain ⟨d, i, fs1, hv, _, hrun⟩ := saveImpl_ok hsave
  obtain ⟨_, _, _, _, hfd, hfi⟩ := validatePhase_eq_ok.mp hv
  have Gd := forced_entries hld hfd
  have Gi := forced_entries hli hfi
  let N := d.flatMap (planDataItemN t) ++ planImagesN t i
  have hN : d.flatMap (planDataItem t) ++ planImages t i = N.map NEff.toEff := by
    rw [List.map_append, ← planImages_normal t i fun kb hkb => by
        obtain ⟨r, hr0, hr, _⟩ := Gi kb hkb; exact hr ▸ safeRel_relKey hr0]
    congr 1
    exact flatMap_map_congr _ _ _ fun kb hkb => planDataItem_normal t kb (by
      obtain ⟨r, hr0, hr, _⟩ := Gd kb hkb; exact hr ▸ safeRel_relKey hr0)
  have hfrom : ∀ q b', NEff.write q b' ∈ N → node fs q = some (.file b') := by
    intro q b' hq
    rcases List.mem_append.mp hq with hq | hq
    · obtain ⟨kb, hkb, hq⟩ := List.mem_flatMap.mp hq
      obtain ⟨r, _, hr, hn⟩ := Gd kb hkb
      simp only [planDataItemN, itemN, List.mem_cons, List.not_mem_nil, or_false, reduceCtorEq, false_or,
        NEff.write.injEq] at hq
      rw [hq.1, hq.2, hr, namesOf_relKey]
      exact hn
    · unfold planImagesN at hq
      split at hq
      · cases hq
      · simp only [List.mem_cons, reduceCtorEq, false_or, List.mem_map, NEff.write.injEq] at hq
        obtain ⟨kb, hkb, hq1, hq2⟩ := hq
        obtain ⟨r, _, hr, hn⟩ := Gi kb hkb
        rw [← hq1, ← hq2, hr, namesOf_relKey]
        exact hn
  obtain ⟨b', hin⟩ : ∃ b', NEff.write (storePath t kind rel) b' ∈ N := by
    cases kind with
    | data =>
      obtain ⟨b', hb', _⟩ := forceList_mem_items hfd hmem
      exact ⟨b', List.mem_append_left _ (List.mem_flatMap.mpr
        ⟨_, hb', List.mem_cons_of_mem _ (List.mem_singleton.mpr (by rw [namesOf_relKey]; rfl))⟩)⟩
    | images =>
      obtain ⟨b', hb', _⟩ := forceList_mem_items hfi hmem
      refine ⟨b', List.mem_append_right _ ?_⟩
      rw [planImagesN, if_neg fun h => by rw [List.isEmpty_iff.mp h] at hb'; cases hb']
      exact List.mem_cons_of_mem _ (List.mem_map.mpr ⟨_, hb', by rw [namesOf_relKey]; rfl⟩)
  obtain rfl : b' = b := by
    have := hfrom _ _ hin
    rw [hfile] at this
    cases this
    rfl
  obtain ⟨H, hH⟩ : ∃ H, plan cfg f d i t = H ++ (d.flatMap (planDataItem t) ++ planImages t i) :=
    ⟨_, by rw [plan, List.append_assoc]⟩
  rw [hH, hN] at hrun
  exact writes_back hrun hfrom hin

end FontSave
