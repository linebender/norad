import Norad.Model.FontSave
import Norad.Generated.SaveOrder
import Norad.Lemmas.FontSave
/-!
# The (guard, step) table of `Font::save_impl`, read against the model (C08 / C09 source-level tie)

`Generated.SaveOrder.saveTable` is regenerated from `src/font.rs` on every run: every top-level statement of
`save_impl` as rows (guard atoms, step).  `saveTable_parses`: it parses to `modelRows`, in the vocabulary of atoms and
steps the MODEL knows (`Atom`, `Step`); `execRows_model`: the interpreter `execRows` run on `modelRows` IS `saveImpl`
(and its plan part IS `plan`).

What the model abstracts and the table shows: which `MetaInfo` is written (`creatorDefault`: both rows write the
model's one metainfo token), the line-ending normalisation of features.fea (`hasCR`), `recursive_sort_plist_keys`
(invisible to an uninterpreted `render`), the `contents` binding.  These are parameters / no-ops of the interpreter, so
the equality with `saveImpl` holds for every value of them.  An atom that `preAtom` / `postAtom` / the wipe guard has
no case for reads as `false`: the row does not fire.
-/
namespace C08.Source
open AbsFS FontSave

inductive Atom
  | versionNot3 | hasObjLibsKey | groupsErr | fontinfoErr | storeErr | pathExists
  | creatorDefault (pos : Bool) | infoNonEmpty | folNonEmpty | libNonEmpty | groupsNonEmpty | kerningNonEmpty
  | featuresNonEmpty | hasCR (pos : Bool) | dataNonEmpty | imagesNonEmpty
  deriving DecidableEq, Repr

inductive Step
  | refuse (k : Refusal) | removeDirAll | createTarget | writeMetainfo | writeFontinfo | bindLib | bindFol | insertFol
  | sortLib | writeLib | writeGroups | writeKerning | writeFeatures | bindContents | writeLayercontents | saveLayers
  | writeData | createImages | writeImages
  deriving DecidableEq, Repr

/-- the spelling of every guard atom in the regenerated table -/
def atomTable : List (String × Atom) := [
  ("self.meta.format_version!=FormatVersion::V3", .versionNot3),
  ("self.lib.contains_key(PUBLIC_OBJECT_LIBS_KEY)", .hasObjLibsKey),
  ("err:validate_groups(&self.groups)", .groupsErr),
  ("err:self.font_info.validate()", .fontinfoErr),
  ("any-err:self.data.iter().chain(self.images.iter())", .storeErr),
  ("path.exists()", .pathExists),
  ("self.meta.creator==Some(DEFAULT_METAINFO_CREATOR.into())", .creatorDefault true),
  ("!(self.meta.creator==Some(DEFAULT_METAINFO_CREATOR.into()))", .creatorDefault false),
  ("!self.font_info.is_empty()", .infoNonEmpty),
  ("!font_object_libs.is_empty()", .folNonEmpty),
  ("!lib.is_empty()", .libNonEmpty),
  ("!self.groups.is_empty()", .groupsNonEmpty),
  ("!self.kerning.is_empty()", .kerningNonEmpty),
  ("!self.features.is_empty()", .featuresNonEmpty),
  ("self.features.as_bytes().contains(&b'\\r')", .hasCR true),
  ("!(self.features.as_bytes().contains(&b'\\r'))", .hasCR false),
  ("!self.data.is_empty()", .dataNonEmpty),
  ("!self.images.is_empty()", .imagesNonEmpty)]

/-- the spelling of every step in the regenerated table -/
def stepTable : List (String × Step) := [
  ("refuse:Downgrade", .refuse .downgrade),
  ("refuse:PreexistingPublicObjectLibsKey", .refuse .objectLibsKey),
  ("refuse:InvalidGroups", .refuse .invalidGroups),
  ("refuse:InvalidFontInfo", .refuse .invalidFontInfo),
  ("refuse:InvalidStoreEntry", .refuse .invalidStoreEntry),
  ("remove_dir_all:path!Cleanup", .removeDirAll),
  ("create_dir:path!CreateUfoDir", .createTarget),
  ("write:path/metainfo.plist<-self.meta", .writeMetainfo),
  ("write:path/metainfo.plist<-MetaInfo::default()", .writeMetainfo),
  ("write:path/fontinfo.plist<-self.font_info", .writeFontinfo),
  ("bind:lib=self.lib.clone()", .bindLib),
  ("bind:font_object_libs=self.font_info.dump_object_libs()", .bindFol),
  ("insert:lib[public.objectLibs]=font_object_libs", .insertFol),
  ("sort-keys:lib", .sortLib),
  ("write:path/lib.plist<-lib", .writeLib),
  ("write:path/groups.plist<-self.groups", .writeGroups),
  ("write:path/kerning.plist<-crate::kerning::KerningSerializer{kerning:self.kerning}", .writeKerning),
  ("write:path/features.fea<-self.features.replace(\"\\r\\n\",\"\\n\")", .writeFeatures),
  ("write:path/features.fea<-self.features", .writeFeatures),
  ("bind:contents=self.layers.iter().map(|l|(l.name.as_ref(),l.path)).collect()", .bindContents),
  ("write:path/layercontents.plist<-contents", .writeLayercontents),
  ("each(self.layers.iter())[save_layer:path/<layer.path>]", .saveLayers),
  ("each(self.data.iter())[create_dir_all:parent(path/data/<data_path>)!CreateStoreDir;write:path/data/<data_path><-contents.expect()]", .writeData),
  ("create_dir:path/images!CreateStoreDir", .createImages),
  ("each(self.images.iter())[write:path/images/<image_path><-contents.expect()]", .writeImages)]

def lookupS {α : Type} (tbl : List (String × α)) (s : List Char) : Option α :=
  match tbl with
  | [] => none
  | (k, v) :: r => if k.toList = s then some v else lookupS r s

def allSome {α : Type} : List (Option α) → Option (List α)
  | [] => some []
  | none :: _ => none
  | some a :: r =>
    match allSome r with
    | some l => some (a :: l)
    | none => none

abbrev Row := List Atom × Step

def parseRow (r : List (List Char) × List Char) : Option Row :=
  match allSome (r.1.map (lookupS atomTable)), lookupS stepTable r.2 with
  | some g, some s => some (g, s)
  | _, _ => none

/-- `none`: the table has an atom or a step the model has no word for -/
def parseTable (t : List (List (List Char) × List Char)) : Option (List Row) := allSome (t.map parseRow)

/-- `save_impl` as the model has it, in the table's vocabulary -/
def modelRows : List Row := [
  ([.versionNot3], .refuse .downgrade),
  ([.hasObjLibsKey], .refuse .objectLibsKey),
  ([.groupsErr], .refuse .invalidGroups),
  ([.fontinfoErr], .refuse .invalidFontInfo),
  ([.storeErr], .refuse .invalidStoreEntry),
  ([.pathExists], .removeDirAll),
  ([], .createTarget),
  ([.creatorDefault true], .writeMetainfo),
  ([.creatorDefault false], .writeMetainfo),
  ([.infoNonEmpty], .writeFontinfo),
  ([], .bindLib),
  ([], .bindFol),
  ([.folNonEmpty], .insertFol),
  ([.libNonEmpty], .sortLib),
  ([.libNonEmpty], .writeLib),
  ([.groupsNonEmpty], .writeGroups),
  ([.kerningNonEmpty], .writeKerning),
  ([.featuresNonEmpty, .hasCR true], .writeFeatures),
  ([.featuresNonEmpty, .hasCR false], .writeFeatures),
  ([], .bindContents),
  ([], .writeLayercontents),
  ([], .saveLayers),
  ([.dataNonEmpty], .writeData),
  ([.imagesNonEmpty], .createImages),
  ([.imagesNonEmpty], .writeImages)]

/-! ## reading a table with the keys spelled as characters

`parseTable` turns every `String` key into characters at every comparison, which the kernel evaluates badly; `parseWith`
is the same parse over character-list keys, proved equal, and is what gets evaluated. -/

def spelled {α : Type} (tbl : List (String × α)) : List (List Char × α) := tbl.map fun kv => (kv.1.toList, kv.2)

theorem lookupS_eq {α : Type} (tbl : List (String × α)) (s : List Char) : lookupS tbl s = (spelled tbl).lookup s := by
  induction tbl with
  | nil => rfl
  | cons kv r ih =>
    show (if kv.1.toList = s then some kv.2 else lookupS r s) =
      match s == kv.1.toList with
      | true => some kv.2
      | false => (spelled r).lookup s
    by_cases h : kv.1.toList = s
    · rw [if_pos h, h, beq_self_eq_true]
    · rw [if_neg h, beq_false_of_ne (Ne.symm h), ih]

def parseWith {A S : Type} (atoms : List (List Char × A)) (steps : List (List Char × S))
    (t : List (List (List Char) × List Char)) : Option (List (List A × S)) :=
  allSome (t.map fun r =>
    match allSome (r.1.map (atoms.lookup ·)), steps.lookup r.2 with
    | some g, some s => some (g, s)
    | _, _ => none)

theorem parseTable_eq : parseTable = parseWith (spelled atomTable) (spelled stepTable) := by
  funext t
  unfold parseTable parseWith
  congr 2
  funext r
  simp only [parseRow, lookupS_eq, funext (lookupS_eq atomTable)]
  cases allSome (r.1.map ((spelled atomTable).lookup ·)) <;> cases (spelled stepTable).lookup r.2 <;> rfl

/-- **the regenerated table, word for word, is the model's**: every guard atom and every step of `fn save_impl` as the
    source has it now is one the model has a meaning for, in the model's order (kernel-evaluated on the regenerated
    table: this is the statement that fails when a gate, a step or their order changes in the source) -/
theorem saveTable_parses : parseTable Generated.SaveOrder.saveTable = some modelRows := by
  rw [parseTable_eq]
  simp only [spelled, atomTable, stepTable, Generated.SaveOrder.saveTable, List.map_cons, List.map_nil]
  -- the kernel decodes `"abc".toList` byte by byte but takes a literal for `String.ofList ['a', 'b', 'c']` at once: spell first
  repeat rw [String.toList_ofList]
  decide +kernel

variable {β : Type}

/-- atoms of the rows in front of the wipe -/
def preAtom (cfg : Cfg β) (f : AFont β) (fs : FS β) : Atom → Bool
  | .versionNot3 => decide (f.version ≠ 3)
  | .hasObjLibsKey => hasObjectLibsKey f.lib
  | .groupsErr => !f.groupsValid
  | .fontinfoErr => !f.info.valid
  | .storeErr => !((forceStore cfg .data fs f.data).isSome && (forceStore cfg .images fs f.images).isSome)
  | _ => false

def firstRefusal (cfg : Cfg β) (f : AFont β) (fs : FS β) : List Row → Option Refusal
  | [] => none
  | (g, .refuse k) :: r => if g.all (preAtom cfg f fs) then some k else firstRefusal cfg f fs r
  | _ :: r => firstRefusal cfg f fs r

/-- what the statements behind the wipe see: the font, the forced stores, the target, and two facts the model does not
    look at (is the creator the default one; does the feature text contain a carriage return) -/
structure Env (β : Type) where
  cfg : Cfg β
  f : AFont β
  d : List (Path.P × β)
  i : List (Path.P × β)
  t : APath
  creator : Bool
  cr : Bool

/-- the two local variables of `save_impl`: `lib` (the font lib and the object libs inserted into it) and
    `font_object_libs` (`none`: not bound - the dump panicked) -/
structure Loc where
  lib : Option (List (Str × LVal) × List (Str × Nat))
  fol : Option (List (Str × Nat))

def postAtom (e : Env β) (l : Loc) : Atom → Bool
  | .creatorDefault b => e.creator == b
  | .infoNonEmpty => !e.f.info.isEmpty
  | .folNonEmpty => match l.fol with
    | some ol => !ol.isEmpty
    | none => false
  | .libNonEmpty => match l.lib with
    | some (lb, ol) => !(lb.isEmpty && ol.isEmpty)
    | none => false
  | .groupsNonEmpty => decide (e.f.groups ≠ 0)
  | .kerningNonEmpty => decide (e.f.kerning ≠ 0)
  | .featuresNonEmpty => decide (e.f.features ≠ 0)
  | .hasCR b => e.cr == b
  | .dataNonEmpty => !e.d.isEmpty
  | .imagesNonEmpty => !e.i.isEmpty
  | _ => false

def postStep (e : Env β) (l : Loc) : Step → Loc × List (Eff β)
  | .createTarget => (l, [.mkdir (tC e.t)])
  | .writeMetainfo => (l, [.write (sub e.t "metainfo.plist") (e.cfg.render (.metainfo e.f.metaTok))])
  | .writeFontinfo =>
    (l, if e.f.info.serialisable then [.write (sub e.t "fontinfo.plist") (e.cfg.render (.fontinfo e.f.info))]
        else [.write (sub e.t "fontinfo.plist") (e.cfg.render .truncated), .fail .serialise])
  | .bindLib => ({ l with lib := some (e.f.lib, []) }, [])
  | .bindFol =>
    match dumpObjectLibs e.f.info.guides with
    | none => ({ lib := none, fol := none }, [.fail .panic])       -- the `unwrap` in `dump_object_libs`
    | some ol => ({ l with fol := some ol }, [])
  | .insertFol => ({ l with lib := l.lib.map fun p => (p.1, l.fol.getD []) }, [])
  | .sortLib => (l, [])
  | .writeLib =>
    match l.lib with
    | some (lb, ol) => (l, [.write (sub e.t "lib.plist") (e.cfg.render (.lib lb ol))])
    | none => (l, [])
  | .writeGroups => (l, [.write (sub e.t "groups.plist") (e.cfg.render (.groups e.f.groups))])
  | .writeKerning => (l, [.write (sub e.t "kerning.plist") (e.cfg.render (.kerning e.f.kerning))])
  | .writeFeatures => (l, [.write (sub e.t "features.fea") (e.cfg.render (.features e.f.features))])
  | .bindContents => (l, [])
  | .writeLayercontents =>
    (l, [.write (sub e.t "layercontents.plist") (e.cfg.render (.layercontents (e.f.layers.map fun x => (x.name, x.dir))))])
  | .saveLayers => (l, e.f.layers.flatMap (planLayer e.cfg e.t))
  | .writeData => (l, e.d.flatMap (planDataItem e.t))
  | .createImages => (l, [.mkdir (sub e.t "images")])
  | .writeImages => (l, e.i.map fun kb => .write (joinRel (sub e.t "images") kb.1) kb.2)
  | _ => (l, [])

def rowHolds (e : Env β) (l : Loc) (r : Row) : Bool := r.1.all (postAtom e l)

def rowLoc (e : Env β) (l : Loc) (r : Row) : Loc := if rowHolds e l r then (postStep e l r.2).1 else l

def rowEffs (e : Env β) (l : Loc) (r : Row) : List (Eff β) := if rowHolds e l r then (postStep e l r.2).2 else []

def planRows (e : Env β) : List Row → Loc → List (Eff β)
  | [], _ => []
  | r :: rs, l => rowEffs e l r ++ planRows e rs (rowLoc e l r)

def isWipe (r : Row) : Bool := r.2 == .removeDirAll

/-- the table run against the model's file system: the rows in front of the wipe refuse or pass; the stores are what the
    pass over the entries forced; the wipe row; the rest is a plan of effects -/
def execRows (rows : List Row) (cfg : Cfg β) (f : AFont β) (fs : FS β) (t : APath) (creator cr : Bool) :
    Option SaveErr × FS β :=
  match firstRefusal cfg f fs (rows.takeWhile (!isWipe ·)) with
  | some k => (some (.refused k), fs)
  | none =>
    match forceStore cfg .data fs f.data, forceStore cfg .images fs f.images with
    | some d, some i =>
      match rows.dropWhile (!isWipe ·) with
      | (g, _) :: post =>
        let wiped := if g.all (fun a => a == .pathExists && existsAt fs (tC t)) then removeDirAll fs (tC t) else .ok fs
        match wiped with
        | .error e => (some (.cleanup e), fs)
        | .ok fs1 => runEffs (planRows { cfg, f, d, i, t, creator, cr } post { lib := none, fol := none }) fs1
      | [] => (none, fs)
    | _, _ => (some .panic, fs)      -- `expect("internal error: should have been checked")`

/-- the rows behind the wipe: rows 0-4 of `modelRows` refuse, row 5 is the wipe -/
def modelPost : List Row := modelRows.drop 6

/-- a step that stands in the table twice, under a fact and under its negation, happens once -/
theorem ite_either {α : Type} (p b : Bool) (a r : List α) :
    (if (p && b == true) = true then a else []) ++ ((if (p && b == false) = true then a else []) ++ r) =
      (if p = true then a else []) ++ r := by
  cases p <;> cases b <;> rfl

theorem planRows_append (e : Env β) (a b : List Row) (l : Loc) :
    planRows e (a ++ b) l = planRows e a l ++ planRows e b (a.foldl (rowLoc e) l) := by
  induction a generalizing l with
  | nil => rfl
  | cons r a ih => simp only [List.cons_append, planRows, List.foldl_cons, ih, List.append_assoc]

theorem planRows_model (e : Env β) :
    planRows e modelPost { lib := none, fol := none } = plan e.cfg e.f e.d e.i e.t := by
  -- `modelPost` in three groups: create the target … fontinfo (4 rows), the five rows about the lib (`bindLib` …
  -- `writeLib`), groups … images (10 rows); only the middle group reads or writes the locals
  rw [show modelPost = modelPost.take 4 ++ ((modelPost.drop 4).take 5 ++ modelPost.drop 9) from rfl,
    planRows_append, planRows_append]
  have h1 : ∀ l, planRows e (modelPost.take 4) l =
        [.mkdir (tC e.t), .write (sub e.t "metainfo.plist") (e.cfg.render (.metainfo e.f.metaTok))] ++
          planFontinfo e.cfg e.t e.f.info ∧
      (modelPost.take 4).foldl (rowLoc e) l = l := by
    have hcreator := ite_either (α := Eff β) true e.creator
    simp only [Bool.true_and] at hcreator
    simp only [modelPost, modelRows, List.drop, List.take, planRows, rowEffs, rowLoc, rowHolds, List.all_cons,
      List.all_nil, Bool.and_true, postAtom, postStep, planFontinfo, ite_self, if_true, hcreator, List.foldl_cons,
      List.foldl_nil]
    simp [← Bool.not_eq_true]
  have h2 : planRows e ((modelPost.drop 4).take 5) { lib := none, fol := none } = planLib e.cfg e.t e.f := by
    -- the dump of the object libs panics, finds none, finds some
    rcases hol : dumpObjectLibs e.f.info.guides with _ | _ | _ <;>
      simp [modelPost, modelRows, List.drop, List.take, planRows, rowEffs, rowLoc, rowHolds, postAtom, postStep,
        planLib, hol]
  have h3 : ∀ l, planRows e (modelPost.drop 9) l =
      planOpt e.t "groups.plist" e.f.groups (e.cfg.render (.groups e.f.groups)) ++
      planOpt e.t "kerning.plist" e.f.kerning (e.cfg.render (.kerning e.f.kerning)) ++
      planOpt e.t "features.fea" e.f.features (e.cfg.render (.features e.f.features)) ++
      [.write (sub e.t "layercontents.plist")
        (e.cfg.render (.layercontents (e.f.layers.map fun l => (l.name, l.dir))))] ++
      e.f.layers.flatMap (planLayer e.cfg e.t) ++ e.d.flatMap (planDataItem e.t) ++ planImages e.t e.i := by
    simp only [modelPost, modelRows, List.drop, planRows, rowEffs, rowLoc, rowHolds, List.all_cons,
      List.all_nil, Bool.and_true, postAtom, postStep, planOpt, planImages, ite_self, if_true, ite_either]
    cases e.d <;> cases e.i <;> simp
  rw [(h1 _).1, (h1 _).2, h2, h3, plan]
  simp only [List.append_assoc]

/-- the five refusal rows are the five guards of `validatePhase`, in its order -/
theorem firstRefusal_model (cfg : Cfg β) (f : AFont β) (fs : FS β) :
    firstRefusal cfg f fs (modelRows.takeWhile (!isWipe ·)) =
      match validatePhase cfg f fs with
      | .error k => some k
      | .ok _ => none := by
  have htw : modelRows.takeWhile (!isWipe ·) = modelRows.take 5 := by decide
  rw [htw]
  simp only [modelRows, List.take, firstRefusal, List.all_cons, List.all_nil, Bool.and_true, preAtom, decide_eq_true_eq]
  fun_cases validatePhase cfg f fs <;> simp [*]

/-- **the interpreter on the model's rows is `saveImpl`**, for every value of the two facts the model does not look at -/
theorem execRows_model (cfg : Cfg β) (f : AFont β) (fs : FS β) (t : APath) (creator cr : Bool) :
    execRows modelRows cfg f fs t creator cr = saveImpl cfg f fs t := by
  unfold execRows saveImpl
  rw [firstRefusal_model]
  have hdw : modelRows.dropWhile (!isWipe ·) = ([.pathExists], .removeDirAll) :: modelPost := by decide
  rw [hdw]
  cases hv : validatePhase cfg f fs with
  | error k => rfl
  | ok di =>
    obtain ⟨d, i⟩ := di
    obtain ⟨_, _, _, _, hd, hi⟩ := validatePhase_eq_ok.mp hv
    simp only [hd, hi, planRows_model { cfg, f, d, i, t, creator, cr }, List.all_cons, List.all_nil, Bool.and_true,
      beq_self_eq_true, Bool.true_and, wipe]
    cases existsAt fs (tC t) <;> rfl

end C08.Source
