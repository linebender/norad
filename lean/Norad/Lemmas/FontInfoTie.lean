import Norad.Spec.FontInfo
/-! Definitions for the source-level tie of C13: the model's literals mirrored as tables, the date chain
    rebuilt from an operand list, set comparison. -/
namespace C13

namespace ModelConsts
def listLimits : List (String × Nat) :=
  [("postscript_blue_values", 14), ("postscript_other_blues", 10), ("postscript_family_blues", 14),
   ("postscript_family_other_blues", 10), ("postscript_stem_snap_h", 12), ("postscript_stem_snap_v", 12)]
def pairLists : List String :=
  ["postscript_blue_values", "postscript_other_blues", "postscript_family_blues", "postscript_family_other_blues"]
def dateLength : Nat := 19
def dateExtraChars : List Char := [' ', '/', ':']
/-- operands of `dateChain`, encoded as the extractor encodes the source's: `(kind, a, b, x, y)` is an operand on the slice
    `v[a..b]`; kind 0 = the slice parses as `u16` (`x`, `y` unused), kind 1 = the slice is the one character with code `x`
    (`y` unused), any other kind (the extractor writes 2) = the slice parses as `u8` within `x..=y` -/
def dateOps : List (Nat × Nat × Nat × Nat × Nat) :=
  [(0, 0, 4, 0, 0), (1, 4, 5, 47, 0), (2, 5, 7, 1, 12), (1, 7, 8, 47, 0), (2, 8, 10, 1, 31), (1, 10, 11, 32, 0),
   (2, 11, 13, 0, 23), (1, 13, 14, 58, 0), (2, 14, 16, 0, 59), (1, 16, 17, 58, 0), (2, 17, 19, 0, 59)]
def selectionForbidden : List Nat := [0, 5, 6]
def classRange : Nat × Nat := (0, 14)
def subclassRange : Nat × Nat := (0, 15)
def angleRange : Nat × Nat := (0, 360)
end ModelConsts

def opStep (v : List Char) (op : Nat × Nat × Nat × Nat × Nat) : Step :=
  match op with
  | (0, a, b, _, _) =>
    (match slice v a b with
     | none => .panic
     | some s => if (parseUnsigned 65535 s).isSome then .tt else .ff)
  | (1, a, b, x, _) =>
    (match slice v a b with
     | none => .panic
     | some s => if s = [Char.ofNat x] then .tt else .ff)
  | (_, a, b, lo, hi) => fieldIn v a b lo hi

/-- the case `[op]`: `dateChain` does not end in `.andThen .tt`; with it `dateChain v = chainOf v ModelConsts.dateOps` is `rfl` -/
def chainOf (v : List Char) : List (Nat × Nat × Nat × Nat × Nat) → Step
  | [] => .tt
  | [op] => opStep v op
  | op :: r => (opStep v op).andThen (chainOf v r)

def sameSet {α} (a b : List α) : Prop := (∀ x ∈ a, x ∈ b) ∧ (∀ x ∈ b, x ∈ a)

instance {α} [DecidableEq α] (a b : List α) : Decidable (sameSet a b) := by unfold sameSet; infer_instance

/-- two-digit fields of the extracted chain as (position, least, greatest) -/
def fieldsOf (ops : List (Nat × Nat × Nat × Nat × Nat)) : List (Nat × Nat × Nat) :=
  ops.filterMap fun op => if op.1 = 2 then some (op.2.1, op.2.2.2.1, op.2.2.2.2) else none
def separatorsOf (ops : List (Nat × Nat × Nat × Nat × Nat)) : List (Nat × Char) :=
  ops.filterMap fun op => if op.1 = 1 then some (op.2.1, Char.ofNat op.2.2.2.1) else none
def yearsOf (ops : List (Nat × Nat × Nat × Nat × Nat)) : List (Nat × Nat) :=
  ops.filterMap fun op => if op.1 = 0 then some (op.2.1, op.2.2.1) else none

end C13
