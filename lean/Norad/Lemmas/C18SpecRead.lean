import Norad.Lemmas.C18Doc
/-!
# C18 — `Spec.specRead` finds the document in the tree `toTree` writes

Outside the libs the specification's reader accepts every element norad's reader accepts, with the same result
(`Refines`); so it finds what `fromTree` finds.  The libs are read by different rules (no trimming, no repeated
keys) and are treated on what the writer produces.
-/
namespace C18
open C18.Spec

theorem get_is : IsLookup fun k (a : List (String × String)) => Spec.get a k := ⟨fun _ => rfl, fun _ _ _ _ => rfl⟩

theorem get_eq_attr (a : List (String × String)) (k : String) : Spec.get a k = attr? a k := get_is.ext attr_is k a

theorem number_eq (c : Codec) (a : List (String × String)) (k : String) :
    number c a k = readOptF32 c (attr? a k) := by
  unfold number
  rw [get_eq_attr]
  cases attr? a k with
  | none => rfl
  | some s => simp only [readOptF32]; cases c.readF32 s <;> rfl

theorem required_eq (c : Codec) (a : List (String × String)) (k : String) :
    required c a k = (attr? a k).bind c.readF32 := by
  unfold required
  rw [get_eq_attr]
  cases attr? a k <;> rfl

theorem leafText_content (s : String) : leafText (if s = "" then [] else [Tree.txt s]) = some s := by
  by_cases h : s = "" <;> simp [h, leafText]

theorem optionAll_eq_mapM {α β : Type} (f : α → Option β) : ∀ xs : List α, optionAll f xs = xs.mapM f
  | [] => rfl
  | x :: r => by
    rw [optionAll, optionAll_eq_mapM f r, List.mapM_cons]
    cases f x <;> cases r.mapM f <;> rfl

theorem words_eq_splitSp : ∀ cs acc : List Char, words cs acc = splitSp cs acc.reverse
  | [], acc => by simp [words, splitSp]
  | ch :: r, acc => by
    by_cases h : ch = ' ' <;> simp [words, splitSp, h, words_eq_splitSp r]

/-- attributes and children of an element: how the specification's `kids` hands children over -/
def parts : Tree → Option (List (String × String) × List Tree)
  | .elem _ a k => some (a, k)
  | .txt _ => none

theorem kids_eq (n : String) : ∀ ts, kids n ts = (childrenNamed n ts).filterMap parts
  | [] => rfl
  | .txt _ :: r => by simpa [kids, childrenNamed, named] using kids_eq n r
  | .elem m a k :: r => by
    by_cases h : m = n <;> simp [kids, childrenNamed, named, h, parts] <;> simpa [childrenNamed] using kids_eq n r

theorem kids_of_one {n : String} {cs : List Tree} {a : List (String × String)} {k : List Tree}
    (h : oneChild n cs = .one a k) : kids n cs = [(a, k)] := by
  rw [kids_eq]; unfold oneChild at h
  split at h <;> simp_all [parts]

theorem kids_of_absent {n : String} {cs : List Tree} (h : oneChild n cs = .absent) : kids n cs = [] := by
  rw [kids_eq]; unfold oneChild at h
  split at h <;> simp_all

def Refines {α : Type} (f : Tree → Option α) (g : List (String × String) × List Tree → Option α) : Prop :=
  ∀ n a k x, f (.elem n a k) = some x → g (a, k) = some x

theorem Refines.optionAll_kids {α : Type} {f : Tree → Option α} {g} (h : Refines f g) (n : String) :
    ∀ (cs : List Tree) (xs : List α), (childrenNamed n cs).mapM f = some xs → optionAll g (kids n cs) = some xs
  | [], xs, e => by cases e; rfl
  | .txt _ :: r, xs, e => h.optionAll_kids n r xs (by simpa [childrenNamed, named] using e)
  | .elem m a k :: r, xs, e => by
    by_cases hm : m = n
    · simp only [childrenNamed, List.filter_cons, named, hm, beq_self_eq_true, if_true, List.mapM_cons,
        Option.bind_eq_bind, Option.bind_eq_some_iff, Option.pure_def, Option.some.injEq] at e
      obtain ⟨x, hx, xs', hxs, rfl⟩ := e
      simp [Spec.kids, hm, optionAll, h _ _ _ _ hx, h.optionAll_kids n r xs' hxs]
    · have : (m == n) = false := by simpa using hm
      simpa [Spec.kids, hm] using h.optionAll_kids n r xs (by simpa [childrenNamed, named, this] using e)

theorem dimension_refines (c : Codec) : Refines (dimensionOf c) (dimension c) := by
  intro n a k x h
  simp only [dimensionOf, optF32Attr, Option.bind_eq_bind, Option.bind_eq_some_iff, Option.pure_def,
    Option.some.injEq] at h
  obtain ⟨name, h1, u, h2, xv, h3, yv, h4, rfl⟩ := h
  simp [dimension, get_eq_attr, number_eq, h1, h2, h3, h4]

theorem mapping_refines (c : Codec) : Refines (mapOf c) (mapping c) := by
  intro n a k x h
  simp only [mapOf, Option.bind_eq_bind, Option.bind_eq_some_iff, Option.pure_def, Option.some.injEq] at h
  obtain ⟨i, ⟨si, h1, h1'⟩, o, ⟨so, h2, h2'⟩, rfl⟩ := h
  simp [mapping, required_eq, h1, h1', h2, h2']

theorem condition_refines (c : Codec) : Refines (conditionOf c) (condition c) := by
  intro n a k x h
  simp only [conditionOf, optF32Attr, Option.bind_eq_bind, Option.bind_eq_some_iff, Option.pure_def,
    Option.some.injEq] at h
  obtain ⟨name, h1, mn, h2, mx, h3, rfl⟩ := h
  simp [condition, get_eq_attr, number_eq, h1, h2, h3]

theorem conditionSet_refines (c : Codec) : Refines (conditionSetOf c) (conditionSet c) := by
  intro n a k x h
  simp only [conditionSetOf, Option.map_eq_some_iff] at h
  obtain ⟨cs, h1, rfl⟩ := h
  simp [conditionSet, (condition_refines c).optionAll_kids _ _ _ h1]

theorem substitution_refines : Refines subOf substitution := by
  intro n a k x h
  simp only [subOf, Option.bind_eq_bind, Option.bind_eq_some_iff, Option.pure_def] at h
  obtain ⟨nm, h1, w, h2, h3⟩ := h
  split at h3
  · cases h3; simp [substitution, get_eq_attr, h1, h2]
  · cases h3

theorem Refines.of_readVec1 {α : Type} {f : Tree → Option α} {g} (h : Refines f g) {n : String} {cs : List Tree}
    {xs : List α} (e : readVec1 f n cs = some xs) : optionAll g (kids n cs) = some xs := by
  unfold readVec1 at e
  split at e
  · cases e
  · exact h.optionAll_kids n cs xs e

theorem location_refines {c : Codec} {cs : List Tree} {l : List Dimension} (e : readLocation c cs = some l) :
    location c cs = some l := by
  unfold readLocation at e
  split at e
  · rename_i a k ho
    rw [location, kids_of_one ho]
    exact (dimension_refines c).of_readVec1 e
  · cases e

theorem rule_refines (c : Codec) : Refines (ruleOf c) (rule c) := by
  intro n a k x h
  simp only [ruleOf, Option.bind_eq_bind, Option.bind_eq_some_iff, Option.pure_def, Option.some.injEq] at h
  obtain ⟨sets, h1, subs, h2, rfl⟩ := h
  simp [rule, get_eq_attr, (conditionSet_refines c).of_readVec1 h1, substitution_refines.of_readVec1 h2]

theorem rules_refines {c : Codec} {cs : List Tree} {r : Rules} (e : readRules c cs = some r) :
    rules c cs = some r := by
  unfold readRules at e
  split at e
  · rename_i ho; cases e; simp [rules, kids_of_absent ho]
  · cases e
  · rename_i a k ho
    simp only [Option.bind_eq_bind, Option.bind_eq_some_iff, Option.pure_def, Option.some.injEq] at e
    obtain ⟨p, h1, rs, h2, rfl⟩ := e
    rw [rules, kids_of_one ho]
    simp only [get_eq_attr, (rule_refines c).optionAll_kids _ _ _ h2]
    cases hs : attr? a "processing" with
    | none => simpa [hs, readOptProcessing] using h1
    | some s =>
      simp only [hs, readOptProcessing, readProcessing] at h1
      by_cases hf : s = "first"
      · subst hf; simpa using h1
      · simp only [hf, if_false, Option.ite_none_right_eq_some, Option.some.injEq] at h1
        simp [h1.1, ← h1.2]

theorem flag_eq (a : List (String × String)) (k : String) : flag a k = readHidden (attr? a k) := by
  rw [flag, get_eq_attr]
  cases attr? a k <;> simp [readHidden, readBool, or_comm]

theorem valuesList_eq (c : Codec) (a : List (String × String)) :
    valuesList c a = readOptValues c (attr? a "values") := by
  rw [valuesList, get_eq_attr]
  cases attr? a "values" <;> simp [readOptValues, readValues, words_eq_splitSp, optionAll_eq_mapM]

/-- the model reads no `map` child as `None`; the specification reads all of them and calls the empty list `None` -/
theorem readOptMaps_refines {c : Codec} {k : List Tree} {om : Option (List AxisMapping)}
    (h : readOptMaps c (childrenNamed "map" k) = some om) :
    ∃ ms, optionAll (mapping c) (kids "map" k) = some ms ∧ (if ms = [] then none else some ms) = om := by
  unfold readOptMaps at h
  split at h
  · rename_i he; cases h; exact ⟨[], by rw [kids_eq, he]; rfl, rfl⟩
  · rename_i ts hne
    obtain ⟨ms, h9, rfl⟩ := Option.map_eq_some_iff.1 h
    refine ⟨ms, (mapping_refines c).optionAll_kids _ _ _ h9, ?_⟩
    cases ms with
    | nil =>
      cases hts : childrenNamed "map" k with
      | nil => exact absurd hts (hne · )
      | cons t r => simp [hts, List.mapM_cons, Option.bind_eq_some_iff] at h9
    | cons _ _ => rfl

theorem axis_refines (c : Codec) : Refines (axisOf c) (axis c) := by
  intro n a k x h
  simp only [axisOf, optF32Attr, Option.bind_eq_bind, Option.bind_eq_some_iff, Option.pure_def,
    Option.some.injEq] at h
  obtain ⟨name, h1, tag, h2, dflt, ⟨sd, h3, h3'⟩, hid, h4, mn, h5, mx, h6, vs, h7, om, h8, rfl⟩ := h
  obtain ⟨ms, h9, h10⟩ := readOptMaps_refines h8
  simp [axis, get_eq_attr, required_eq, flag_eq, number_eq, valuesList_eq, h1, h2, h3, h3', h4, h5, h6, h7, h9, h10]

theorem source_refines (c : Codec) : Refines (sourceOf c) (source c) := by
  intro n a k x h
  simp only [sourceOf, Option.bind_eq_bind, Option.bind_eq_some_iff, Option.pure_def, Option.some.injEq] at h
  obtain ⟨fn, h1, loc, h2, rfl⟩ := h
  simp [source, get_eq_attr, h1, location_refines h2]

theorem Refines.of_readWrapped {α : Type} {f : Tree → Option α} {g} (h : Refines f g) {w i : String}
    {cs : List Tree} {xs : List α} (e : readWrapped f w i cs = some xs) :
    (below w i cs).bind (optionAll g) = some xs := by
  unfold readWrapped at e
  split at e
  · rename_i a k ho
    rw [below, kids_of_one ho]
    exact h.of_readVec1 e
  · cases e

theorem specRead_of_fromTree {c : Codec} {a : List (String × String)} {k : List Tree} {d : Doc}
    (h : fromTree c (.elem "designspace" a k) = some d)
    (hi : (below "instances" "instance" k).bind (optionAll (inst c)) = some d.instances)
    (hl : libOf c k = some d.lib) : specRead c (.elem "designspace" a k) = some d := by
  simp only [fromTree, Option.bind_eq_bind, Option.bind_eq_some_iff, Option.pure_def, Option.some.injEq] at h
  obtain ⟨f, ⟨sf, h1, h1'⟩, ax, h2, ru, h3, so, h4, ins, h5, lib, h6, rfl⟩ := h
  simp [specRead, required_eq, h1, h1', (axis_refines c).of_readWrapped h2, rules_refines h3,
    (source_refines c).of_readWrapped h4, hi, hl]

mutual
theorem pv_spec {c : Codec} (L : CodecLaws c) : ∀ (v : PV) (t : Tree), pvStated v = true →
    serializeWithin c v = .ok t → plistObject c t = some v
  | .str s, t, _, e => by
    cases (serializeWithin_str c s).symm.trans e
    simp [textElem, plistObject, leafText_content]
  | .int i, t, h, e => by
    cases (serializeWithin_int c i).symm.trans e
    simp only [pvStated, Bool.and_eq_true, decide_eq_true_eq] at h
    simp only [textElem, plistObject, leafText_content]
    rcases L.int_parse i h.1 h.2 with hp | ⟨hp, hp'⟩
    · simp [hp]
    · simp [hp, hp']
  | .real r, t, h, e => by
    cases (serializeWithin_real c r).symm.trans e
    simp [textElem, plistObject, leafText_content, L.f64_rt r h]
  | .bool b, t, _, e => by cases b <;> cases e <;> simp [plistObject]
  | .data d, t, _, e => by
    cases (serializeWithin_data c d).symm.trans e
    simp [textElem, plistObject, leafText_content, L.data_rt]
  | .date d, t, _, e => by
    rw [serializeWithin_date] at e
    split at e
    · cases e; simp [textElem, plistObject, leafText_content, L.date_rt d _ ‹_›]
    · cases e
  | .arr xs, t, h, e => by
    obtain ⟨ts, ha, rfl⟩ := Out.map_eq_ok.1 e
    simp [plistObject, pvs_spec L xs ts h ha]
  | .dict kvs, t, h, e => by
    obtain ⟨ts, ha, rfl⟩ := Out.map_eq_ok.1 e
    simp [plistObject, kvs_spec L kvs ts h ha]
  | .uid _, t, _, e => by cases e
theorem pvs_spec {c : Codec} (L : CodecLaws c) : ∀ (xs : PVs) (ts : List Tree), pvsStated xs = true →
    arrayInner c xs = .ok ts → plistArray c ts = some xs
  | .nil, ts, _, e => by cases e; rfl
  | .cons v r, ts, h, e => by
    simp only [pvsStated, Bool.and_eq_true] at h
    obtain ⟨t, hv, rs, hr, rfl⟩ := Out.bind₂_eq_ok.1 e
    simp [plistArray, pv_spec L v t h.1 hv, pvs_spec L r rs h.2 hr]
theorem kvs_spec {c : Codec} (L : CodecLaws c) : ∀ (kvs : KVs) (ts : List Tree), kvsStated kvs = true →
    dictInner c kvs = .ok ts → plistDict c ts = some kvs
  | .nil, ts, _, e => by cases e; rfl
  | .cons k v r, ts, h, e => by
    simp only [kvsStated, Bool.and_eq_true, Bool.not_eq_true'] at h
    obtain ⟨t, hv, rs, hr, rfl⟩ := Out.bind₂_eq_ok.1 e
    have hk : ¬ k ∈ r.keys := by simpa using h.1.1
    simp [plistDict, textElem, leafText_content, pv_spec L v t h.1.2 hv, kvs_spec L r rs h.2 hr, hk]
end

theorem spec_lib {c : Codec} (L : CodecLaws c) (l : KVs) (ls : List Tree) (hs : kvsStated l = true)
    (e : libNodes c l = .ok ls) (cs : List Tree) (hcs : childrenNamed "lib" cs = ls) : libOf c cs = some l := by
  rw [libOf, kids_eq, hcs]
  cases l with
  | nil => cases e; rfl
  | cons k v r =>
    obtain ⟨ts, hd, rfl⟩ := Out.map_eq_ok.1 e
    simp [kids, parts, kvs_spec L _ ts hs hd]

theorem spec_instances {c : Codec} (L : CodecLaws c) : ∀ (is : List Instance) (ts : List Tree),
    (∀ i ∈ is, locOk i.location = true ∧ kvsStated i.lib = true) → instanceNodes c is = .ok ts →
    optionAll (inst c) (kids "instance" ts) = some is
  | [], ts, _, e => by cases e; rfl
  | i :: r, ts, h, e => by
    obtain ⟨t, hv, rs, hr, rfl⟩ := Out.bind₂_eq_ok.1 e
    obtain ⟨ls, hlib, rfl⟩ := Out.map_eq_ok.1 hv
    obtain ⟨hl, hs⟩ := h i (by simp)
    obtain ⟨hloc, hl'⟩ := instanceChildren_named hlib i.location
    have h1 := location_refines (location_rt L i.location hl hloc)
    have h2 := spec_lib L i.lib ls hs hlib _ hl'
    simp [kids, optionAll, inst, h1, h2, get_eq_attr, instanceAttrs,
      spec_instances L r rs (fun x hx => h x (by simp [hx])) hr]

theorem spec_top {c : Codec} (L : CodecLaws c) (d : Doc) (insts ls : List Tree)
    (hs : kvsStated d.lib = true) (his : ∀ i ∈ d.instances, locOk i.location = true ∧ kvsStated i.lib = true)
    (e1 : instanceNodes c d.instances = .ok insts) (e2 : libNodes c d.lib = .ok ls) :
    (below "instances" "instance" (topChildren c d insts ls)).bind (optionAll (inst c)) = some d.instances ∧
    libOf c (topChildren c d insts ls) = some d.lib := by
  have S := topChildren_named e2 insts
  refine ⟨?_, spec_lib L d.lib ls hs e2 _ S.lib⟩
  rw [below, kids_eq, S.instances]
  by_cases hne : insts = []
  · -- nothing written means no instance, and the absent wrapper is read as `[]`
    have := spec_instances L _ _ his (hne ▸ e1)
    simp only [kids, optionAll, Option.some.injEq] at this
    simp [hne, wrapList, optionAll, ← this]
  · simpa [wrapList_ne hne, parts] using spec_instances L _ _ his e1

end C18
