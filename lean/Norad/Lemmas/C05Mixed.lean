import Norad.Lemmas.C05Doc
/-!
# Whole documents of the specification-level writer, defaults spelt out or omitted (C05)

`specWriteWith ch rdr d` is `Ufo3.specWrite` with an independent choice at every attribute SITE whose value is the
specification's default (`type` of an off-curve point, `smooth` of a point that is not smooth, each of the six coefficients
of each component and of the image, `width` / `height` of the advance): written or left out; a value that is not the default
is always written.  Sites are addressed by position (`point ci pi`, `comp ki`); all-true is `specWrite`.  Every child of the
written tree is read by norad's parser as the corresponding item of the glif builder's grammar (`body_read_with`), so the
document is accepted as every list of events read item by item as a legal document is (`Glif.accepted_itemwise`).
-/
namespace C05Bridge
open Ufo3 Glif

structure Choice where
  advW : Bool
  advH : Bool
  image : TrCh
  point : Nat → Nat → PtCh
  comp : Nat → TrCh

def writePointsWith (rdr : Render) : (Nat → PtCh) → List PointD → List XNode
  | _, [] => []
  | ch, p :: r => writePointWith (ch 0) rdr p :: writePointsWith rdr (fun i => ch (i + 1)) r

def writeContoursWith (rdr : Render) : (Nat → Nat → PtCh) → List ContourD → List XNode
  | _, [] => []
  | ch, c :: r =>
    .elem "contour" (optA "identifier" c.identifier) (writePointsWith rdr (ch 0) c.points) "" ::
      writeContoursWith rdr (fun i => ch (i + 1)) r

def writeComponentsWith (rdr : Render) : (Nat → TrCh) → List ComponentD → List XNode
  | _, [] => []
  | ch, k :: r => writeComponentWith (ch 0) rdr k :: writeComponentsWith rdr (fun i => ch (i + 1)) r

def specWriteWith (ch : Choice) (rdr : Render) (g : GlyphD) : XNode :=
  .elem "glyph" [("name", g.name), ("format", "2")]
    ([.elem "advance" (coefA rdr ch.advW "width" zeroBits g.width ++ coefA rdr ch.advH "height" zeroBits g.height) [] ""] ++
     g.unicodes.map (writeUnicode rdr) ++
     optNode (fun n => .elem "note" [] [] n) g.note ++
     optNode (writeImageWith ch.image rdr) g.image ++
     g.guidelines.map (writeGuideline rdr) ++
     g.anchors.map (writeAnchor rdr) ++
     [.elem "outline" [] (writeContoursWith rdr ch.point g.contours ++ writeComponentsWith rdr ch.comp g.components) ""] ++
     optNode (fun l => .elem "lib" [] [] l) g.lib) ""

section
variable {rd : Str → Option Nat} {rdr : Render} {nc : Color → Color} {ok : Nat → Prop}

theorem mem_descIdents {d : GlyphD} {i : Str} :
    i ∈ descIdents d ↔ (∃ g ∈ d.guidelines, g.identifier.map L = some i) ∨ (∃ a ∈ d.anchors, a.identifier.map L = some i) ∨
      (∃ c ∈ d.contours, c.identifier.map L = some i ∨ ∃ p ∈ c.points, p.identifier.map L = some i) ∨
      (∃ k ∈ d.components, k.identifier.map L = some i) := by
  simp only [descIdents, List.mem_append, List.mem_flatMap, Option.mem_toList, or_assoc]

theorem readIdent_of_readable {ver : Nat} {seen : List Str} {o : Option String} (h : IdentReadable ver seen (o.map L)) (i : String)
    (hi : o = some i) : readIdent ver seen (L i) = some (L i) := h _ (hi ▸ rfl)

theorem leaf_readAs (rl : String → LibV) {it : BIt} {t : String} {as : List (String × String)} {kids : List XNode} {x : String}
    (ht : ["outline", "lib", "note"].contains t = false) (h : BIt.ReadAs rd nc it [.empty t.toList (some (attrsL as))]) :
    BIt.ReadAs rd nc it (glyphChildEvs rl (.elem t as kids x)) := by
  rwa [glyphChildEvs_leaf rl _ _ _ ht]

theorem points_read_with (hP : ParseCodec rd rdr ok) : ∀ (ch : Nat → PtCh) (ps : List PointD),
    (∀ p, p ∈ ps → ok p.x ∧ ok p.y ∧ (∀ n, p.name = some n → validName (L n) = true)) →
    (∀ p, p ∈ ps → ∀ i, p.identifier.map L = some i → validIdent i = true) →
    Itemwise (CIt.ReadAs rd) (ps.map fun p => CIt.point (pointG p)) ((writePointsWith rdr ch ps).map leafEv)
  | _, [], _, _ => .nil
  | ch, p :: r, h, hid =>
    .cons (e := [leafEv (writePointWith (ch 0) rdr p)])
      (readAs_point (hid p List.mem_cons_self) fun _ _ hr =>
        norad_parses_point_with hP (ch 0) (h p List.mem_cons_self).1 (h p List.mem_cons_self).2.1 (h p List.mem_cons_self).2.2
          (readIdent_of_readable hr))
      (points_read_with hP _ r (fun q hq => h q (List.mem_cons_of_mem _ hq)) fun q hq => hid q (List.mem_cons_of_mem _ hq))

theorem contours_read_with (hP : ParseCodec rd rdr ok) : ∀ (ch : Nat → Nat → PtCh) (cs : List ContourD),
    (∀ c, c ∈ cs → ∀ p, p ∈ c.points → ok p.x ∧ ok p.y ∧ (∀ n, p.name = some n → validName (L n) = true)) →
    (∀ c, c ∈ cs → ∀ i, (c.identifier.map L = some i ∨ ∃ p ∈ c.points, p.identifier.map L = some i) → validIdent i = true) →
    (∀ c, c ∈ cs → C11.Legal (c.points.map descPt)) →
    Itemwise (OIt.ReadAs rd)
      (cs.map fun c => OIt.contour (c.identifier.map L) (c.points.map fun p => CIt.point (pointG p)))
      ((writeContoursWith rdr ch cs).flatMap outlineChildEvs)
  | _, [], _, _, _ => .nil
  | ch, c :: r, h, hid, hc =>
    .cons
      (readAs_contour (fun i hi => hid c List.mem_cons_self i (.inl hi))
        (fun _ _ hr => by rw [attrsL_optA]; exact contourAttrs_fold hr)
        (points_read_with hP (ch 0) c.points (h c List.mem_cons_self) fun p hp i hi =>
          hid c List.mem_cons_self i (.inr ⟨p, hp, hi⟩))
        (by rw [toPt_points]; exact (C11.accepts_iff_legal _).2 (hc c List.mem_cons_self)))
      (contours_read_with hP _ r (fun x hx => h x (List.mem_cons_of_mem _ hx)) (fun x hx => hid x (List.mem_cons_of_mem _ hx))
        fun x hx => hc x (List.mem_cons_of_mem _ hx))

theorem components_read_with (hP : ParseCodec rd rdr ok) : ∀ (ch : Nat → TrCh) (ks : List ComponentD),
    (∀ k, k ∈ ks → validName (L k.base) = true ∧ okAffine ok k.t ∧ affineStd k.t) →
    (∀ k, k ∈ ks → ∀ i, k.identifier.map L = some i → validIdent i = true) →
    Itemwise (OIt.ReadAs rd) (ks.map fun k => OIt.component (componentG k)) ((writeComponentsWith rdr ch ks).flatMap outlineChildEvs)
  | _, [], _, _ => .nil
  | ch, k :: r, h, hid =>
    .cons (e := [leafEv (writeComponentWith (ch 0) rdr k)])
      (readAs_component (hid k List.mem_cons_self) fun _ _ hr =>
        (norad_parses_component_with hP (ch 0) (h k List.mem_cons_self).1 (h k List.mem_cons_self).2.1 (readIdent_of_readable hr)).trans
          (congrArg some (by
            rw [pComponent, show normT (componentG k).transform = trG k.t from normT_std (h k List.mem_cons_self).2.2]; rfl)))
      (components_read_with hP _ r (fun q hq => h q (List.mem_cons_of_mem _ hq)) fun q hq => hid q (List.mem_cons_of_mem _ hq))

theorem body_read_with (hP : ParseCodec rd rdr ok) (ch : Choice) (rl : String → LibV) (libD : Dict) (d : GlyphD)
    (hd : DescLegal ok nc d) (hl : ∀ t, d.lib = some t → rl t = .dict libD) :
    Itemwise (BIt.ReadAs rd nc) (itemsOf libD d) ((kidsOf (specWriteWith ch rdr d)).flatMap (glyphChildEvs rl)) := by
  have hv := hd.desc
  have hid : ∀ i, i ∈ descIdents d → validIdent i = true := hd.identsValid
  simp only [itemsOf, specWriteWith, kidsOf, List.flatMap_append, List.flatMap_cons, List.flatMap_nil, List.append_nil]
  /- The element parsers return the described values exactly; an item of the grammar stands for the NORMAL FORM of the value
     it carries (`pAnchor nc`, `normT`, the `nonZero` gate of `applyG`).  `ncFixed`, `affineStd`, `wstd`/`hstd` of `DescOK` say
     that the description is its own normal form: used below, and only there (`map_nc_fixed`, `normT_std`, `offset_std`). -/
  refine .append (.append (.append (.append (.append (.append (.append (.one ?adv) ?uni) ?note) ?img) ?gl) ?an) (.one ?out)) ?lib
  case adv =>
    refine leaf_readAs rl (by simp) (readAs_advance ?_)
    rw [norad_parses_advance_with hP ch.advW ch.advH hv.width hv.height, offset_std hv.wstd, offset_std hv.hstd]
  case uni =>
    rw [List.flatMap_map]
    exact .map _ _ _ fun c hc =>
      leaf_readAs rl (by simp) (readAs_unicode fun cps => norad_parses_spec_unicode hP cps (hv.unicodes c hc))
  case note =>
    cases d.note with
    | none => exact .nil
    | some n =>
      simp only [optNode, List.flatMap_cons, List.flatMap_nil, List.append_nil, childEvs_note]
      refine .one ?_
      have := readAs_note (rd := rd) (nc := nc) (if n.isEmpty then none else some (L n))
      cases h : n.isEmpty <;> simpa [h, L] using this
  case img =>
    cases hi : d.image with
    | none => exact .nil
    | some i =>
      obtain ⟨h1, h2, h3, h4⟩ := hv.image i hi
      simp only [optNode, List.flatMap_cons, List.flatMap_nil, List.append_nil]
      refine .one (leaf_readAs rl (by simp) (readAs_image
        ((norad_parses_image_with hP ch.image (hd.imageName i hi) h1 h3).trans (congrArg some ?_))))
      rw [pImage, show normT (imageG i).transform = trG i.t from normT_std h2,
        show (imageG i).color.map nc = i.color.map colG from map_nc_fixed h4]
      rfl
  case gl =>
    rw [List.flatMap_map]
    refine .map _ _ _ fun g hg => leaf_readAs rl (by simp) (readAs_guideline ?_ fun seen hi => ?_)
    · exact fun i hi => hid i (mem_descIdents.2 (.inl ⟨g, hg, hi⟩))
    · obtain ⟨⟨l, h0⟩, h1, h2, h3, h4, h5, h6⟩ := hv.guidelines g hg
      refine (norad_parses_spec_guideline hP seen h0 h1 h2 h3 h4 h5 hi).trans (congrArg some ?_)
      rw [pGuideline, show (guidelineG g).color.map nc = g.color.map colG from map_nc_fixed h6]
      simp only [guidelineG, h0, Option.getD_some]
  case an =>
    rw [List.flatMap_map]
    refine .map _ _ _ fun a ha => leaf_readAs rl (by simp) (readAs_anchor ?_ fun seen hi => ?_)
    · exact fun i hi => hid i (mem_descIdents.2 (.inr (.inl ⟨a, ha, hi⟩)))
    · obtain ⟨h1, h2, h3, h4, h5⟩ := hv.anchors a ha
      refine (norad_parses_spec_anchor hP seen h1 h2 h3 h4 hi).trans (congrArg some ?_)
      rw [pAnchor, show (anchorG a).color.map nc = a.color.map colG from map_nc_fixed h5]
      rfl
  case out =>
    simp only [glyphChildEvs, if_true, oitsOf, List.flatMap_append]
    exact readAs_outline (.append
      (contours_read_with hP ch.point d.contours hv.points
        (fun c hc i hi => hid i (mem_descIdents.2 (.inr (.inr (.inl ⟨c, hc, hi⟩))))) hd.contours)
      (components_read_with hP ch.comp d.components hv.components
        fun k hk i hi => hid i (mem_descIdents.2 (.inr (.inr (.inr ⟨k, hk, hi⟩))))))
  case lib =>
    cases hlib : d.lib with
    | none => exact .nil
    | some t =>
      simp only [optNode, List.flatMap_cons, List.flatMap_nil, List.append_nil, childEvs_lib, hl t hlib]
      exact .one (readAs_lib libD)

theorem parse_specWriteWith (hP : ParseCodec rd rdr ok) (ch : Choice) (rl : String → LibV) (libD : Dict)
    (d : GlyphD) (hd : DescLegal ok nc d) (hl : ∀ t, d.lib = some t → rl t = .dict libD) :
    parseGlif rd (eventsOf rl (specWriteWith ch rdr d)) = loadObjectLibs (glyphOf nc libD d) := by
  -- of `hL` only the identifiers and the counts are used: what `valid` says of the items, `body_read_with` has from the tree
  have hL := legalItems_of_descLegal libD hd
  rw [← interp_gdocOf]
  exact accepted_itemwise (pro := [.decl]) (trailer := []) (by intro e he; cases List.mem_singleton.1 he; rfl)
    (norad_parses_spec_glyph_attrs hd.name) (body_read_with hP ch rl libD d hd hl) hL.ids hL.advance hL.outline hL.lib hL.note
    hL.image

theorem writePointsWith_spelt : ∀ ps : List PointD, writePointsWith rdr (fun _ => ⟨true, true⟩) ps = ps.map (writePoint rdr)
  | [] => rfl
  | p :: r => congrArg (writePoint rdr p :: ·) (writePointsWith_spelt r)

theorem writeContoursWith_spelt : ∀ cs : List ContourD,
    writeContoursWith rdr (fun _ _ => ⟨true, true⟩) cs = cs.map (writeContour rdr)
  | [] => rfl
  | c :: r => by
    rw [writeContoursWith, writePointsWith_spelt, writeContoursWith_spelt r]; rfl

theorem writeComponentsWith_spelt : ∀ ks : List ComponentD,
    writeComponentsWith rdr (fun _ _ => true) ks = ks.map (writeComponent rdr)
  | [] => rfl
  | k :: r => congrArg (writeComponent rdr k :: ·) (writeComponentsWith_spelt r)

theorem specWriteWith_spelt (d : GlyphD) :
    specWriteWith ⟨true, true, fun _ => true, fun _ _ => ⟨true, true⟩, fun _ _ => true⟩ rdr d = specWrite rdr d := by
  rw [specWriteWith, writeContoursWith_spelt, writeComponentsWith_spelt]; rfl

theorem parse_specWrite_legal (hP : ParseCodec rd rdr ok) (rl : String → LibV) (libD : Dict)
    (d : GlyphD) (hd : DescLegal ok nc d) (hl : ∀ t, d.lib = some t → rl t = .dict libD) :
    parseGlif rd (eventsOf rl (specWrite rdr d)) = loadObjectLibs (glyphOf nc libD d) :=
  specWriteWith_spelt (rdr := rdr) d ▸ parse_specWriteWith hP _ rl libD d hd hl

end
end C05Bridge
