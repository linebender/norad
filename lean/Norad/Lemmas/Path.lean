import Norad.Base.Path
namespace Path

theorem splitSlash_name {n : List Char} (h : '/' ∉ n) : splitSlash n = [n] := by
  induction n with
  | nil => rfl
  | cons c r ih =>
    rw [splitSlash, if_neg fun (hc : c = '/') => h (hc ▸ List.mem_cons_self ..), ih fun hr => h (List.mem_cons_of_mem _ hr)]

theorem splitSlash_name_slash {n : List Char} (h : '/' ∉ n) (rest : List Char) :
    splitSlash (n ++ '/' :: rest) = n :: splitSlash rest := by
  induction n with
  | nil => rw [List.nil_append, splitSlash, if_pos rfl]
  | cons c r ih =>
    rw [List.cons_append, splitSlash, if_neg fun (hc : c = '/') => h (hc ▸ List.mem_cons_self ..),
      ih fun hr => h (List.mem_cons_of_mem _ hr)]

theorem splitSlash_pieces (s : List Char) : ∀ p ∈ splitSlash s, '/' ∉ p := by
  fun_induction splitSlash s with
  | case1 => exact fun p hp => List.mem_singleton.1 hp ▸ List.not_mem_nil
  | case2 r ih => exact List.forall_mem_cons.2 ⟨List.not_mem_nil, ih⟩
  | case3 c r hc _ ih => exact fun p hp => List.mem_singleton.1 hp ▸ fun h => hc (List.mem_singleton.1 h).symm
  | case4 c r hc p0 ps hs ih =>
    rw [hs] at ih
    exact List.forall_mem_cons.2 ⟨fun h => (List.mem_cons.1 h).elim (fun h => hc h.symm) (ih p0 List.mem_cons_self),
      fun p hp => ih p (List.mem_cons_of_mem _ hp)⟩

theorem compOfPiece_eq_normal {p q : List Char} :
    compOfPiece p = some (.normal q) ↔ q = p ∧ p ≠ [] ∧ p ≠ ['.'] ∧ p ≠ ['.', '.'] := by
  fun_cases compOfPiece p
  next h => simp [h]
  next _ h => simp [h]
  next _ _ h => simp [h]
  next h1 h2 h3 => simp [h1, h2, h3, eq_comm]

theorem firstComp_eq_normal {p q : List Char} :
    firstComp p = some (.normal q) ↔ q = p ∧ p ≠ [] ∧ p ≠ ['.'] ∧ p ≠ ['.', '.'] := by
  fun_cases firstComp p
  next h => simp [h]
  next => exact compOfPiece_eq_normal

theorem normal_mem_parse {s q : List Char} (h : Comp.normal q ∈ (parse s).comps) :
    q ≠ [] ∧ '/' ∉ q ∧ q ≠ ['.'] ∧ q ≠ ['.', '.'] := by
  have key : ∀ p ∈ splitSlash s, compOfPiece p = some (.normal q) ∨ firstComp p = some (.normal q) →
      q ≠ [] ∧ '/' ∉ q ∧ q ≠ ['.'] ∧ q ≠ ['.', '.'] := by
    intro p hp hc
    obtain ⟨rfl, a, b, c⟩ := hc.elim compOfPiece_eq_normal.1 firstComp_eq_normal.1
    exact ⟨a, splitSlash_pieces s q hp, b, c⟩
  unfold parse at h
  split at h
  · obtain ⟨p, hp, hc⟩ := List.mem_filterMap.1 h
    exact key p hp (Or.inl hc)
  · unfold relComps at h
    split at h
    · cases h
    · rename_i p0 ps hs
      rw [hs] at key
      rcases List.mem_append.1 h with h | h
      · exact key p0 (List.mem_cons_self ..) (Or.inr (Option.mem_toList.1 h))
      · obtain ⟨p, hp, hc⟩ := List.mem_filterMap.1 h
        exact key p (List.mem_cons_of_mem _ hp) (Or.inl hc)

theorem parse_name {n : List Char} (h1 : n ≠ []) (h2 : '/' ∉ n) (h3 : n ≠ ['.']) (h4 : n ≠ ['.', '.']) :
    parse n = ⟨false, [.normal n]⟩ := by
  have hhead : ¬ n.head? = some '/' := fun e => h2 (List.mem_of_mem_head? e)
  unfold parse relComps
  rw [if_neg hhead, splitSlash_name h2]
  show P.mk false ((firstComp n).toList ++ _) = _
  rw [firstComp_eq_normal.2 ⟨rfl, h1, h3, h4⟩]
  rfl

theorem parse_abs (k : List Char) : (parse k).abs = (k.head? == some '/') := by
  unfold parse
  split <;> simp [*]

theorem firstComp_cons_isSome (c : Char) (p : List Char) : (firstComp (c :: p)).isSome = true := by
  unfold firstComp
  split
  · rfl
  · rename_i h
    unfold compOfPiece
    rw [if_neg (List.cons_ne_nil c p), if_neg h]
    split <;> rfl

theorem splitSlash_cons {c : Char} (hc : c ≠ '/') (r : List Char) :
    ∃ p ps, splitSlash (c :: r) = (c :: p) :: ps := by
  unfold splitSlash
  rw [if_neg hc]
  split
  · exact ⟨_, _, rfl⟩
  · exact ⟨_, _, rfl⟩

theorem parse_comps_ne_nil {k : List Char} (h1 : k ≠ []) (h2 : (parse k).abs = false) :
    (parse k).comps ≠ [] := by
  cases k with
  | nil => exact absurd rfl h1
  | cons c r =>
    have hh : ¬ (c :: r).head? = some '/' := by rw [parse_abs] at h2; simpa using h2
    obtain ⟨p, ps, hs⟩ := splitSlash_cons (c := c) (by simpa using hh) r
    unfold parse relComps
    rw [if_neg hh, hs]
    have := firstComp_cons_isSome c p
    cases hf : firstComp (c :: p) <;> simp [hf] at this ⊢

theorem parse_isEmpty_iff (k : List Char) : (parse k).isEmpty = true ↔ k = [] := by
  constructor
  · intro h
    by_cases hk : k = []
    · exact hk
    · simp only [P.isEmpty, Bool.and_eq_true, Bool.not_eq_true', List.isEmpty_iff] at h
      exact absurd h.2 (parse_comps_ne_nil hk h.1)
  · rintro rfl; decide

theorem mem_properPrefixes {l m : List Comp} : l ∈ properPrefixes m ↔ l <+: m ∧ l ≠ m := by
  induction m generalizing l with
  | nil =>
    simp only [properPrefixes, List.not_mem_nil, List.prefix_nil, ne_eq, false_iff]
    exact fun h => h.2 h.1
  | cons c r ih =>
    simp only [properPrefixes, List.mem_append, List.mem_map, List.mem_singleton]
    cases l with
    | nil => simp
    | cons d l' =>
      simp only [List.cons.injEq, reduceCtorEq, or_false, List.cons_prefix_cons, ne_eq]
      constructor
      · rintro ⟨a, ha, rfl, rfl⟩
        have := ih.1 ha
        exact ⟨⟨rfl, this.1⟩, fun h => this.2 h.2⟩
      · rintro ⟨⟨rfl, hp⟩, hne⟩
        exact ⟨l', ih.2 ⟨hp, fun h => hne ⟨rfl, h⟩⟩, rfl, rfl⟩

theorem mem_properAncestors {a p : P} :
    a ∈ p.properAncestors ↔ a.abs = p.abs ∧ a.comps <+: p.comps ∧ a.comps ≠ p.comps := by
  unfold P.properAncestors
  simp only [List.mem_map]
  constructor
  · rintro ⟨l, hl, rfl⟩
    exact ⟨rfl, mem_properPrefixes.1 hl⟩
  · rintro ⟨h1, h2⟩
    refine ⟨a.comps, mem_properPrefixes.2 h2, ?_⟩
    cases a; simp_all

theorem startsWith_rel {p q : P} (hp : p.abs = false) (hq : q.abs = false) :
    q.startsWith p = true ↔ p.comps <+: q.comps := by
  unfold P.startsWith P.full
  rw [hp, hq, List.isPrefixOf_iff_prefix]
  exact List.prefix_map_iff_of_injective fun _ _ h => FullComp.c.inj h

theorem P.ext {p q : P} (h1 : p.abs = q.abs) (h2 : p.comps = q.comps) : p = q := by
  cases p; cases q; simp_all

theorem eq_of_flat_prefix {p q : P} (hp : p.abs = false) (hq : q.abs = false)
    (lp : p.comps.length = 1) (lq : q.comps.length = 1) (h : q.startsWith p = true) : p = q :=
  P.ext (hp.trans hq.symm) (((startsWith_rel hp hq).1 h).eq_of_length (lp.trans lq.symm))

end Path
