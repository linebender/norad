import Norad.Lemmas.C18Codec
/-!
# C18 — floats on the simple fragment: `readFloat (showFloat bits) = some bits`, all characters safe
-/
namespace C18

theorem isDigit_ne {ch x : Char} (h : ch.isDigit = true) (hx : x.isDigit = false) : ch ≠ x :=
  fun e => Bool.false_ne_true (hx.symm.trans (e ▸ h))

theorem natDigits_digits : ∀ (fuel n : Nat), n < fuel → Digits (natDigits fuel n) n ∧ natDigits fuel n ≠ []
  | 0, n, h => by omega
  | fuel + 1, n, h => by
    unfold natDigits
    split
    · have h := Digits.nil.snoc n
      rw [show 0 * 10 + n % 10 = n by omega] at h
      exact ⟨h, List.cons_ne_nil _ _⟩
    · have h := (natDigits_digits fuel (n / 10) (by omega)).1.snoc n
      rw [show n / 10 * 10 + n % 10 = n by omega] at h
      exact ⟨h, List.append_ne_nil_of_right_ne_nil _ (List.cons_ne_nil _ _)⟩

theorem showNat_digits (n : Nat) : Digits (showNat n) n ∧ showNat n ≠ [] := natDigits_digits (n + 1) n (by omega)

theorem takeWhile_noDot (l : List Char) (h : ∀ ch ∈ l, ch ≠ '.') (rest : List Char)
    (hr : rest = [] ∨ ∃ r, rest = '.' :: r) :
    (l ++ rest).takeWhile (· != '.') = l ∧ (l ++ rest).dropWhile (· != '.') = rest := by
  have hl : ∀ ch ∈ l, (ch != '.') = true := fun ch hc => by simpa using h ch hc
  rw [List.takeWhile_append_of_pos hl, List.dropWhile_append_of_pos hl]
  rcases hr with rfl | ⟨r, rfl⟩ <;> simp

theorem parseNat_of_ne_nil {l : List Char} (h : l ≠ []) : parseNat l = parseDigits l := by
  cases l with
  | nil => exact absurd rfl h
  | cons _ _ => rfl

/-- `parseDec` after the sign -/
def parseBody (neg : Bool) (r : List Char) : Option (Bool × Nat × Nat) :=
  match parseNat (r.takeWhile (· != '.')), r.dropWhile (· != '.') with
  | some i, [] => some (neg, i, 0)
  | some i, _ :: fr =>
    match parseNat fr with
    | some fv => some (neg, i * 10 ^ fr.length + fv, fr.length)
    | none => none
  | none, _ => none

theorem parseDec_signed (neg : Bool) (c : Char) (r : List Char) (hc : c ≠ '-') :
    parseDec ((if neg then ['-'] else []) ++ c :: r) = parseBody neg (c :: r) := by
  cases neg <;> simp [parseDec, parseBody, hc] <;> rfl

theorem parseDec_showDyadic (neg : Bool) (N j : Nat) :
    parseDec (showDyadic neg N j) = some (neg, N * 5 ^ j, j) := by
  obtain ⟨hn, n2⟩ := showNat_digits (N / 2 ^ j)
  have n1 := hn.parse
  obtain ⟨c, r, hs⟩ := List.exists_cons_of_ne_nil n2
  have hc : c ≠ '-' := isDigit_ne (hn.digit c (by simp [hs])) rfl
  have tw := takeWhile_noDot (showNat (N / 2 ^ j)) (fun ch h => isDigit_ne (hn.digit ch h) rfl)
  rw [showDyadic, List.append_assoc, hs, List.cons_append, parseDec_signed neg c _ hc, ← List.cons_append, ← hs,
    parseBody]
  by_cases hj : j = 0
  · obtain ⟨t1, t2⟩ := tw [] (Or.inl rfl)
    rw [if_pos hj, t1, t2, parseNat_of_ne_nil n2, n1, hj, Nat.pow_zero, Nat.div_one, Nat.mul_one]
  · obtain ⟨t1, t2⟩ := tw ('.' :: showFixed j (N % 2 ^ j * 5 ^ j)) (Or.inr ⟨_, rfl⟩)
    have f2 := showFixed_length j (N % 2 ^ j * 5 ^ j)
    have h10 : (10 : Nat) ^ j = 2 ^ j * 5 ^ j := by rw [← Nat.mul_pow]
    have hlt : N % 2 ^ j * 5 ^ j < 10 ^ j :=
      h10 ▸ Nat.mul_lt_mul_of_lt_of_le (Nat.mod_lt _ (Nat.pow_pos (by decide))) (Nat.le_refl _)
        (Nat.pow_pos (by decide))
    have hne : showFixed j (N % 2 ^ j * 5 ^ j) ≠ [] := fun e => hj (by rw [← f2, e]; rfl)
    simp only [hj, if_false, t1, t2, parseNat_of_ne_nil n2, n1, parseNat_of_ne_nil hne,
      parse_showFixed j _ hlt, f2]
    rw [h10, ← Nat.mul_assoc, ← Nat.add_mul, Nat.mul_comm (N / 2 ^ j) (2 ^ j), Nat.div_add_mod]

theorem readDyadic_showDyadic (f : FloatFmt) (neg : Bool) (N j : Nat) :
    readDyadic f (showDyadic neg N j) = encodeDyadic f neg N j := by
  unfold readDyadic
  rw [parseDec_showDyadic]
  have h5 : 0 < 5 ^ j := Nat.pow_pos (by decide)
  simp [Nat.mul_mod_left, Nat.mul_div_cancel _ h5]

theorem simpleOf_encode {f : FloatFmt} {bits : Nat} {neg : Bool} {N j : Nat}
    (h : simpleOf f bits = some (neg, N, j)) : encodeDyadic f neg N j = some bits := by
  revert h
  fun_cases simpleOf f bits with
  | case1 n' N' j' _ hc => rintro ⟨⟩; exact hc.1
  | case2 | case3 => nofun

/-- `readFloat` tells the exact decimal from the stand-in by the first character -/
theorem showDyadic_cons (neg : Bool) (N j : Nat) : ∃ c r, showDyadic neg N j = c :: r ∧ c ≠ '~' := by
  obtain ⟨hn, n2⟩ := showNat_digits (N / 2 ^ j)
  obtain ⟨c, r, hs⟩ := List.exists_cons_of_ne_nil n2
  cases neg
  · exact ⟨c, _, by rw [showDyadic, hs]; rfl, isDigit_ne (hn.digit c (by simp [hs])) rfl⟩
  · exact ⟨'-', _, rfl, by decide⟩

/-- **the float round trip of the model**, every bit pattern: exact decimal on the simple fragment,
    stand-in elsewhere -/
theorem readFloat_showFloat (f : FloatFmt) (bits : Nat) : readFloat f (showFloat f bits) = some bits := by
  unfold showFloat
  cases hs : simpleOf f bits with
  | none =>
    obtain ⟨hn, n2⟩ := showNat_digits bits
    simp only [readFloat, parseNat_of_ne_nil n2, hn.parse]
  | some r =>
    obtain ⟨neg, N, j⟩ := r
    obtain ⟨c, r, e, hc⟩ := showDyadic_cons neg N j
    have : readFloat f (showDyadic neg N j) = readDyadic f (showDyadic neg N j) := by
      rw [e]
      unfold readFloat
      split
      · rename_i heq; cases heq; exact absurd rfl hc
      · rfl
    rw [this, readDyadic_showDyadic, simpleOf_encode hs]

theorem showNat_safe (n : Nat) : (showNat n).all safeChar = true := (showNat_digits n).1.safe

theorem showDyadic_safe (neg : Bool) (N j : Nat) : (showDyadic neg N j).all safeChar = true := by
  have hm : safeChar '-' = true ∧ safeChar '.' = true := by decide
  cases neg <;> by_cases hj : j = 0 <;> simp [showDyadic, hj, showNat_safe, showFixed_safe, hm]

theorem showFloat_safe (f : FloatFmt) (bits : Nat) : (showFloat f bits).all safeChar = true := by
  unfold showFloat
  split
  · exact showDyadic_safe ..
  · simp [showNat_safe, (by decide : safeChar '~' = true)]

theorem showFloat_ne (f : FloatFmt) (bits : Nat) : showFloat f bits ≠ [] := by
  unfold showFloat
  split
  · rename_i neg N j _
    obtain ⟨c, r, e, -⟩ := showDyadic_cons neg N j
    simp [e]
  · simp

end C18
