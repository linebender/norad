import Norad.Model.C18
import Norad.Model.DSCodec
import Norad.Spec.C18
import Norad.Lemmas.Basic
/-!
# C18 — what the theorems assume of the codec (`CodecLaws`), and the plist glue

A value is written as a tagged element whose text is the codec's rendering; it is read back because that text is safe
(no blank at an end for quick-xml to trim) and the codec round-trips.  Strings and keys are written as they are, so
they need the guard `edgeClean`.
-/
namespace C18
open C18.Spec

/-- what the theorems assume of `std`/`base64`/`plist` formatting: shortest-round-trip `Display`/`FromStr`
    for non-NaN floats, decimal integers, base64, RFC 3339 dates; every produced string consists of
    printable ASCII characters other than the blank (`safeChar`), an `f32` string is not empty (it can be an item of
    the blank-separated `values` list; an `f64` never is), an integer
    string does not start with `0x`.  Hypotheses, never axioms.  `codecLaws_refCodec` (C18Codec) shows they are
    satisfiable, with the integer and base64 parts discharged for the implementations the driver runs; the
    driver checks them on every string the harness reports (`codec-law-broken`). -/
structure CodecLaws (c : Codec) : Prop where
  f32_rt : ∀ x, x.notNaN = true → c.readF32 (c.showF32 x) = some x
  f32_ne : ∀ x, (c.showF32 x).toList ≠ []
  f32_safe : ∀ x, (c.showF32 x).toList.all safeChar = true
  f64_rt : ∀ x, x.notNaN = true → c.readF64 (c.showF64 x) = some x
  f64_safe : ∀ x, (c.showF64 x).toList.all safeChar = true
  int_i64 : ∀ i, i64Min ≤ i → i ≤ i64Max → c.parseI64 (c.showInt i) = some i
  int_u64 : ∀ i, i64Max < i → i ≤ u64Max → c.parseI64 (c.showInt i) = none ∧ c.parseU64 (c.showInt i) = some i
  int_no0x : ∀ i, hasPrefix0x (c.showInt i) = false
  int_safe : ∀ i, (c.showInt i).toList.all safeChar = true
  data_rt : ∀ d, c.decData (c.encData d) = some d
  data_safe : ∀ d, (c.encData d).toList.all safeChar = true
  date_rt : ∀ d s, c.showDate d = some s → c.readDate s = some d
  date_safe : ∀ d s, c.showDate d = some s → s.toList.all safeChar = true

theorem trimChars_self (cs : List Char) (h1 : ∀ ch, cs.head? = some ch → isXmlBlank ch = false)
    (h2 : ∀ ch, cs.getLast? = some ch → isXmlBlank ch = false) : trimChars cs = cs := by
  unfold trimChars
  rw [dropWhile_self cs h1, dropWhile_self cs.reverse (by simpa [List.head?_reverse] using h2)]
  simp

theorem trimXml_of_edgeClean (s : String) (h : edgeClean s = true) : trimXml s = s := by
  unfold trimXml
  have : trimChars s.toList = s.toList := by
    unfold edgeClean at h
    cases hs : s.toList with
    | nil => rfl
    | cons ch r =>
      rw [hs] at h
      simp only [Bool.and_eq_true, Bool.not_eq_true'] at h
      apply trimChars_self
      · intro x hx; simp at hx; subst hx; exact h.1
      · intro x hx
        have : (ch :: r).getLast?.getD ch = x := by rw [hx]; rfl
        rw [this] at h; exact h.2
  rw [this]; simp

theorem trimXml_empty : trimXml "" = "" := by decide

theorem safeChar_not_blank (ch : Char) (h : safeChar ch = true) : isXmlBlank ch = false := by
  have tbl : ∀ b ∈ [' ', '\t', '\r', '\n'], safeChar b = false := by decide
  refine Bool.eq_false_iff.mpr fun hb => ?_
  have hm : ch ∈ [' ', '\t', '\r', '\n'] := by simpa [isXmlBlank, or_assoc] using hb
  rw [tbl ch hm] at h; cases h

theorem trimXml_of_safe (s : String) (h : s.toList.all safeChar = true) : trimXml s = s := by
  have hb : ∀ ch ∈ s.toList, isXmlBlank ch = false :=
    fun ch hch => safeChar_not_blank ch (List.all_eq_true.1 h ch hch)
  rw [trimXml, trimChars_self _ (fun ch hh => hb ch (List.mem_of_mem_head? hh))
    (fun ch hh => hb ch (List.mem_of_getLast? hh)), String.ofList_toList]

theorem elemText_content (s : String) :
    elemText (if s = "" then [] else [Tree.txt s]) = some (trimXml s) := by
  split
  · rename_i h; subst h; simp [elemText, rawText, trimXml_empty]
  · simp [elemText, rawText]

theorem elemText_safe (s : String) (h : s.toList.all safeChar = true) :
    elemText (if s = "" then [] else [Tree.txt s]) = some s := by
  rw [elemText_content, trimXml_of_safe s h]

theorem KVs.append_nil : ∀ a : KVs, a.append .nil = a
  | .nil => rfl
  | .cons k v r => by simp [KVs.append, KVs.append_nil r]

theorem KVs.append_assoc : ∀ a b c : KVs, (a.append b).append c = a.append (b.append c)
  | .nil, _, _ => rfl
  | .cons k v r, b, c => by simp [KVs.append, KVs.append_assoc r b c]

theorem KVs.keys_append : ∀ a b : KVs, (a.append b).keys = a.keys ++ b.keys
  | .nil, _ => rfl
  | .cons k v r, b => by simp [KVs.append, KVs.keys, KVs.keys_append r b]

theorem KVs.insert_fresh : ∀ (a : KVs) (k : String) (v : PV), k ∉ a.keys →
    a.insert k v = a.append (.cons k v .nil)
  | .nil, _, _, _ => rfl
  | .cons k' v' r, k, v, h => by
    simp only [KVs.keys, List.mem_cons, not_or] at h
    have hne : ¬ k' = k := fun e => h.1 e.symm
    simp [KVs.insert, KVs.append, hne, KVs.insert_fresh r k v h.2]

theorem KVs.insertAll_fresh : ∀ (b a : KVs), b.keys.Nodup → (∀ k, k ∈ b.keys → k ∉ a.keys) →
    a.insertAll b = a.append b
  | .nil, a, _, _ => by simp [KVs.insertAll, KVs.append_nil]
  | .cons k v r, a, hd, hdis => by
    obtain ⟨hkr, hr⟩ := List.nodup_cons.1 hd
    have hk : k ∉ a.keys := hdis k (by simp [KVs.keys])
    simp only [KVs.insertAll]
    rw [KVs.insert_fresh a k v hk, KVs.insertAll_fresh r _ hr, KVs.append_assoc]
    · rfl
    · intro k' hk' hmem
      rw [KVs.keys_append] at hmem
      simp only [KVs.keys, List.mem_append, List.mem_cons, List.not_mem_nil, or_false] at hmem
      rcases hmem with h | h
      · exact hdis k' (by simp [KVs.keys, hk']) h
      · subst h; exact hkr hk'

theorem KVs.insertAll_nil (b : KVs) (h : b.keys.Nodup) : KVs.nil.insertAll b = b := by
  rw [KVs.insertAll_fresh b .nil h (by intro k _; simp [KVs.keys])]; rfl

theorem kvsStated_distinct : ∀ kvs : KVs, kvsStated kvs = true → kvs.keys.Nodup
  | .nil, _ => .nil
  | .cons k v r, h => by
    simp only [kvsStated, Bool.and_eq_true, Bool.not_eq_true', List.contains_eq_mem,
      decide_eq_false_iff_not] at h
    exact List.nodup_cons.2 ⟨h.1.1, kvsStated_distinct r h.2⟩

theorem CodecLaws.int_parse {c : Codec} (L : CodecLaws c) (i : Int) (h1 : i64Min ≤ i) (h2 : i ≤ u64Max) :
    c.parseI64 (c.showInt i) = some i ∨ c.parseI64 (c.showInt i) = none ∧ c.parseU64 (c.showInt i) = some i := by
  by_cases h : i ≤ i64Max
  · exact .inl (L.int_i64 i h1 h)
  · exact .inr (L.int_u64 i (by omega) h2)

theorem readIntText_show {c : Codec} (L : CodecLaws c) (i : Int) (h1 : i64Min ≤ i) (h2 : i ≤ u64Max) :
    readIntText c (c.showInt i) = some i := by
  rw [readIntText, L.int_no0x i]
  rcases L.int_parse i h1 h2 with h | ⟨h, h'⟩
  · simp [h]
  · simp [h, h']

theorem Out.map_eq_ok {α β : Type} {f : α → β} {o : Out α} {b : β} :
    o.map f = .ok b ↔ ∃ a, o = .ok a ∧ f a = b := by
  cases o <;> simp [Out.map]

theorem Out.bind_eq_ok {α β : Type} {f : α → Out β} {o : Out α} {b : β} :
    o.bind f = .ok b ↔ ∃ a, o = .ok a ∧ f a = .ok b := by
  cases o <;> simp [Out.bind]

theorem Out.bind₂_eq_ok {α β γ : Type} {o : Out α} {p : Out β} {f : α → β → γ} {c : γ} :
    (o.bind fun a => p.bind fun b => .ok (f a b)) = .ok c ↔ ∃ a, o = .ok a ∧ ∃ b, p = .ok b ∧ f a b = c := by
  simp only [Out.bind_eq_ok, Out.ok.injEq]

theorem serializeWithin_str (c : Codec) (s : String) :
    serializeWithin c (.str s) = .ok (textElem "string" s) := by
  simp [serializeWithin, leafInner, Out.map, textElem]

theorem serializeWithin_int (c : Codec) (i : Int) :
    serializeWithin c (.int i) = .ok (textElem "integer" (c.showInt i)) := by
  simp [serializeWithin, leafInner, Out.map, textElem]

theorem serializeWithin_real (c : Codec) (r : F64) :
    serializeWithin c (.real r) = .ok (textElem "real" (c.showF64 r)) := by
  simp [serializeWithin, leafInner, Out.map, textElem]

theorem serializeWithin_data (c : Codec) (d : List UInt8) :
    serializeWithin c (.data d) = .ok (textElem "data" (c.encData d)) := by
  simp [serializeWithin, leafInner, Out.map, textElem]

theorem serializeWithin_date (c : Codec) (d : Date) :
    serializeWithin c (.date d) = match c.showDate d with
      | some s => .ok (textElem "date" s)
      | none => .panic := by
  simp only [serializeWithin, leafInner]; cases c.showDate d <;> rfl

mutual
theorem pv_rt {c : Codec} (L : CodecLaws c) : ∀ v : PV, pvStated v = true → pvClean v = true →
    pvDates c v = true → ∃ t, serializeWithin c v = .ok t ∧ readValue c t = some v
  | .str s, _, hc, _ =>
    ⟨_, serializeWithin_str c s, by simp [readValue, textElem, elemText_content, trimXml_of_edgeClean s hc]⟩
  | .int i, hs, _, _ => by
    simp only [pvStated, Bool.and_eq_true, decide_eq_true_eq] at hs
    exact ⟨_, serializeWithin_int c i,
      by simp [readValue, textElem, elemText_safe _ (L.int_safe i), readIntText_show L i hs.1 hs.2]⟩
  | .real r, hs, _, _ =>
    ⟨_, serializeWithin_real c r, by simp [readValue, textElem, elemText_safe _ (L.f64_safe r), L.f64_rt r hs]⟩
  | .bool b, _, _, _ => by cases b <;> exact ⟨_, rfl, by simp [readValue]⟩
  | .data d, _, _, _ =>
    ⟨_, serializeWithin_data c d, by simp [readValue, textElem, elemText_safe _ (L.data_safe d), L.data_rt]⟩
  | .date d, _, _, hd => by
    obtain ⟨s, hs⟩ := Option.isSome_iff_exists.1 hd
    exact ⟨_, by rw [serializeWithin_date, hs],
      by simp [readValue, textElem, elemText_safe _ (L.date_safe d s hs), L.date_rt d s hs]⟩
  | .arr xs, hs, hc, hd => by
    obtain ⟨ts, h1, h2⟩ := pvs_rt L xs hs hc hd
    exact ⟨_, Out.map_eq_ok.2 ⟨ts, h1, rfl⟩, by simp [readValue, h2]⟩
  | .dict kvs, hs, hc, hd => by
    obtain ⟨ts, h1, h2⟩ := kvs_rt L kvs hs hc hd
    exact ⟨_, Out.map_eq_ok.2 ⟨ts, h1, rfl⟩,
      by simp [readValue, h2, KVs.insertAll_nil kvs (kvsStated_distinct kvs hs)]⟩
  | .uid _, hs, _, _ => by simp [pvStated] at hs
theorem pvs_rt {c : Codec} (L : CodecLaws c) : ∀ xs : PVs, pvsStated xs = true → pvsClean xs = true →
    pvsDates c xs = true → ∃ ts, arrayInner c xs = .ok ts ∧ readArray c ts = some xs
  | .nil, _, _, _ => ⟨[], rfl, by simp [readArray]⟩
  | .cons v r, hs, hc, hd => by
    simp only [pvsStated, pvsClean, pvsDates, Bool.and_eq_true] at hs hc hd
    obtain ⟨t, h1, h2⟩ := pv_rt L v hs.1 hc.1 hd.1
    obtain ⟨ts, h3, h4⟩ := pvs_rt L r hs.2 hc.2 hd.2
    exact ⟨t :: ts, by simp [arrayInner, h1, h3, Out.bind], by simp [readArray, h2, h4]⟩
theorem kvs_rt {c : Codec} (L : CodecLaws c) : ∀ kvs : KVs, kvsStated kvs = true → kvsClean kvs = true →
    kvsDates c kvs = true → ∃ ts, dictInner c kvs = .ok ts ∧ readPairs c ts = some kvs
  | .nil, _, _, _ => ⟨[], rfl, by simp [readPairs]⟩
  | .cons k v r, hs, hc, hd => by
    simp only [kvsStated, kvsClean, kvsDates, Bool.and_eq_true] at hs hc hd
    obtain ⟨t, h1, h2⟩ := pv_rt L v hs.1.2 hc.1.2 hd.1
    obtain ⟨ts, h3, h4⟩ := kvs_rt L r hs.2 hc.2 hd.2
    refine ⟨textElem "key" k :: t :: ts, by simp [dictInner, h1, h3, Out.bind], ?_⟩
    simp [readPairs, readKey, textElem, elemText_content, trimXml_of_edgeClean k hc.1.1, h2, h4]
end

def Out.isPanic {α : Type} : Out α → Bool
  | .panic => true
  | _ => false

theorem Out.isPanic_map {α β : Type} (f : α → β) (o : Out α) : (o.map f).isPanic = o.isPanic := by
  cases o <;> rfl

theorem Out.isPanic_bind₂ {α β γ : Type} (o : Out α) (p : Out β) (f : α → β → γ)
    (ho : o.isPanic = false) (hp : p.isPanic = false) :
    (o.bind fun a => p.bind fun b => .ok (f a b)).isPanic = false := by
  cases o <;> cases p <;> simp_all [Out.bind, Out.isPanic]

mutual
theorem glue_never_panics_value (c : Codec) (v : PV) (hd : pvDates c v = true) :
    (serializeWithin c v).isPanic = false :=
  match v, hd with
  | .str _, _ => by rw [serializeWithin_str]; rfl
  | .int _, _ => by rw [serializeWithin_int]; rfl
  | .real _, _ => by rw [serializeWithin_real]; rfl
  | .bool b, _ => by cases b <;> rfl
  | .data _, _ => by rw [serializeWithin_data]; rfl
  | .date d, h => by
    obtain ⟨s, hs⟩ := Option.isSome_iff_exists.1 h
    rw [serializeWithin_date, hs]; rfl
  | .arr xs, h => (Out.isPanic_map _ _).trans (pvs_np c xs h)
  | .dict kvs, h => (Out.isPanic_map _ _).trans (glue_never_panics c kvs h)
  | .uid _, _ => rfl
theorem pvs_np (c : Codec) : ∀ xs : PVs, pvsDates c xs = true → (arrayInner c xs).isPanic = false
  | .nil, _ => rfl
  | .cons v r, h => by
    simp only [pvsDates, Bool.and_eq_true] at h
    exact Out.isPanic_bind₂ _ _ _ (glue_never_panics_value c v h.1) (pvs_np c r h.2)
/-- **glue_never_panics**: the serializer half of the glue never panics as long as every date can be
    printed, for values of any shape, `Uid` included (the `unreachable!` of `ValueInnerHelper`, the `.bool` arm of
    `leafInner`, is not reached by the shape of `serializeWithin`, which writes booleans itself). -/
theorem glue_never_panics (c : Codec) (kvs : KVs) (hd : kvsDates c kvs = true) :
    (dictInner c kvs).isPanic = false :=
  match kvs, hd with
  | .nil, _ => rfl
  | .cons k v r, h => by
    simp only [kvsDates, Bool.and_eq_true] at h
    exact Out.isPanic_bind₂ _ _ _ (glue_never_panics_value c v h.1) (glue_never_panics c r h.2)
end

end C18
