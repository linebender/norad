import Norad.Lemmas.C12
import Norad.Model.GlifWrite
/-! Element by element.  What the writer emits for an element, the element's parser reads back (`*_roundtrip` in format 2,
`*_fold` in any format in which the identifier is `IdentReadable`): the attribute list is followed segment by segment, code
points through their hex digits.  Then the parser's step over one content-free element, for any attribute list its parser
reads (`step_anchor` … `step_point`). -/
namespace Glif

/-- what is assumed of Rust's number formatting/parsing on the values `ok`, and of the colour string: `nc c` is the colour
    that comes back from the three-decimal string of `c` -/
structure Codec (f : Fmt) (rd : Str → Option Nat) (nc : Color → Color) (ok : Nat → Prop) : Prop where
  num : ∀ b, ok b → rd (f.shw b) = some b
  col : ∀ c, readCol rd (showColor f c) = some (nc c)

theorem readIdent_ok {seen : List Str} {i : Str} (h1 : i ∉ seen) (h2 : validIdent i = true) :
    readIdent 2 seen i = some i := by
  simp [readIdent, h1, h2]

def IdentReadable (ver : Nat) (seen : List Str) (o : Option Str) : Prop := ∀ i, o = some i → readIdent ver seen i = some i

theorem identReadable_v2 {seen : List Str} {o : Option Str} (h : FreshId seen o) : IdentReadable 2 seen o :=
  fun i hi => readIdent_ok (h i hi).1 (h i hi).2

section
variable {f : Fmt} {rd : Str → Option Nat} {nc : Color → Color} {ok : Nat → Prop}

/-- the anchor as the parser builds it (the lib is attached later, from `public.objectLibs`) -/
def pAnchor (nc : Color → Color) (a : Anchor) : Anchor :=
  { x := a.x, y := a.y, name := a.name, color := a.color.map nc, ident := a.ident }

structure ValidAnchor (ok : Nat → Prop) (seen : List Str) (a : Anchor) : Prop where
  x : ok a.x
  y : ok a.y
  name : ∀ n, a.name = some n → validName n = true
  ident : FreshId seen a.ident

/-- what `Anchor::to_event` writes, `parse_anchor` reads back (colour up to its string) -/
theorem anchor_roundtrip (hc : Codec f rd nc ok) {seen : List Str} {a : Anchor} (hv : ValidAnchor ok seen a) :
    parseAnchor rd 2 seen (anchorAttrs f a) =
      some { x := a.x, y := a.y, name := a.name, color := a.color.map nc, ident := a.ident } := by
  rw [parseAnchor, anchorAttrs, foldAttrs_seq (foldAttrs_seq (foldAttrs_seq
    (foldAttrs_optStr (aStep rd 2 seen) {} "name" a.name (fun s n => { s with name := n }) rfl
      fun v h => by simp only [aStep_name .name, aApply, hv.name v h, if_true])
    (aFold_xy (hc.num _ hv.x) (hc.num _ hv.y) _))
    (foldAttrs_optAttr _ _ "color" a.color (showColor f) (fun s c => { s with color := c.map nc }) rfl
      fun c _ => by simp only [aStep_name .color, aApply, hc.col, Option.map_some]))
    (foldAttrs_optStr _ _ "identifier" a.ident (fun s i => { s with ident := i }) rfl
      fun i h => (aStep_name .ident _ _).trans (by simp only [aApply, identReadable_v2 hv.ident i h]))]
  rfl

def pGuideline (nc : Color → Color) (g : Guideline) : Guideline :=
  { line := g.line, name := g.name, color := g.color.map nc, ident := g.ident }

structure ValidGuideline (ok : Nat → Prop) (seen : List Str) (g : Guideline) : Prop where
  line : match g.line with
    | .vertical x => ok x
    | .horizontal y => ok y
    | .angle x y d => ok x ∧ ok y ∧ ok d ∧ angleOk d = true
  name : ∀ n, g.name = some n → validName n = true
  ident : FreshId seen g.ident

theorem guideline_roundtrip (hc : Codec f rd nc ok) {seen : List Str} {g : Guideline} (hv : ValidGuideline ok seen g) :
    parseGuideline rd 2 seen (guidelineAttrs f g) = some (pGuideline nc g) := by
  obtain ⟨line, name, color, ident, lib⟩ := g
  obtain ⟨hl, hn, hi⟩ := hv
  dsimp only at hl hn hi ⊢
  have hname := foldAttrs_optStr (guStep rd 2 seen) {} "name" name (fun s n => { s with name := n }) rfl fun v h => by
    simp only [guStep_name .name, guApply, hn v h, if_true]
  -- colour and identifier come after the coordinates, whatever the shape of the line
  have tail : ∀ acc : GuideAcc, acc.color = none → acc.ident = none →
      foldAttrs (guStep rd 2 seen) acc (optAttr "color" (color.map (showColor f)) ++ optAttr "identifier" ident) =
      some { acc with color := color.map nc, ident := ident } := fun acc h1 h2 =>
    foldAttrs_seq
      (foldAttrs_optAttr _ acc "color" color (showColor f) (fun s c => { s with color := c.map nc })
        (by cases acc; cases h1; rfl) fun c _ => by simp only [guStep_name .color, guApply, hc.col, Option.map_some])
      (foldAttrs_optStr _ _ "identifier" ident (fun (s : GuideAcc) i => { s with ident := i }) (by cases acc; cases h2; rfl)
        fun i h => (guStep_name .ident _ _).trans (by simp only [guApply, identReadable_v2 hi i h]))
  rw [parseGuideline, guidelineAttrs, List.append_assoc]
  cases line with
  | vertical x =>
    rw [foldAttrs_seq (foldAttrs_seq hname (r := some { x := some x, name := name }) (by
      simp only [lineAttrs, foldAttrs_one, guStep_name .x, guApply, hc.num x hl])) (tail _ rfl rfl)]
    rfl
  | horizontal y =>
    rw [foldAttrs_seq (foldAttrs_seq hname (r := some { y := some y, name := name }) (by
      simp only [lineAttrs, foldAttrs_one, guStep_name .y, guApply, hc.num y hl])) (tail _ rfl rfl)]
    rfl
  | angle x y d =>
    rw [foldAttrs_seq (foldAttrs_seq hname (r := some { x := some x, y := some y, angle := some d, name := name }) (by
      simp only [lineAttrs, foldAttrs_cons', foldAttrs_nil', Option.bind_some, guStep_name .x, guStep_name .y, guStep_name .angle, guApply,
        hc.num x hl.1, hc.num y hl.2.1, hc.num d hl.2.2.1, hl.2.2.2, if_true])) (tail _ rfl rfl)]
    rfl

def pPoint (p : Point) : Point :=
  { x := p.x, y := p.y, typ := p.typ, smooth := p.smooth, name := p.name, ident := p.ident }

def pContour (c : Contour) : Contour := { points := c.points.map pPoint, ident := c.ident }

structure ValidPoint (ok : Nat → Prop) (seen : List Str) (p : Point) : Prop where
  x : ok p.x
  y : ok p.y
  name : ∀ n, p.name = some n → validName n = true
  ident : FreshId seen p.ident

theorem point_fold (hc : Codec f rd nc ok) {ver : Nat} {seen : List Str} {p : Point} (hx : ok p.x) (hy : ok p.y)
    (hn : ∀ n, p.name = some n → validName n = true) (hid : IdentReadable ver seen p.ident) :
    parsePoint rd ver seen (pointAttrs f p) = some (pPoint p) := by
  obtain ⟨tm, tl, tc, tq⟩ := readPointType_names
  have h3 : foldAttrs (pStep rd ver seen) { x := some p.x, y := some p.y, name := p.name } (pointTypeAttr p.typ) =
      some { x := some p.x, y := some p.y, typ := p.typ, name := p.name } := by
    cases p.typ <;> simp only [pointTypeAttr, foldAttrs_one, foldAttrs_nil', pStep_name .typ, pApply, tm, tl, tc, tq]
  rw [parsePoint, pointAttrs, foldAttrs_seq (foldAttrs_seq (foldAttrs_seq (foldAttrs_seq
    (foldAttrs_optStr (pStep rd ver seen) {} "name" p.name (fun s n => { s with name := n }) rfl
      fun v h => by simp only [pStep_name .name, pApply, hn v h, if_true])
    (pFold_xy (hc.num _ hx) (hc.num _ hy) _)) h3)
    (foldAttrs_gate _ _ p.smooth _ (acc' := { x := some p.x, y := some p.y, typ := p.typ, smooth := p.smooth, name := p.name })
      (fun h => by simp only [pStep_name .smooth, pApply, decide_true, h]) fun h => by rw [h]))
    (foldAttrs_optStr _ _ "identifier" p.ident (fun s i => { s with ident := i }) rfl
      fun i h => (pStep_name .ident _ _).trans (by simp only [pApply, hid i h]))]
  rfl

theorem point_roundtrip (hc : Codec f rd nc ok) {seen : List Str} {p : Point} (hv : ValidPoint ok seen p) :
    parsePoint rd 2 seen (pointAttrs f p) = some (pPoint p) :=
  point_fold hc hv.x hv.y hv.name (identReadable_v2 hv.ident)

def OkT (ok : Nat → Prop) (t : Transform) : Prop :=
  ok t.xScale ∧ ok t.xyScale ∧ ok t.yxScale ∧ ok t.yScale ∧ ok t.xOffset ∧ ok t.yOffset

theorem OkT.get {t : Transform} (ht : OkT ok t) : ∀ k : TKey, ok (tGet k t)
  | .xScale => ht.1 | .xyScale => ht.2.1 | .yxScale => ht.2.2.1 | .yScale => ht.2.2.2.1 | .xOffset => ht.2.2.2.2.1
  | .yOffset => ht.2.2.2.2.2

/-- what comes back of a transform: a diagonal scale within 2^-52 of 1 (or NaN) is 1, any other coefficient `-0` is `0` -/
def normT (t : Transform) : Transform :=
  { xScale := if farFromOne t.xScale then t.xScale else f64One
    xyScale := if nonZero t.xyScale then t.xyScale else 0
    yxScale := if nonZero t.yxScale then t.yxScale else 0
    yScale := if farFromOne t.yScale then t.yScale else f64One
    xOffset := if nonZero t.xOffset then t.xOffset else 0
    yOffset := if nonZero t.yOffset then t.yOffset else 0 }

/-- `write_transform_attributes` leaves out a diagonal scale within 2^-52 of 1 (or NaN) and any other coefficient `±0` -/
def tGate : TKey → Nat → Bool
  | .xScale => farFromOne | .yScale => farFromOne | _ => nonZero

theorem transform_fold (hc : Codec f rd nc ok) {σ : Type} {st : σ → Attr → Option σ} (mk : Transform → σ)
    (hst : ∀ t s k v n, tKeyOf s = some k → rd v = some n → st (mk t) (s, v) = some (mk (tSet k n t)))
    {t : Transform} (ht : OkT ok t) : foldAttrs st (mk {}) (transformAttrs f t) = some (mk (normT t)) :=
  coef_fold mk hst (fun k => if tGate k (tGet k t) then [(tKeyName k, f.shw (tGet k t))] else [])
    (fun k => if tGate k (tGet k t) then tGet k t else tGet k {}) fun k => by
      cases hg : tGate k (tGet k t)
      · exact .inr ⟨if_neg Bool.false_ne_true, (if_neg Bool.false_ne_true).symm⟩
      · exact .inl ⟨_, if_pos rfl, (hc.num _ (ht.get k)).trans (congrArg some (if_pos rfl).symm)⟩

theorem cStep_t {ver : Nat} {seen : List Str} {s : Str} {k : TKey} {v : Str} {n : Nat} (hk : tKeyOf s = some k)
    (hn : rd v = some n) (acc : CompAcc) :
    cStep rd ver seen acc (s, v) = some { acc with transform := tSet k n acc.transform } := by
  rw [tKeyNames.name_of hk]; exact (cStep_name (.t k) v acc).trans (by simp only [cApply, hn])

theorem iStep_t {s : Str} {k : TKey} {v : Str} {n : Nat} (hk : tKeyOf s = some k) (hn : rd v = some n) (acc : ImageAcc) :
    iStep rd acc (s, v) = some { acc with transform := tSet k n acc.transform } := by
  rw [tKeyNames.name_of hk]; exact (iStep_name (.t k) v acc).trans (by simp only [iApply, hn])

theorem transform_fold_component (hc : Codec f rd nc ok) (ver : Nat) (seen : List Str) {t : Transform} (ht : OkT ok t)
    (b : Option Str) (i : Option Str) :
    foldAttrs (cStep rd ver seen) { base := b, ident := i, transform := {} } (transformAttrs f t) =
      some { base := b, ident := i, transform := normT t } :=
  transform_fold hc (σ := CompAcc) (fun t => { base := b, ident := i, transform := t }) (fun _ _ _ _ _ hk hn => cStep_t hk hn _) ht

theorem transform_fold_image (hc : Codec f rd nc ok) {t : Transform} (ht : OkT ok t)
    (fn : Option Str) (c : Option Color) :
    foldAttrs (iStep rd) { fileName := fn, color := c, transform := {} } (transformAttrs f t) =
      some { fileName := fn, color := c, transform := normT t } :=
  transform_fold hc (σ := ImageAcc) (fun t => { fileName := fn, color := c, transform := t }) (fun _ _ _ _ _ hk hn => iStep_t hk hn _) ht

def pComponent (k : Component) : Component :=
  { base := k.base, transform := normT k.transform, ident := k.ident }

structure ValidComponent (ok : Nat → Prop) (seen : List Str) (k : Component) : Prop where
  base : validName k.base = true
  transform : OkT ok k.transform
  ident : FreshId seen k.ident

theorem component_fold (hc : Codec f rd nc ok) {ver : Nat} {seen : List Str} {k : Component}
    (hb : validName k.base = true) (ht : OkT ok k.transform)
    (hid : IdentReadable ver seen k.ident) :
    parseComponent rd ver seen (componentAttrs f k) = some (pComponent k) := by
  rw [parseComponent, componentAttrs, foldAttrs_seq (foldAttrs_seq
    (show foldAttrs (cStep rd ver seen) {} [("base".toList, k.base)] = some { base := some k.base } by
      simp only [foldAttrs_one, cStep_name .base, cApply, hb, if_true])
    (transform_fold_component hc ver seen ht _ _))
    (foldAttrs_optStr _ _ "identifier" k.ident (fun s i => { s with ident := i }) rfl
      fun i h => (cStep_name .ident _ _).trans (by simp only [cApply, hid i h]))]
  rfl

theorem component_roundtrip (hc : Codec f rd nc ok) {seen : List Str} {k : Component} (hv : ValidComponent ok seen k) :
    parseComponent rd 2 seen (componentAttrs f k) = some (pComponent k) :=
  component_fold hc hv.base hv.transform (identReadable_v2 hv.ident)

def pImage (nc : Color → Color) (i : Image) : Image :=
  { fileName := i.fileName, color := i.color.map nc, transform := normT i.transform }

structure ValidImage (ok : Nat → Prop) (i : Image) : Prop where
  name : imageNameOk i.fileName = true
  transform : OkT ok i.transform

theorem image_roundtrip (hc : Codec f rd nc ok) {i : Image} (hv : ValidImage ok i) :
    parseImage rd (imageAttrs f i) = some (pImage nc i) := by
  rw [parseImage, imageAttrs, foldAttrs_seq (foldAttrs_seq
    (show foldAttrs (iStep rd) {} [("fileName".toList, i.fileName)] = some { fileName := some i.fileName } by
      simp only [foldAttrs_one, iStep_name .fileName, iApply])
    (transform_fold_image hc hv.transform _ _))
    (foldAttrs_optAttr _ _ "color" i.color (showColor f) (fun s c => { s with color := c.map nc }) rfl
      fun c _ => by simp only [iStep_name .color, iApply, hc.col, Option.map_some])]
  simp only [iFinish, hv.name, if_true, pImage]

/-- `±0` is not written and comes back as `0` -/
theorem advance_roundtrip (hc : Codec f rd nc ok) {w h : Nat} (hw : ok w) (hh : ok h) :
    parseAdvance rd (advanceAttrs f w h) =
      some (if nonZero w then w else 0, if nonZero h then h else 0) := by
  rw [parseAdvance, advanceAttrs]
  exact foldAttrs_seq
    (foldAttrs_gate _ _ (nonZero h) _ (acc' := (0, if nonZero h then h else 0))
      (fun c => by simp only [advStep_name .height, advApply, hc.num _ hh, c, if_true]) fun c => by rw [c]; rfl)
    (foldAttrs_gate _ _ (nonZero w) _
      (fun c => by simp only [advStep_name .width, advApply, hc.num _ hw, c, if_true]) fun c => by rw [c]; rfl)

theorem contourAttrs_fold {ver : Nat} {seen : List Str} {cid : Option Str}
    (hid : IdentReadable ver seen cid) :
    parseContourAttrs ver seen (optAttr "identifier" cid) = some cid := by
  refine foldAttrs_optStr (ctStep ver seen) none "identifier" cid (fun _ o => o) rfl fun i h => ?_
  have hv : ver ≠ 1 := fun h1 => by have := hid i h; rw [readIdent, if_pos h1] at this; cases this
  change ctStep ver seen none (sIdentifier, i) = _
  rw [ctStep, if_neg hv]
  dsimp only
  rw [if_pos rfl, hid i h]

theorem contourAttrs_roundtrip {seen : List Str} {cid : Option Str} (hi : FreshId seen cid) :
    parseContourAttrs 2 seen (optAttr "identifier" cid) = some cid :=
  contourAttrs_fold (identReadable_v2 hi)

theorem glyphStart_fold {name v : Str} {n : Nat} (hn : validName name = true) (hv : parseU32 10 v = some n)
    (minor : Bool) :
    parseGlyphAttrs (some ([("name".toList, name), ("format".toList, v)] ++
      if minor then [("formatMinor".toList, ['0'])] else [])) = gFinish { name := some name, major := n, minor := 0 } := by
  have h0 : parseU32 10 ['0'] = some 0 := by decide
  cases minor <;>
    simp only [parseGlyphAttrs, Bool.false_eq_true, if_true, if_false, List.cons_append, List.nil_append, foldAttrs_cons',
      foldAttrs_nil', Option.bind_some, gStep_name .name, gStep_name .format, gStep_name .formatMinor, gApply, hn, hv, h0]

/-- the `glyph` start tag the writer produces -/
theorem glyphAttrs_roundtrip {name : Str} (hn : validName name = true) :
    parseGlyphAttrs (some [("name".toList, name), ("format".toList, ['2'])]) = .ok (name, 2) :=
  glyphStart_fold hn (show parseU32 10 ['2'] = some 2 by decide) false

theorem digitVal_hexDigitU : ∀ d, d < 16 → digitVal 16 (hexDigitU d) = some d := by decide

theorem digitsVal_hexUpper : ∀ (fuel n : Nat) (acc : Str), n < 16 ^ fuel →
    ∃ k, ∀ a, digitsVal 16 (hexUpper fuel n acc) a = digitsVal 16 acc (a * 16 ^ k + n) := by
  intro fuel
  induction fuel with
  | zero =>
    intro n acc hn
    have : n = 0 := by simpa using hn
    subst this
    exact ⟨0, fun a => by simp [hexUpper]⟩
  | succ fuel ih =>
    intro n acc hn
    by_cases h0 : n = 0
    · subst h0
      exact ⟨0, fun a => by simp [hexUpper]⟩
    · have hq : n / 16 < 16 ^ fuel := by
        rw [Nat.pow_succ] at hn
        omega
      obtain ⟨k, hk⟩ := ih (n / 16) (hexDigitU (n % 16) :: acc) hq
      refine ⟨k + 1, fun a => ?_⟩
      have hd := digitVal_hexDigitU (n % 16) (Nat.mod_lt _ (by decide))
      simp only [hexUpper, h0, if_false, hk, digitsVal, hd]
      congr 1
      rw [Nat.add_mul, Nat.pow_succ, Nat.mul_assoc]
      omega

theorem digitsVal_zeros (k : Nat) (l : Str) : digitsVal 16 (List.replicate k '0' ++ l) 0 = digitsVal 16 l 0 := by
  induction k with
  | zero => rfl
  | succ k ih =>
    have : digitVal 16 '0' = some 0 := by decide
    simp [List.replicate_succ, digitsVal, this, ih]

theorem parseU32_of_digits {s : Str} {n : Nat} (hd : digitsVal 16 s 0 = some n) (hne : s ≠ [])
    (hn : n ≤ 4294967295) : parseU32 16 s = some n := by
  cases s with
  | nil => exact absurd rfl hne
  | cons c r =>
    have hc : c ≠ '+' := by
      intro h
      subst h
      have : digitVal 16 '+' = none := by decide
      simp [digitsVal, this] at hd
    unfold parseU32
    dsimp only
    split
    · rename_i heq; cases heq; exact absurd rfl hc
    · simp [hd, hn]

theorem showCodepoint_ne_nil (c : Nat) : showCodepoint c ≠ [] := by
  intro h
  have h' := congrArg List.length h
  simp only [showCodepoint, List.length_append, List.length_replicate, List.length_nil] at h'
  omega

/-- `u32::from_str_radix(format!("{:04X}", c), 16)` then `char::try_from` gives `c` back, for a Unicode scalar value -/
theorem parseHex_showCodepoint {c : Nat} (h1 : c ≤ 0x10FFFF) (h2 : ¬(0xD800 ≤ c ∧ c ≤ 0xDFFF)) :
    parseHex (showCodepoint c) = some c := by
  have hlt : c < 16 ^ 8 := by
    have : (16 : Nat) ^ 8 = 4294967296 := by decide
    omega
  obtain ⟨k, hk⟩ := digitsVal_hexUpper 8 c [] hlt
  have hd : digitsVal 16 (showCodepoint c) 0 = some c := by
    unfold showCodepoint
    simp only [digitsVal_zeros, hk, digitsVal]
    simp
  have hp := parseU32_of_digits hd (showCodepoint_ne_nil c) (by omega)
  unfold parseHex
  simp only [hp]
  rw [if_pos]
  simp only [Bool.and_eq_true, decide_eq_true_eq, Bool.not_eq_true', Bool.and_eq_false_iff, decide_eq_false_iff_not]
  omega

def ValidCodepoint (c : Nat) : Prop := c ≤ 0x10FFFF ∧ ¬(0xD800 ≤ c ∧ c ≤ 0xDFFF)

theorem unicode_roundtrip {cps : List Nat} {c : Nat} (hc : ValidCodepoint c) :
    parseUnicode cps [(sHex, showCodepoint c)] = some (cpInsert cps c) := by
  simp [parseUnicode, foldAttrs, uniStep, parseHex_showCodepoint hc.1 hc.2]
end

section
variable {f : Fmt} {rd : Str → Option Nat} {nc : Color → Color} {ok : Nat → Prop}

def pushIds (seen : List Str) (ids : List Str) : List Str := ids.foldl (fun sn i => i :: sn) seen

theorem pushIds_nil (seen : List Str) : pushIds seen [] = seen := rfl
theorem pushIds_cons (seen : List Str) (i : Str) (r : List Str) : pushIds seen (i :: r) = pushIds (i :: seen) r := rfl
theorem pushIds_append (seen a b : List Str) : pushIds seen (a ++ b) = pushIds (pushIds seen a) b := by
  simp [pushIds, List.foldl_append]
theorem mem_pushIds {seen ids : List Str} {i : Str} : i ∈ pushIds seen ids ↔ i ∈ ids ∨ i ∈ seen := by
  induction ids generalizing seen with
  | nil => simp [pushIds]
  | cons j r ih => rw [pushIds_cons, ih, List.mem_cons, List.mem_cons, or_left_comm, or_assoc]
theorem addSeen_eq (seen : List Str) (o : Option Str) : addSeen seen o = pushIds seen o.toList := by
  cases o <;> rfl

theorem fresh_append {a b seen : List Str} (hnd : (a ++ b).Nodup) (hfr : ∀ i, i ∈ a ++ b → i ∉ seen) :
    a.Nodup ∧ (∀ i, i ∈ a → i ∉ seen) ∧ b.Nodup ∧ (∀ i, i ∈ b → i ∉ pushIds seen a) := by
  obtain ⟨h1, h2, h3⟩ := List.nodup_append.1 hnd
  refine ⟨h1, fun i hi => hfr i (by simp [hi]), h2, ?_⟩
  intro i hi
  simp only [mem_pushIds, not_or]
  exact ⟨fun h => h3 i h i hi rfl, hfr i (by simp [hi])⟩

/-- `AnchorOK` … `ComponentOK`: an element by itself; `ValidAnchor` … also ask that the identifier is new in a given `seen` -/
structure AnchorOK (ok : Nat → Prop) (a : Anchor) : Prop where
  x : ok a.x
  y : ok a.y
  name : ∀ n, a.name = some n → validName n = true
  ident : ∀ i, a.ident = some i → validIdent i = true

structure GuidelineOK (ok : Nat → Prop) (g : Guideline) : Prop where
  line : match g.line with
    | .vertical x => ok x
    | .horizontal y => ok y
    | .angle x y d => ok x ∧ ok y ∧ ok d ∧ angleOk d = true
  name : ∀ n, g.name = some n → validName n = true
  ident : ∀ i, g.ident = some i → validIdent i = true

structure ComponentOK (ok : Nat → Prop) (k : Component) : Prop where
  base : validName k.base = true
  transform : OkT ok k.transform
  ident : ∀ i, k.ident = some i → validIdent i = true

structure PointOK (ok : Nat → Prop) (p : Point) : Prop where
  x : ok p.x
  y : ok p.y
  name : ∀ n, p.name = some n → validName n = true
  ident : ∀ i, p.ident = some i → validIdent i = true

theorem step_anchor {s : PS} (hm : s.mode = .body) (hv : s.ver = 2) {as : List Attr} {x : Anchor}
    (hp : parseAnchor rd 2 s.seen as = some x) :
    step rd s (.empty sAnchor (some as)) = .ok (.inl
      { s with
        seen := pushIds s.seen x.ident.toList
        g := { s.g with anchors := s.g.anchors ++ [x] } }) := by
  rw [step_empty hm, bodyEmpty_anchor, hv, if_neg (by decide), elemArm_some hp, addSeen_eq]

theorem step_guideline {s : PS} (hm : s.mode = .body) (hv : s.ver = 2) {as : List Attr} {x : Guideline}
    (hp : parseGuideline rd 2 s.seen as = some x) :
    step rd s (.empty sGuideline (some as)) = .ok (.inl
      { s with
        seen := pushIds s.seen x.ident.toList
        g := { s.g with guidelines := s.g.guidelines ++ [x] } }) := by
  rw [step_empty hm, bodyEmpty_guideline, hv, if_neg (by decide), elemArm_some hp, addSeen_eq]

theorem step_advance {s : PS} (hm : s.mode = .body) (hs : s.seenAdvance = false) {as : List Attr} {w h : Nat}
    (hp : parseAdvance rd as = some (w, h)) :
    step rd s (.empty sAdvance (some as)) = .ok (.inl
      { s with
        seenAdvance := true
        g := { s.g with width := w, height := h } }) := by
  rw [step_empty hm, bodyEmpty_advance, hs, if_neg Bool.false_ne_true, elemArm_some hp]

theorem step_image {s : PS} (hm : s.mode = .body) (hv : s.ver = 2) (hs : s.g.image.isSome = false) {as : List Attr}
    {x : Image} (hp : parseImage rd as = some x) :
    step rd s (.empty sImage (some as)) = .ok (.inl { s with g := { s.g with image := some x } }) := by
  rw [step_empty hm, bodyEmpty_image, hv, if_neg (by decide), hs, if_neg Bool.false_ne_true, elemArm_some hp]

theorem reach_lib {s : PS} (hm : s.mode = .body) (hs : s.seenLib = false) (d : Dict) :
    Reach rd s [.startLib (some []) (.dict d), .close sLib]
      { s with
        seenLib := true
        g := { s.g with lib := d } } := by
  have h1 : step rd s (.startLib (some []) (.dict d)) = .ok (.inl { s with seenLib := true, mode := .lib (.dict d) }) := by
    rw [step_startLib hm, hs, if_neg Bool.false_ne_true]; rfl
  exact (Reach.cons h1 (Reach.one (step_close_lib (v := .dict _) rfl))).cast (by rw [hm])

theorem step_component {s : PS} {ob : OB} (hm : s.mode = .outline ob) {as : List Attr} {x : Component}
    (hp : parseComponent rd s.ver s.seen as = some x) :
    step rd s (.empty sComponent (some as)) = .ok (.inl
      { s with
        seen := pushIds s.seen x.ident.toList
        mode := .outline { ob with components := ob.components ++ [x] } }) := by
  rw [step_empty_component hm, elemArm_some hp, addSeen_eq]

theorem step_point {s : PS} {ob : OB} {cid : Option Str} {pts : List Point} (hm : s.mode = .contour ob cid pts)
    {as : List Attr} {x : Point} (hp : parsePoint rd s.ver s.seen as = some x) :
    step rd s (.empty sPoint (some as)) = .ok (.inl
      { s with
        seen := pushIds s.seen x.ident.toList
        mode := .contour ob cid (pts ++ [x]) }) := by
  rw [step_empty_point hm, elemArm_some hp, addSeen_eq]

end

end Glif
