import Norad.Lemmas.StrMap
import Norad.Model.Kerning
import Norad.Spec.Kerning
/-! C15 / C10 below the property theorems: the validator (`validate_iff`), `make_unique_group_name`, the renaming fold
    (`renameSide_*`), the rewriting of the pairs (`foldIns_*`), and for C10 the join of the robofab feature blocks. -/
namespace Kern
open StrMap

/-! With this instance and `DecidableEq (Except ε α)` (Basic) a statement about a concrete run (`∃ o, run = .ok o ∧ …`, `validateGroups g = .error e`) is
decidable, and `decide +kernel` proves it. -/

scoped instance {α : Type} (r : Res α) (P : α → Prop) [DecidablePred P] : Decidable (∃ a, r = .ok a ∧ P a) :=
  match r with
  | .ok a => decidable_of_iff (P a) ⟨fun h => ⟨a, rfl, h⟩, fun ⟨_, e, h⟩ => Res.ok.inj e ▸ h⟩
  | .panic _ | .outOfFuel => isFalse nofun

/-- two runs side by side, in the nested form the instance above decides -/
theorem exists₂_of_nested {α β : Type} {p : α → Prop} {q : β → Prop} {r : α → β → Prop}
    (h : ∃ a, p a ∧ ∃ b, q b ∧ r a b) : ∃ a b, p a ∧ q b ∧ r a b :=
  let ⟨a, ha, b, hb, hr⟩ := h; ⟨a, b, ha, hb, hr⟩

/-! A string literal is `String.ofList` of its characters, so `toList_ofList` reads the characters off without
running the UTF-8 decoder. -/

theorem pfx1_chars : pfx1 = ['p', 'u', 'b', 'l', 'i', 'c', '.', 'k', 'e', 'r', 'n', '1', '.'] := String.toList_ofList
theorem pfx2_chars : pfx2 = ['p', 'u', 'b', 'l', 'i', 'c', '.', 'k', 'e', 'r', 'n', '2', '.'] := String.toList_ofList
theorem mmkL_chars : mmkL = ['@', 'M', 'M', 'K', '_', 'L', '_'] := String.toList_ofList
theorem mmkR_chars : mmkR = ['@', 'M', 'M', 'K', '_', 'R', '_'] := String.toList_ofList

theorem pfx1_eq : pfx1 = KernSpec.p1 := rfl
theorem pfx2_eq : pfx2 = KernSpec.p2 := rfl
theorem mmkL_eq : mmkL = KernSpec.legacyL := rfl
theorem mmkR_eq : mmkR = KernSpec.legacyR := rfl

theorem prefix_unique {p q n : Str} (hl : p.length = q.length) (hp : p.isPrefixOf n = true)
    (hq : q.isPrefixOf n = true) : p = q := by
  rw [List.isPrefixOf_iff_prefix, List.prefix_iff_eq_take] at hp hq
  rw [hp, hq, hl]

theorem not_both_prefixes {name : Str} (h1 : pfx1.isPrefixOf name = true) :
    pfx2.isPrefixOf name = false :=
  Bool.eq_false_iff.mpr fun h2 =>
    absurd (prefix_unique (by rw [pfx1_chars, pfx2_chars]; rfl) h1 h2) (by rw [pfx1_chars, pfx2_chars]; decide)

theorem mmk_not_both {n : Str} (h : mmkR.isPrefixOf n = true) : mmkL.isPrefixOf n = false :=
  Bool.eq_false_iff.mpr fun h2 =>
    absurd (prefix_unique (by rw [mmkL_chars, mmkR_chars]; rfl) h2 h) (by rw [mmkL_chars, mmkR_chars]; decide)

theorem ne_of_not_isPrefixOf {pfx name : Str} (h : pfx.isPrefixOf name = false) : name ≠ pfx := by
  rintro rfl
  rw [isPrefixOf_self] at h; cases h

theorem insertAll_isSome (set ms : List Str) :
    (insertAll set ms).isSome = true ↔ ms.Nodup ∧ ∀ m ∈ ms, m ∉ set := by
  induction ms generalizing set with
  | nil => simp [insertAll]
  | cons m ms ih =>
    rw [insertAll]
    by_cases hm : m ∈ set
    · simp [hm]
    · simp only [List.contains_iff_mem, hm, if_false, ih, List.nodup_cons, List.mem_cons, forall_eq_or_imp, not_or,
        not_false_eq_true, true_and]
      exact ⟨fun h => ⟨⟨fun hc => (h.2 m hc).1 rfl, h.1⟩, fun x hx => (h.2 x hx).2⟩,
        fun h => ⟨h.1.2, fun x hx => ⟨fun e => h.1.1 (e ▸ hx), h.2 x hx⟩⟩⟩

theorem byteLen_append (a b : Str) : byteLen (a ++ b) = byteLen a + byteLen b := by
  simp [byteLen]

theorem byteLen_eq_zero {s : Str} (h : byteLen s = 0) : s = [] := by
  cases s with
  | nil => rfl
  | cons c cs =>
    have := Char.utf8Size_pos c
    simp [byteLen] at h
    omega

theorem byteLen_pfx1 : byteLen pfx1 = 13 := by rw [pfx1_chars]; decide
theorem byteLen_pfx2 : byteLen pfx2 = 13 := by rw [pfx2_chars]; decide

/-- `starts_with(prefix) && len() == 13` is "the name is the prefix" -/
theorem prefixOnly_iff {pfx name : Str} {n : Nat} (hp : byteLen pfx = n) (h : pfx.isPrefixOf name = true) :
    (byteLen name == n) = true ↔ name = pfx := by
  obtain ⟨t, rfl⟩ := List.isPrefixOf_iff_prefix.mp h
  rw [beq_iff_eq, byteLen_append, hp, List.append_right_eq_self]
  exact ⟨fun h' => byteLen_eq_zero (by omega), fun h' => by rw [h']; rfl⟩

theorem sideMembers_cons_pos {pfx name : Str} {ms : List Str} {rest : Groups}
    (h : pfx.isPrefixOf name = true) :
    KernSpec.sideMembers pfx ((name, ms) :: rest) = ms ++ KernSpec.sideMembers pfx rest := by
  simp [KernSpec.sideMembers, h]

theorem sideMembers_cons_neg {pfx name : Str} {ms : List Str} {rest : Groups}
    (h : pfx.isPrefixOf name = false) :
    KernSpec.sideMembers pfx ((name, ms) :: rest) = KernSpec.sideMembers pfx rest := by
  simp [KernSpec.sideMembers, h]

theorem insertAll_append (set a b : List Str) : insertAll set (a ++ b) = (insertAll set a).bind (insertAll · b) := by
  induction a generalizing set with
  | nil => rfl
  | cons m ms ih => simp only [List.cons_append, insertAll, ih]; split <;> rfl

/-- on side `p`, the members still to come can all be inserted into `seen`: they are pairwise different and unseen -/
def SideOK (p : Str) (g : Groups) (seen : List Str) : Prop := (insertAll seen (KernSpec.sideMembers p g)).isSome = true

theorem sideOK_cons_neg {p name : Str} {ms seen : List Str} {rest : Groups} (h : p.isPrefixOf name = false) :
    SideOK p ((name, ms) :: rest) seen ↔ SideOK p rest seen := by
  rw [SideOK, SideOK, sideMembers_cons_neg h]

theorem sideOK_cons_pos {p name : Str} {ms seen : List Str} {rest : Groups} (h : p.isPrefixOf name = true) :
    SideOK p ((name, ms) :: rest) seen ↔ ∃ seen', insertAll seen ms = some seen' ∧ SideOK p rest seen' := by
  rw [SideOK, sideMembers_cons_pos h, insertAll_append]
  cases insertAll seen ms <;> simp [SideOK]

theorem sideOK_nil_iff (p : Str) (g : Groups) : SideOK p g [] ↔ (KernSpec.sideMembers p g).Nodup := by
  simp [SideOK, insertAll_isSome]

theorem exists_some_eq_iff {α : Type} {a : α} {P : α → Prop} : (∃ b, some a = some b ∧ P b) ↔ P a := by
  simp only [Option.some.injEq, exists_eq_left']

theorem not_exists_none_eq {α : Type} {P : α → Prop} : ¬ ∃ b, (none : Option α) = some b ∧ P b :=
  fun ⟨_, h, _⟩ => nomatch h

/-- the loop invariant: what the two sets hold is disjoint from what is still to come -/
theorem validateLoop_ok_iff (g : Groups) (k1 k2 : List Str) :
    validateLoop g k1 k2 = .ok () ↔
      (∀ e ∈ g, e.1 ≠ [] ∧ e.1 ≠ pfx1 ∧ e.1 ≠ pfx2) ∧ SideOK pfx1 g k1 ∧ SideOK pfx2 g k2 := by
  -- the branches of the loop: end of the map; empty name; on each side the bare prefix, a member seen before, go on; no prefix
  fun_induction validateLoop g k1 k2 with
  | case1 => simp [SideOK, KernSpec.sideMembers, insertAll]
  | case2 name ms rest k1 k2 hE =>
    exact iff_of_false nofun fun h => (h.1 _ List.mem_cons_self).1 (List.isEmpty_iff.1 hE)
  | case3 name ms rest k1 k2 hE h1 hl =>
    exact iff_of_false nofun fun h => (h.1 _ List.mem_cons_self).2.1 ((prefixOnly_iff byteLen_pfx1 h1).1 hl)
  | case4 name ms rest k1 k2 hE h1 hl hx =>
    exact iff_of_false nofun fun h => not_exists_none_eq (hx ▸ (sideOK_cons_pos h1).1 h.2.1)
  | case5 name ms rest k1 k2 hE h1 hl k' hx ih =>
    have h2 := not_both_prefixes h1
    rw [ih, List.forall_mem_cons, sideOK_cons_pos h1, sideOK_cons_neg h2, hx]
    exact and_congr (and_iff_right ⟨mt List.isEmpty_iff.2 hE, mt (prefixOnly_iff byteLen_pfx1 h1).2 hl,
      ne_of_not_isPrefixOf h2⟩).symm (and_congr exists_some_eq_iff.symm .rfl)
  | case6 name ms rest k1 k2 hE h1 h2 hl =>
    exact iff_of_false nofun fun h => (h.1 _ List.mem_cons_self).2.2 ((prefixOnly_iff byteLen_pfx2 h2).1 hl)
  | case7 name ms rest k1 k2 hE h1 h2 hl hx =>
    exact iff_of_false nofun fun h => not_exists_none_eq (hx ▸ (sideOK_cons_pos h2).1 h.2.2)
  | case8 name ms rest k1 k2 hE h1 h2 hl k' hx ih =>
    have h1' : pfx1.isPrefixOf name = false := Bool.not_eq_true _ ▸ h1
    rw [ih, List.forall_mem_cons, sideOK_cons_neg h1', sideOK_cons_pos h2, hx]
    exact and_congr (and_iff_right ⟨mt List.isEmpty_iff.2 hE, ne_of_not_isPrefixOf h1',
      mt (prefixOnly_iff byteLen_pfx2 h2).2 hl⟩).symm (and_congr .rfl exists_some_eq_iff.symm)
  | case9 name ms rest k1 k2 hE h1 h2 ih =>
    have h1' : pfx1.isPrefixOf name = false := Bool.not_eq_true _ ▸ h1
    have h2' : pfx2.isPrefixOf name = false := Bool.not_eq_true _ ▸ h2
    rw [ih, List.forall_mem_cons, sideOK_cons_neg h1', sideOK_cons_neg h2']
    exact and_congr_left' (and_iff_right ⟨mt List.isEmpty_iff.2 hE, ne_of_not_isPrefixOf h1',
      ne_of_not_isPrefixOf h2'⟩).symm

/-- `validate_groups` accepts exactly the maps in which no name is empty or only a
    kerning prefix and no glyph occurs twice among the first-side groups nor among the second-side
    groups (occurrences are counted: twice in one group is rejected too). -/
theorem validate_iff (g : Groups) : validateGroups g = .ok () ↔ KernSpec.ValidGroups g := by
  unfold validateGroups
  rw [validateLoop_ok_iff, sideOK_nil_iff, sideOK_nil_iff]
  rfl  -- `ValidGroups` is this conjunction, with `KernSpec.p1/p2` for `pfx1/pfx2` (the same literals)

theorem nodupB_iff (l : List Str) : KernSpec.nodupB l = true ↔ l.Nodup := by
  induction l with
  | nil => simp [KernSpec.nodupB]
  | cons x xs ih => simp [KernSpec.nodupB, ih]

theorem validName_iff {s : Str} : validName s = true ↔ s ≠ [] ∧ ∀ ch ∈ s, isCtl ch = false := by
  simp [validName]

theorem validName_append {a b : Str} (ha : validName a = true) (hb : ∀ ch ∈ b, isCtl ch = false) :
    validName (a ++ b) = true := by
  obtain ⟨h1, h2⟩ := validName_iff.mp ha
  exact validName_iff.mpr ⟨by simp [h1], fun ch h => (List.mem_append.mp h).elim (h2 ch) (hb ch)⟩

section unique
variable {sfx : Nat → Str} {name : Str} {g : Groups}

theorem mkName_eq_some {s u : Str} (h : mkName s = some u) : u = s ∧ validName s = true := by
  unfold mkName at h
  split at h
  · exact ⟨(Option.some.inj h).symm, ‹_›⟩
  · cases h

theorem mkName_of_valid {s : Str} (h : validName s = true) : mkName s = some s := if_pos h

theorem tryNames_ok {fuel c : Nat} {u : Str}
    (h : tryNames sfx name g fuel c = .ok u) : hasKey u g = false ∧ name <+: u := by
  fun_induction tryNames sfx name g fuel c with
  | case1 => cases h
  | case2 => cases h
  | case3 f c cand hm hk ih => exact ih h
  | case4 f c cand hm hk =>
    cases h; exact ⟨Bool.not_eq_true _ ▸ hk, (mkName_eq_some hm).1 ▸ List.prefix_append _ _⟩

theorem makeUnique_ok {fuel : Nat} {u : Str}
    (h : makeUnique sfx name g fuel = .ok u) : hasKey u g = false ∧ name <+: u := by
  unfold makeUnique at h
  split at h
  · exact tryNames_ok h
  · cases h; exact ⟨Bool.not_eq_true _ ▸ ‹_›, List.prefix_refl _⟩

theorem makeUnique_of_absent {sfx : Nat → Str} {name : Str} {g : Groups} {fuel : Nat}
    (h : hasKey name g = false) : makeUnique sfx name g fuel = .ok name := by simp [makeUnique, h]

/-- without panic sites: every candidate is a valid name -/
theorem tryNames_cases
    (hv : ∀ c, validName (name ++ sfx c) = true) (fuel c : Nat) :
    (∃ u, tryNames sfx name g fuel c = .ok u) ∨
    (tryNames sfx name g fuel c = .outOfFuel ∧ ∀ i, i < fuel → hasKey (name ++ sfx (c + i)) g = true) := by
  induction fuel generalizing c with
  | zero => exact .inr ⟨rfl, nofun⟩
  | succ f ih =>
    simp only [tryNames, mkName_of_valid (hv c)]
    split
    · rename_i hc
      refine (ih (c + 1)).imp_right fun ⟨h1, h2⟩ => ⟨h1, fun i hi => ?_⟩
      cases i with
      | zero => exact hc
      | succ j => rw [Nat.add_comm j, ← Nat.add_assoc]; exact h2 j (by omega)
    · exact .inl ⟨_, rfl⟩

/-- the fuel `g.length + 1` suffices: `g.length + 1` distinct candidates cannot all be keys -/
theorem tryNames_enough_fuel
    (hinj : ∀ a b, sfx a = sfx b → a = b) (hv : ∀ c, validName (name ++ sfx c) = true) (c : Nat) :
    ∃ u, tryNames sfx name g (g.length + 1) c = .ok u := by
  refine (tryNames_cases (g := g) hv (g.length + 1) c).resolve_right fun ⟨_, h2⟩ => ?_
  let L := (List.range (g.length + 1)).map (fun i => name ++ sfx (c + i))
  have hnd : L.Nodup := by
    refine List.pairwise_map.mpr (List.nodup_range.imp fun hab he => hab ?_)
    exact Nat.add_left_cancel (hinj _ _ (List.append_cancel_left he))
  have hsub : L ⊆ keys g := fun x hx => by
    obtain ⟨i, hi, rfl⟩ := List.mem_map.mp hx
    exact hasKey_iff_mem_keys.mp (h2 i (List.mem_range.mp hi))
  have := hnd.length_le_of_subset hsub
  simp [L, keys] at this
  omega

theorem makeUnique_total
    (hinj : ∀ a b, sfx a = sfx b → a = b) (hv : ∀ c, validName (name ++ sfx c) = true) :
    ∃ u, makeUnique sfx name g (g.length + 1) = .ok u := by
  unfold makeUnique
  split
  · exact tryNames_enough_fuel hinj hv 1
  · exact ⟨name, rfl⟩

end unique

section loop
variable {sfx : Nat → Str} {pfx legacy : Str}

theorem renameSide_nil_ok {g g' : Groups} {tbl tbl' : Table}
    (h : renameSide sfx pfx legacy [] g tbl = .ok (g', tbl')) : g' = g ∧ tbl' = tbl := by
  cases h; exact ⟨rfl, rfl⟩

theorem renameSide_cons_ok {n : Str} {ns : List Str} {g : Groups}
    {tbl : Table} {r : Groups × Table}
    (h : renameSide sfx pfx legacy (n :: ns) g tbl = .ok r) :
    ∃ u members, makeUnique sfx (pfx ++ removeAll legacy n) g (g.length + 1) = .ok u ∧
      lookup n g = some members ∧
      renameSide sfx pfx legacy ns ((u, members) :: g) ((n, u) :: tbl) = .ok r := by
  simp only [renameSide] at h
  split at h
  · cases h
  · rename_i base hm
    obtain ⟨rfl, _⟩ := mkName_eq_some hm
    split at h
    · cases h
    · cases h
    · rename_i u hu
      split at h
      · cases h
      · exact ⟨u, _, hu, ‹_›, h⟩

/-- the conclusion of `renameSide_keeps` and of C15's `groups_kept` -/
def Keeps (g g' : Groups) : Prop := ∀ k, hasKey k g = true → lookup k g' = lookup k g

theorem Keeps.hasKey {g g' : Groups} (h : Keeps g g') {k : Str} (hk : hasKey k g = true) : hasKey k g' = true := by
  rw [StrMap.hasKey, h k hk]; exact hk

theorem Keeps.trans {g g₁ g₂ : Groups} (h₁ : Keeps g g₁) (h₂ : Keeps g₁ g₂) : Keeps g g₂ :=
  fun k hk => (h₂ k (h₁.hasKey hk)).trans (h₁ k hk)

theorem renameSide_keeps {sfx : Nat → Str} {pfx legacy : Str} (ns : List Str) (g g' : Groups)
    (tbl tbl' : Table) (h : renameSide sfx pfx legacy ns g tbl = .ok (g', tbl')) :
    ∀ k, hasKey k g = true → lookup k g' = lookup k g := by
  induction ns generalizing g tbl with
  | nil => obtain ⟨rfl, _⟩ := renameSide_nil_ok h; exact fun _ _ => rfl
  | cons n ns ih =>
    obtain ⟨u, members, hu, _, hrec⟩ := renameSide_cons_ok h
    intro k hk
    rw [ih _ _ hrec k (hasKey_cons_of hk), lookup_cons_ne (hasKey_false_ne (makeUnique_ok hu).1 hk)]

theorem renameSide_struct (ns : List Str) (g g' : Groups)
    (tbl tbl' : Table) (h : renameSide sfx pfx legacy ns g tbl = .ok (g', tbl')) :
    ∃ new : Table, tbl' = new ++ tbl ∧ keys g' = new.map (·.2) ++ keys g ∧ new.map (·.1) = ns.reverse := by
  induction ns generalizing g tbl with
  | nil => obtain ⟨rfl, rfl⟩ := renameSide_nil_ok h; exact ⟨[], rfl, rfl, rfl⟩
  | cons n ns ih =>
    obtain ⟨u, members, _, _, hrec⟩ := renameSide_cons_ok h
    obtain ⟨new, h1, h2, h3⟩ := ih _ _ hrec
    exact ⟨new ++ [(n, u)], by simp [h1], by rw [h2]; simp [keys], by simp [h3]⟩

theorem renameSide_nodup (ns : List Str) (g g' : Groups)
    (tbl tbl' : Table) (h : renameSide sfx pfx legacy ns g tbl = .ok (g', tbl'))
    (hg : (keys g).Nodup) : (keys g').Nodup := by
  induction ns generalizing g tbl with
  | nil => obtain ⟨rfl, _⟩ := renameSide_nil_ok h; exact hg
  | cons n ns ih =>
    obtain ⟨u, members, hu, _, hrec⟩ := renameSide_cons_ok h
    exact ih _ _ hrec (List.nodup_cons.mpr ⟨hasKey_false_iff.mp (makeUnique_ok hu).1, hg⟩)

theorem renameSide_table {sfx : Nat → Str} {pfx legacy : Str} (ns : List Str) (g g' : Groups)
    (tbl tbl' : Table) (h : renameSide sfx pfx legacy ns g tbl = .ok (g', tbl'))
    (hns : ∀ n ∈ ns, hasKey n g = true) :
    ∀ n ∈ ns, ∃ u, (n, u) ∈ tbl' ∧ hasKey u g = false ∧ lookup u g' = lookup n g ∧
      (pfx ++ removeAll legacy n) <+: u := by
  induction ns generalizing g tbl with
  | nil => nofun
  | cons n ns ih =>
    obtain ⟨u, members, hu, hm, hrec⟩ := renameSide_cons_ok h
    obtain ⟨hfresh, hpre⟩ := makeUnique_ok hu
    have hkeep := renameSide_keeps ns _ g' _ tbl' hrec
    obtain ⟨new, htbl, _, _⟩ := renameSide_struct ns _ g' _ tbl' hrec
    intro x hx
    rcases List.mem_cons.mp hx with rfl | hx
    · refine ⟨u, by rw [htbl]; simp, hfresh, ?_, hpre⟩
      rw [hkeep u (by rw [hasKey_cons]; simp), lookup_cons_self, hm]
    · have hxk := hns x (List.mem_cons_of_mem _ hx)
      obtain ⟨v, hv1, hv2, hv3, hv4⟩ :=
        ih _ _ hrec (fun m hm' => hasKey_cons_of (hns m (List.mem_cons_of_mem _ hm'))) x hx
      rw [hasKey_cons, Bool.or_eq_false_iff] at hv2
      exact ⟨v, hv1, hv2.2, by rw [hv3, lookup_cons_ne (hasKey_false_ne hfresh hxk)], hv4⟩

/-- one loop seen from the whole conversion: it starts from `g₀`, which still has every group of the input `g`,
    and everything its result `g'` holds is still in the final map `G` -/
theorem renameSide_exact {ns : List Str} {g g₀ g' G : Groups} {tbl' : Table}
    (h : renameSide sfx pfx legacy ns g₀ [] = .ok (g', tbl'))
    (h₀ : Keeps g g₀) (hG : Keeps g' G)
    (hs : ∀ n ∈ ns, hasKey n g = true) (hn : ns.Nodup) :
    ∀ n ∈ ns, ∃ u, lookup n tbl' = some u ∧ hasKey u g = false ∧ lookup u G = lookup n g ∧
      (pfx ++ removeAll legacy n) <+: u := by
  intro n hnn
  obtain ⟨u, hu1, hu2, hu3, hu4⟩ :=
    renameSide_table ns g₀ g' [] tbl' h (fun n hn => h₀.hasKey (hs n hn)) n hnn
  obtain ⟨new, rfl, _, hk⟩ := renameSide_struct ns g₀ g' [] tbl' h
  rw [List.append_nil] at hu1 ⊢
  have hug' : hasKey u g' = true := by rw [hasKey, hu3, h₀ n (hs n hnn)]; exact hs n hnn
  refine ⟨u, lookup_is.of_mem_nodup (by rw [hk]; exact (List.reverse_perm _).nodup_iff.mpr hn) hu1, ?_, ?_, hu4⟩
  · exact Bool.eq_false_iff.mpr fun hug => Bool.false_ne_true (hu2 ▸ h₀.hasKey hug)
  · rw [hG u hug', hu3, h₀ n (hs n hnn)]

theorem renameSide_total
    (hinj : ∀ a b, sfx a = sfx b → a = b) (hsfx : ∀ c, ∀ ch ∈ sfx c, isCtl ch = false)
    (hpfx : validName pfx = true)
    (ns : List Str) (g : Groups) (tbl : Table)
    (hns : ∀ n ∈ ns, hasKey n g = true ∧ validName n = true) :
    ∃ r, renameSide sfx pfx legacy ns g tbl = .ok r := by
  induction ns generalizing g tbl with
  | nil => exact ⟨_, rfl⟩
  | cons n ns ih =>
    obtain ⟨hk, hvn⟩ := hns n List.mem_cons_self
    have hbase := validName_append (b := removeAll legacy n) hpfx
      fun ch h => (validName_iff.mp hvn).2 ch (mem_removeAll h)
    obtain ⟨u, hu⟩ := makeUnique_total (g := g) hinj fun c => validName_append hbase (hsfx c)
    obtain ⟨members, hm⟩ := lookup_isSome_of_hasKey hk
    obtain ⟨r, hr⟩ := ih ((u, members) :: g) ((n, u) :: tbl) fun m hm' =>
      (hns m (List.mem_cons_of_mem _ hm')).imp_left hasKey_cons_of
    exact ⟨r, by simp only [renameSide, mkName_of_valid hbase, hu, hm, hr]⟩

end loop

theorem mem_snd_of_lookup {n u : Str} {t : Table} (h : lookup n t = some u) : u ∈ t.map (·.2) :=
  List.mem_map.mpr ⟨(n, u), lookup_mem h, rfl⟩

theorem rn_of_lookup {t : Table} {n u : Str} (h : lookup n t = some u) : rn t n = u := by rw [rn, h]; rfl
theorem rn_of_none {t : Table} {n : Str} (h : lookup n t = none) : rn t n = n := by rw [rn, h]; rfl

theorem rn_injOn {t : Table} {K : List Str} (hn : (t.map (·.2)).Nodup)
    (hK : ∀ b ∈ K, lookup b t = none → b ∉ t.map (·.2)) :
    ∀ a ∈ K, ∀ b ∈ K, rn t a = rn t b → a = b := by
  intro a ha b hb hab
  cases hla : lookup a t <;> cases hlb : lookup b t
  · rwa [rn_of_none hla, rn_of_none hlb] at hab
  · rw [rn_of_none hla, rn_of_lookup hlb] at hab
    exact absurd (mem_snd_of_lookup hlb) (hab ▸ hK _ ha hla)
  · rw [rn_of_lookup hla, rn_of_none hlb] at hab
    exact absurd (mem_snd_of_lookup hla) (hab ▸ hK _ hb hlb)
  · rw [rn_of_lookup hla, rn_of_lookup hlb] at hab
    exact congrArg Prod.fst (eq_of_nodup_map hn (lookup_mem hla) (lookup_mem hlb) hab)

section fold
variable {α β : Type} (f : Str → Str) (h : α → β)

/-- the loop `for (k, v) in m { out.insert(f(k), h(v)) }` -/
def foldIns (acc : List (Str × β)) (m : List (Str × α)) : List (Str × β) :=
  m.foldl (fun acc e => insert (f e.1) (h e.2) acc) acc

theorem foldIns_cons (acc : List (Str × β)) (e : Str × α) (m : List (Str × α)) :
    foldIns f h acc (e :: m) = foldIns f h (insert (f e.1) (h e.2) acc) m := rfl

theorem foldIns_untouched (m : List (Str × α)) (acc : List (Str × β)) (k' : Str)
    (hk : ∀ e ∈ m, f e.1 ≠ k') : lookup k' (foldIns f h acc m) = lookup k' acc := by
  induction m generalizing acc with
  | nil => rfl
  | cons e r ih =>
    rw [foldIns_cons, ih _ (fun e' he' => hk e' (List.mem_cons_of_mem _ he'))]
    exact lookup_insert_ne (hk e List.mem_cons_self)

theorem foldIns_lookup (m : List (Str × α)) (acc : List (Str × β)) (hn : (keys m).Nodup)
    (hinj : ∀ a ∈ keys m, ∀ b ∈ keys m, f a = f b → a = b) :
    ∀ e ∈ m, lookup (f e.1) (foldIns f h acc m) = some (h e.2) := by
  induction m generalizing acc with
  | nil => nofun
  | cons e r ih =>
    have ⟨he, hr⟩ : e.1 ∉ keys r ∧ (keys r).Nodup := List.nodup_cons.mp hn
    intro x hx
    rw [foldIns_cons]
    rcases List.mem_cons.mp hx with rfl | hx
    · rw [foldIns_untouched, lookup_insert_self]
      intro e' he' heq
      have h1 : e'.1 ∈ keys r := List.mem_map.mpr ⟨e', he', rfl⟩
      have := hinj e'.1 (List.mem_cons_of_mem _ h1) x.1 List.mem_cons_self heq
      exact he (this ▸ h1)
    · exact ih _ hr (fun a ha b hb => hinj a (List.mem_cons_of_mem _ ha) b (List.mem_cons_of_mem _ hb)) x hx

theorem foldIns_origin (m : List (Str × α)) (acc : List (Str × β)) (k' : Str) (w : β)
    (hl : lookup k' (foldIns f h acc m) = some w) :
    (∃ e ∈ m, f e.1 = k' ∧ h e.2 = w) ∨ lookup k' acc = some w := by
  induction m generalizing acc with
  | nil => exact .inr hl
  | cons e r ih =>
    rcases ih _ hl with ⟨e', he', h1, h2⟩ | hacc
    · exact .inl ⟨e', List.mem_cons_of_mem _ he', h1, h2⟩
    · by_cases hk : f e.1 = k'
      · rw [← hk, lookup_insert_self] at hacc
        exact .inl ⟨e, List.mem_cons_self, hk, Option.some.inj hacc⟩
      · exact .inr (lookup_insert_ne hk ▸ hacc)

end fold

theorem rewriteSeconds_eq (t2 : Table) (secs : Seconds) :
    rewriteSeconds t2 secs = foldIns (rn t2) id [] secs := rfl

theorem rewriteKerning_eq (t1 t2 : Table) (k : Kerning) :
    rewriteKerning t1 t2 k = foldIns (rn t1) (rewriteSeconds t2) [] k := rfl

theorem joinBlocks_perm {b b' : List (Str × Str)} (hp : b.Perm b') (hn : (keys b).Nodup) (ts : List Str) :
    joinBlocks b ts = joinBlocks b' ts := by
  induction ts with
  | nil => rfl
  | cons t ts ih => simp only [joinBlocks, lookup_is.perm hp hn t, ih]

end Kern
