import Std.Data.String.ToNat
/-! Facts about lists, functions, `Option`, `Except` and characters that core Lean lacks and the families would otherwise
each prove for themselves; nothing of the model. -/

theorem eq_of_nodup_map {α β} {f : α → β} {l : List α} (hn : (l.map f).Nodup) {x y : α}
    (hx : x ∈ l) (hy : y ∈ l) (e : f x = f y) : x = y := by
  have hp : l.Pairwise fun x y => f x = f y → x = y := (List.pairwise_map.mp hn).imp fun h e => absurd e h
  exact List.Pairwise.forall_of_forall_of_flip (fun _ _ _ => rfl) hp (hp.imp fun h e => (h e.symm).symm) hx hy e

theorem prodMap_injective {α β γ δ} {f : α → γ} {g : β → δ} (hf : Function.Injective f) (hg : Function.Injective g) :
    Function.Injective (Prod.map f g) := fun _ _ h => Prod.ext (hf (congrArg Prod.fst h)) (hg (congrArg Prod.snd h))

theorem nodup_map_middle {α β} {f : α → β} {a b : List α} {x : α} :
    ((a ++ x :: b).map f).Nodup ↔ f x ∉ (a ++ b).map f ∧ ((a ++ b).map f).Nodup := by
  rw [(List.perm_middle.map f).nodup_iff]; exact List.nodup_cons

theorem mem_middle {α} {a b : List α} {x y : α} : y ∈ a ++ x :: b ↔ y = x ∨ y ∈ a ++ b := by
  rw [List.perm_middle.mem_iff, List.mem_cons]

theorem forall_mem_middle {α} {P : α → Prop} {a b : List α} {x : α} :
    (∀ z ∈ a ++ x :: b, P z) ↔ P x ∧ ∀ z ∈ a ++ b, P z := by
  simp only [mem_middle, forall_eq_or_imp]

theorem forall_mem_replace {α} {P : α → Prop} {a b : List α} {x y : α} (h : ∀ z ∈ a ++ x :: b, P z)
    (hxy : P x → P y) : ∀ z ∈ a ++ y :: b, P z :=
  forall_mem_middle.2 ((forall_mem_middle.1 h).imp_left hxy)

@[simp] theorem filter_true {α} (l : List α) : l.filter (fun _ => true) = l := by simp
@[simp] theorem filter_false {α} (l : List α) : l.filter (fun _ => false) = [] := by simp

theorem isPrefixOf_self {α} [BEq α] [LawfulBEq α] (l : List α) : l.isPrefixOf l = true :=
  List.isPrefixOf_iff_prefix.2 (List.prefix_refl l)

theorem flatMap_sublist {α β} {f g : α → List β} {l₁ l₂ : List α} (h : l₁.Sublist l₂)
    (hfg : ∀ x ∈ l₁, (f x).Sublist (g x)) : (l₁.flatMap f).Sublist (l₂.flatMap g) := by
  induction h with
  | slnil => exact .slnil
  | cons a _ ih => exact (ih hfg).trans (List.sublist_append_right _ _)
  | cons_cons a _ ih =>
    rw [List.forall_mem_cons] at hfg
    exact hfg.1.append (ih hfg.2)

theorem dropWhile_self {α} {p : α → Bool} : ∀ l : List α, (∀ a, l.head? = some a → p a = false) → l.dropWhile p = l
  | [], _ => rfl
  | a :: r, h => by simp [List.dropWhile, h a rfl]

theorem foldl_keeps {σ α β} {F : σ → α → σ} {π : σ → β} : ∀ {l : List α}, (∀ s, ∀ a ∈ l, π (F s a) = π s) →
    ∀ s, π (l.foldl F s) = π s
  | [], _, _ => rfl
  | a :: _, h, s => (foldl_keeps (fun s x hx => h s x (List.mem_cons_of_mem _ hx)) (F s a)).trans (h s a List.mem_cons_self)

theorem foldl_perm_of_comm {σ α : Type} (f : σ → α → σ) (R : α → α → Prop) (hsymm : ∀ {a b}, R a b → R b a)
    (hcomm : ∀ s a b, R a b → f (f s a) b = f (f s b) a) {l₁ l₂ : List α} (hp : l₁.Perm l₂) (hpw : l₁.Pairwise R)
    (s : σ) : l₁.foldl f s = l₂.foldl f s :=
  hp.foldl_eq' (List.Pairwise.forall_of_forall_of_flip (R := fun a b => ∀ z, f (f z a) b = f (f z b) a)
    (fun _ _ _ => rfl) (hpw.imp fun h z => hcomm z _ _ h) (hpw.imp fun h z => hcomm z _ _ (hsymm h))) s

theorem foldl_perm_of_nodup_keys {α β κ : Type} (f : β → α → β) (key : α → κ)
    (comm : ∀ z a b, key a ≠ key b → f (f z a) b = f (f z b) a) {l₁ l₂ : List α} (p : l₁.Perm l₂)
    (nd : (l₁.map key).Nodup) (z : β) : l₁.foldl f z = l₂.foldl f z :=
  foldl_perm_of_comm f (fun a b => key a ≠ key b) Ne.symm comm p (List.pairwise_map.1 nd) z

theorem update_comm {κ β : Type} [DecidableEq κ] (m : κ → β) {k₁ k₂ : κ} (v₁ v₂ : β) (h : k₁ ≠ k₂) :
    (fun k => if k = k₂ then v₂ else if k = k₁ then v₁ else m k) =
      fun k => if k = k₁ then v₁ else if k = k₂ then v₂ else m k := by
  funext k
  by_cases h1 : k = k₁
  · rw [if_neg (h1 ▸ h), if_pos h1, if_pos h1]
  · rw [if_neg h1, if_neg h1]

deriving instance DecidableEq for Except

theorem ite_error_eq_ok {ε α : Type} {c : Prop} [Decidable c] {e : ε} {x : Except ε α} {a : α} :
    (if c then .error e else x) = .ok a ↔ ¬ c ∧ x = .ok a := by
  by_cases h : c <;> simp [h]

theorem ite_ok_eq_ok {ε α : Type} {c : Prop} [Decidable c] {e : ε} {x : Except ε α} {a : α} :
    (if c then x else .error e) = .ok a ↔ c ∧ x = .ok a := by
  by_cases h : c <;> simp [h]

def Except.okAnd {ε α : Type} (x : Except ε α) (p : α → Bool) : Bool :=
  match x with
  | .ok a => p a
  | .error _ => false

/-- a computed `Except` is `ok` with a decidable property, by evaluation.  The test is a function of its own: with the
    `match` written into this statement the kernel evaluates `x` once for the proof and once more to see that the
    proof's `match` is this one. -/
theorem Except.exists_ok {ε α : Type} {x : Except ε α} {P : α → Prop} [DecidablePred P]
    (h : x.okAnd (fun a => decide (P a)) = true) : ∃ a, x = .ok a ∧ P a := by
  cases x with
  | error e => cases h
  | ok a => exact ⟨a, rfl, of_decide_eq_true h⟩

theorem mapM_map_some_mem {α β γ : Type} (rdr : β → Option γ) (w : α → β) (d : α → γ) (l : List α)
    (h : ∀ x, x ∈ l → rdr (w x) = some (d x)) : (l.map w).mapM rdr = some (l.map d) := by
  induction l with
  | nil => rfl
  | cons a r ih =>
    simp [List.mapM_cons, h a List.mem_cons_self, ih fun x hx => h x (List.mem_cons_of_mem _ hx)]

theorem mapM_map_some {α β : Type} (f : β → Option α) (g : α → β) (xs : List α) (h : ∀ x ∈ xs, f (g x) = some x) :
    (xs.map g).mapM f = some xs := by
  simpa using mapM_map_some_mem f g id xs h

theorem char_le_iff (a b : Char) : a ≤ b ↔ a.toNat ≤ b.toNat := Iff.rfl

/-- core's `Char.isDigit_iff_toNat` with the bounds as numerals, as `omega` needs them -/
theorem isDigit_code {ch : Char} (h : ch.isDigit = true) : 48 ≤ ch.toNat ∧ ch.toNat ≤ 57 :=
  Char.isDigit_iff_toNat.1 h

theorem nat_repr_digits (n : Nat) : ∀ ch ∈ n.repr.toList, ch.isDigit = true := by
  intro ch hch
  rw [Nat.toList_repr] at hch
  exact Nat.isDigit_of_mem_toDigits (by omega) (by omega) hch
