import Norad.Lemmas.GlifGen
/-!
# Format 1 in the generative grammar

A format-1 document has no identifiers and none of `anchor`, `guideline`, `image`, `note` (the format-1 refusals of
`parse.rs`, extracted as `Generated.GlifParser.v1RefusedStart/Empty`).  Same items and rendering as `GlifGen.lean`; every item
but the outline is read as there.  At `</outline>` the contours that are one named `move` point become anchors: the state
after a body item is `applyB1`, not `applyB`, so the body level is followed on its own (`reach_bits_v1`).
-/
namespace Glif
section
variable {f : Fmt} {rd : Str → Option Nat} {nc : Color → Color} {ok : Nat → Prop}

def CIt.V1 : CIt → Prop
  | .point p => p.ident = none
  | .comment => True

def OIt.V1 : OIt → Prop
  | .contour cid its => cid = none ∧ ∀ it, it ∈ its → it.V1
  | .component k => k.ident = none
  | _ => True

def BIt.V1 : BIt → Prop
  | .advance .. => True
  | .unicode _ => True
  | .lib _ => True
  | .comment => True
  | .emptyOutline _ => True
  | .outline its => ∀ it, it ∈ its → it.V1
  | _ => False

theorem CIt.ids_of_V1 : ∀ {its : List CIt}, (∀ it, it ∈ its → it.V1) → its.flatMap CIt.ids = []
  | [], _ => rfl
  | .comment :: r, h => CIt.ids_of_V1 (its := r) fun it hit => h it (List.mem_cons_of_mem _ hit)
  | .point p :: r, h => by
    rw [List.flatMap_cons, CIt.ids, (h _ List.mem_cons_self : p.ident = none)]
    exact CIt.ids_of_V1 fun it hit => h it (List.mem_cons_of_mem _ hit)

theorem OIt.ids_of_V1 {its : List OIt} (h : ∀ it, it ∈ its → it.V1) : its.flatMap OIt.ids = [] := by
  refine List.flatMap_eq_nil_iff.2 fun it hit => ?_
  have hv := h it hit
  cases it with
  | contour cid kids => rw [OIt.ids, hv.1, CIt.ids_of_V1 hv.2]; rfl
  | component k => rw [OIt.ids, (hv : k.ident = none)]; rfl
  | _ => rfl

def applyG1 (g : Glyph) : BIt → Glyph
  | .advance w h => { g with width := (if nonZero w then w else 0), height := (if nonZero h then h else 0) }
  | .unicode c => { g with codepoints := cpInsert g.codepoints c }
  | .outline its =>
    let ob := its.foldl applyO {}
    { g with anchors := g.anchors ++ (upgradeV1 ob.contours).1, contours := g.contours ++ (upgradeV1 ob.contours).2,
             components := g.components ++ ob.components }
  | .lib d => { g with lib := d }
  | _ => g

def applyB1 (s : PS) (it : BIt) : PS :=
  { s with
    seenAdvance := s.seenAdvance || it.isAdvance
    seenOutline := s.seenOutline || it.isOutline
    seenLib := s.seenLib || it.isLib
    g := applyG1 s.g it }

theorem reach_bit_v1 (hc : Codec f rd nc ok) {s : PS} (hm : s.mode = .body) (hv : s.ver = 1) (it : BIt) (hok : it.OK ok)
    (h1 : it.V1) (hadv : it.isAdvance = true → s.seenAdvance = false) (hout : it.isOutline = true → s.seenOutline = false)
    (hlib : it.isLib = true → s.seenLib = false) :
    Reach rd s (it.evs f) (applyB1 s it) := by
  cases it with
  | image _ | anchor _ | guideline _ | note _ => exact h1.elim
  | outline its =>
    have hs1 : step rd s (.start sOutline (some [])) = .ok (.inl { s with seenOutline := true, mode := .outline {} }) := by
      rw [step_start_outline hm, hout rfl, if_neg Bool.false_ne_true]; rfl
    have hids := OIt.ids_of_V1 (h1 : ∀ it, it ∈ its → it.V1)
    have h2 := reach_oits (.flatMap _ its fun it hit => reach_oit hc it ((hok : ∀ it, it ∈ its → it.OK ok) it hit))
      { s with seenOutline := true, mode := .outline {} } {} rfl (Or.inr hids) (hids ▸ List.nodup_nil)
      (fun i hi => by rw [hids] at hi; cases hi)
    rw [hids] at h2
    refine (Reach.cons hs1 (Reach.append h2 (Reach.one (step_close_outline rfl)))).cast ?_
    -- `finishOutline` in format 1 goes through `upgradeV1`, as `applyG1` does
    simp only [finishOutline, hv, if_true, applyB1, applyG1, BIt.isAdvance, BIt.isOutline, BIt.isLib, Bool.or_false, Bool.or_true,
      pushIds_nil, hm]
  -- advance, unicode, lib, comment, `<outline/>`: read as in format 2
  | _ => exact reach_bit hc _ hok s ⟨hm, nofun, List.nodup_nil, nofun, hadv, hout, hlib, nofun, nofun⟩

structure LegalItemsV1 (ok : Nat → Prop) (items : List BIt) : Prop where
  valid : ∀ it, it ∈ items → it.OK ok
  v1 : ∀ it, it ∈ items → it.V1
  advance : items.countP BIt.isAdvance ≤ 1
  outline : items.countP BIt.isOutline ≤ 1
  lib : items.countP BIt.isLib ≤ 1

theorem applyB1_mode (s : PS) (it : BIt) : (applyB1 s it).mode = s.mode := rfl

theorem reach_bits_v1 (hc : Codec f rd nc ok) : ∀ (items : List BIt) (s : PS), s.mode = .body → s.ver = 1 →
    (∀ it, it ∈ items → it.OK ok) → (∀ it, it ∈ items → it.V1) →
    s.seenAdvance.toNat + items.countP BIt.isAdvance ≤ 1 → s.seenOutline.toNat + items.countP BIt.isOutline ≤ 1 →
    s.seenLib.toNat + items.countP BIt.isLib ≤ 1 →
    Reach rd s (items.flatMap (BIt.evs f)) (items.foldl applyB1 s) := by
  intro items
  induction items with
  | nil => intros; exact Reach.nil _
  | cons it r ih =>
    intro s hm hv hok h1 ha ho hl
    obtain ⟨a1, a2⟩ := once_cons ha
    obtain ⟨o1, o2⟩ := once_cons ho
    obtain ⟨l1, l2⟩ := once_cons hl
    rw [List.flatMap_cons, List.foldl_cons]
    exact Reach.append (reach_bit_v1 hc hm hv it (hok it List.mem_cons_self) (h1 it List.mem_cons_self) a1 o1 l1)
      (ih (applyB1 s it) hm hv (fun b hb => hok b (List.mem_cons_of_mem _ hb))
        (fun b hb => h1 b (List.mem_cons_of_mem _ hb)) a2 o2 l2)

def glyphStartAttrsV1 (d : GDoc) : List Attr :=
  [("name".toList, d.name), ("format".toList, ['1'])] ++ (if d.minor then [("formatMinor".toList, ['0'])] else [])

def renderV1 (f : Fmt) (d : GDoc) : List Ev :=
  d.prolog ++ (.start sGlyph (some (glyphStartAttrsV1 d)) :: (d.items.flatMap (BIt.evs f) ++ (.close sGlyph :: d.trailer)))

def interpV1 (d : GDoc) : Glyph := (d.items.foldl applyB1 { g := { name := d.name }, ver := 1 }).g

/-- format 1: the parser gets to `</glyph>` with `interpV1 d`, in which the contours that are a single named `move` point
    have become anchors, and returns `load_object_libs` of it -/
theorem legal_accepted_gdoc_v1 (hc : Codec f rd nc ok) (d : GDoc) (hp : ∀ e, e ∈ d.prolog → isProlog e = true)
    (hn : validName d.name = true) (hL : LegalItemsV1 ok d.items) :
    parseGlif rd (renderV1 f d) = loadObjectLibs (interpV1 d) :=
  parse_of_reach hp (glyphStart_fold hn (show parseU32 10 ['1'] = some 1 by decide) d.minor)
    (reach_bits_v1 hc d.items _ rfl rfl hL.valid hL.v1 (by simpa using hL.advance) (by simpa using hL.outline)
      (by simpa using hL.lib))
    (foldl_keeps (F := applyB1) (π := PS.mode) (l := d.items) (fun _ _ _ => rfl) _)
end
end Glif
