import Norad.Spec.Ufo3Read
import Norad.Lemmas.Basic
/-!
Lemmas for C05: the specification-level reader inverts the specification-level writer, element by element.

A reader looks at an attribute list only through `allowed` and `List.lookup`; a writer builds it from optional
attributes (`optA`).  So each element needs the lookups of its attribute names in what was written, nothing else.
-/
namespace Ufo3

theorem tag_elem (t : String) (a : List (String × String)) (c : List XNode) (x : String) :
    (XNode.elem t a c x).tag = t := rfl

/-! The tag test is stated as a proposition, which `String.reduceEq` decides on literals; the Boolean `==` is much
slower to decide. -/

theorem filter_hasTag_cons (t : String) (n : XNode) (r : List XNode) :
    (n :: r).filter (hasTag t) = if n.tag = t then n :: r.filter (hasTag t) else r.filter (hasTag t) := by
  simp [List.filter_cons, hasTag]

theorem filter_hasTag_map {α : Type} (w : α → XNode) (t : String) (l : List α) :
    (l.map w).filter (hasTag t) = (l.filter fun x => decide ((w x).tag = t)).map w := by
  rw [List.filter_map]
  exact congrArg _ (List.filter_congr fun x _ => by cases h : (w x).tag == t <;> simp_all [hasTag])

theorem filter_hasTag_ite (t : String) (c : Prop) [Decidable c] (a b : List XNode) :
    (if c then a else b).filter (hasTag t) = if c then a.filter (hasTag t) else b.filter (hasTag t) := by
  split <;> rfl

@[simp] theorem tag_writeUnicode (rd : Render) (u : Nat) : (writeUnicode rd u).tag = "unicode" := rfl
@[simp] theorem tag_writeGuideline (rd : Render) (x : GuidelineD) : (writeGuideline rd x).tag = "guideline" := rfl
@[simp] theorem tag_writeAnchor (rd : Render) (x : AnchorD) : (writeAnchor rd x).tag = "anchor" := rfl
@[simp] theorem tag_writeImage (rd : Render) (x : ImageD) : (writeImage rd x).tag = "image" := rfl
@[simp] theorem tag_writeContour (rd : Render) (x : ContourD) : (writeContour rd x).tag = "contour" := rfl
@[simp] theorem tag_writeComponent (rd : Render) (x : ComponentD) : (writeComponent rd x).tag = "component" := rfl

theorem all_map_tag {α : Type} (w : α → XNode) (t : String) (ts : List String) (h : ∀ x, (w x).tag = t)
    (hin : ts.contains t = true) (l : List α) : (l.map w).all (fun k => ts.contains k.tag) = true := by
  induction l with
  | nil => rfl
  | cons a r ih => simp only [List.map_cons, List.all_cons, h, hin, ih, Bool.and_self]

/-- the default argument evaluates the membership at the use -/
theorem childTag (t : String) (h : glyphChildTags.contains t = true := by simp [glyphChildTags]) :
    glyphChildTags.contains t = true := h

theorem optNode_eq {α : Type} (w : α → XNode) (o : Option α) : optNode w o = o.toList.map w := by cases o <;> rfl

theorem atMostOne_nil {α : Type} (f : XNode → Option α) : atMostOne f [] = some none := rfl

theorem atMostOne_one {α : Type} (f : XNode → Option α) (n : XNode) : atMostOne f [n] = (f n).map some := by
  simp only [atMostOne]; cases f n <;> rfl

theorem atMostOne_toList {α β : Type} (f : XNode → Option β) (w : α → XNode) (d : α → β) (o : Option α)
    (h : ∀ x, o = some x → f (w x) = some (d x)) : atMostOne f (o.toList.map w) = some (o.map d) := by
  cases o with
  | none => rfl
  | some x => simp [atMostOne, h x rfl]

theorem optN_eq (rd : Render) (k : String) (o : Option Num) : optN rd k o = optA k (o.map fun v => rd.nums [v]) := by
  cases o <;> rfl

theorem colorA_eq (rd : Render) (c : Option ColorD) :
    colorA rd c = optA "color" (c.map fun c => rd.nums [c.r, c.g, c.b, c.a]) := by
  cases c <;> rfl

@[simp] theorem lookup_optA (k k' : String) (o : Option String) :
    (optA k' o).lookup k = if k = k' then o else none := by
  cases o with
  | none => simp [optA]
  | some v => by_cases e : k = k' <;> simp [optA, e]

theorem allowed_nil (el : String) : allowed el [] = true := rfl
theorem allowed_cons (el : String) (a : String × String) (r : List (String × String)) :
    allowed el (a :: r) = ((attrNames el).contains a.1 && allowed el r) := by simp [allowed]
theorem allowed_append (el : String) (a b : List (String × String)) :
    allowed el (a ++ b) = (allowed el a && allowed el b) := by simp [allowed, List.all_append]
theorem allowed_optA (el k : String) (o : Option String) :
    allowed el (optA k o) = (o.isNone || (attrNames el).contains k) := by
  cases o <;> simp [optA, allowed]

theorem attrNames_glyph : attrNames "glyph" = ["name", "format", "formatMinor"] := by decide +kernel
theorem attrNames_advance : attrNames "advance" = ["width", "height"] := by decide +kernel
theorem attrNames_unicode : attrNames "unicode" = ["hex"] := by decide +kernel
theorem attrNames_image : attrNames "image" =
    ["fileName", "xScale", "xyScale", "yxScale", "yScale", "xOffset", "yOffset", "color"] := by decide +kernel
theorem attrNames_guideline : attrNames "guideline" = ["x", "y", "angle", "name", "color", "identifier"] := by
  decide +kernel
theorem attrNames_anchor : attrNames "anchor" = ["x", "y", "name", "color", "identifier"] := by decide +kernel
theorem attrNames_contour : attrNames "contour" = ["identifier"] := by decide +kernel
theorem attrNames_point : attrNames "point" = ["x", "y", "type", "smooth", "name", "identifier"] := by decide +kernel
theorem attrNames_component : attrNames "component" =
    ["base", "xScale", "xyScale", "yxScale", "yScale", "xOffset", "yOffset", "identifier"] := by decide +kernel

section
variable (lx : Lex) {as : List (String × String)} {k : String}

theorem numReq_eq {s : String} {v : Num} (h : as.lookup k = some s) (hs : lx.nums s = some [v]) :
    numReq lx as k = some v := by
  simp [numReq, h, num1, hs]

theorem numDflt_eq {s : String} {v : Num} (d : Num) (h : as.lookup k = some s) (hs : lx.nums s = some [v]) :
    numDflt lx as k d = some v := by
  simp [numDflt, h, num1, hs]

theorem numDflt_gate {c : Bool} {s : String} {v : Num} (d : Num) (h : as.lookup k = if c then some s else none)
    (hs : c = true → lx.nums s = some [v]) : numDflt lx as k d = some (if c then v else d) := by
  cases c with
  | false => simp [numDflt, h]
  | true => simp [numDflt, h, num1, hs rfl]

theorem numOpt_eq {o : Option Num} {sp : Num → String} (h : as.lookup k = o.map sp)
    (hs : ∀ v, o = some v → lx.nums (sp v) = some [v]) : numOpt lx as k = some o := by
  cases o with
  | none => simp [numOpt, h]
  | some v => simp [numOpt, h, num1, hs v rfl]

theorem colorOpt_eq {α : Type} {o : Option α} {c : Option ColorD} {sp : α → String} (val : α → ColorD)
    (h : as.lookup "color" = o.map sp) (hc : o.map val = c)
    (hs : ∀ x, o = some x → lx.nums (sp x) = some [(val x).r, (val x).g, (val x).b, (val x).a]) :
    colorOpt lx as = some c := by
  subst hc
  cases o with
  | none => simp [colorOpt, h]
  | some x => simp [colorOpt, h, hs x rfl]

theorem readPType_eq {t : PType} (h : as.lookup "type" = some t.str ∨ (as.lookup "type" = none ∧ t = .offcurve)) :
    readPType as = some t := by
  rcases h with h | ⟨h, rfl⟩
  · cases t <;> simp [readPType, h, PType.str]
  · simp [readPType, h]

theorem readSmooth_eq {s : Bool}
    (h : as.lookup "smooth" = some (if s then "yes" else "no") ∨ (as.lookup "smooth" = none ∧ s = false)) :
    readSmooth as = some s := by
  rcases h with h | ⟨h, rfl⟩
  · cases s <;> simp [readSmooth, h]
  · simp [readSmooth, h]

theorem readPoint_of {p : PointD} (ha : allowed "point" as = true) (hx : numReq lx as "x" = some p.x)
    (hy : numReq lx as "y" = some p.y) (ht : readPType as = some p.typ) (hs : readSmooth as = some p.smooth)
    (hn : as.lookup "name" = p.name) (hi : as.lookup "identifier" = p.identifier) :
    readPoint lx (.elem "point" as [] "") = some p := by
  simp [readPoint, ha, hx, hy, ht, hs, hn, hi]

theorem readAnchor_of {a : AnchorD} (ha : allowed "anchor" as = true) (hx : numReq lx as "x" = some a.x)
    (hy : numReq lx as "y" = some a.y) (hc : colorOpt lx as = some a.color) (hn : as.lookup "name" = a.name)
    (hi : as.lookup "identifier" = a.identifier) : readAnchor lx (.elem "anchor" as [] "") = some a := by
  simp [readAnchor, ha, hx, hy, hc, hn, hi]

theorem readGuideline_of {g : GuidelineD} (ha : allowed "guideline" as = true) (hx : numOpt lx as "x" = some g.x)
    (hy : numOpt lx as "y" = some g.y) (hg : numOpt lx as "angle" = some g.angle) (hc : colorOpt lx as = some g.color)
    (hn : as.lookup "name" = g.name) (hi : as.lookup "identifier" = g.identifier) :
    readGuideline lx (.elem "guideline" as [] "") = some g := by
  simp [readGuideline, ha, hx, hy, hg, hc, hn, hi]

theorem readTransform_of {t : Affine Num} (h1 : numDflt lx as "xScale" oneBits = some t.xScale)
    (h2 : numDflt lx as "xyScale" zeroBits = some t.xyScale) (h3 : numDflt lx as "yxScale" zeroBits = some t.yxScale)
    (h4 : numDflt lx as "yScale" oneBits = some t.yScale) (h5 : numDflt lx as "xOffset" zeroBits = some t.xOffset)
    (h6 : numDflt lx as "yOffset" zeroBits = some t.yOffset) : readTransform lx as = some t := by
  simp [readTransform, h1, h2, h3, h4, h5, h6]

theorem readAdvance_of {w h : Num} (ha : allowed "advance" as = true) (hw : numDflt lx as "width" zeroBits = some w)
    (hh : numDflt lx as "height" zeroBits = some h) : readAdvance lx (.elem "advance" as [] "") = some (w, h) := by
  simp [readAdvance, ha, hw, hh]

theorem readComponent_of {c : ComponentD} (ha : allowed "component" as = true) (hb : as.lookup "base" = some c.base)
    (ht : readTransform lx as = some c.t) (hi : as.lookup "identifier" = c.identifier) :
    readComponent lx (.elem "component" as [] "") = some c := by
  simp [readComponent, ha, hb, ht, hi]

theorem readImage_of {i : ImageD} (ha : allowed "image" as = true) (hf : as.lookup "fileName" = some i.fileName)
    (ht : readTransform lx as = some i.t) (hc : colorOpt lx as = some i.color) :
    readImage lx (.elem "image" as [] "") = some i := by
  simp [readImage, ha, hf, ht, hc]

end

attribute [local simp] List.lookup_append List.lookup optN_eq colorA_eq transformA allowed_append allowed_cons allowed_nil
  allowed_optA

section
variable (lx : Lex) (rd : Render) (hn : ∀ ns, lx.nums (rd.nums ns) = some ns)
include hn

theorem colorOpt_colorA {as : List (String × String)} {c : Option ColorD}
    (h : as.lookup "color" = c.map fun c => rd.nums [c.r, c.g, c.b, c.a]) : colorOpt lx as = some c :=
  colorOpt_eq lx (fun c => c) h Option.map_id' fun _ _ => hn _

theorem readPoint_write (p : PointD) : readPoint lx (writePoint rd p) = some p :=
  readPoint_of lx (by simp [attrNames_point])
    (numReq_eq lx rfl (hn _)) (numReq_eq lx rfl (hn _)) (readPType_eq (.inl rfl)) (readSmooth_eq (.inl rfl))
    (by simp) (by simp)

theorem readContour_write (c : ContourD) : readContour lx (writeContour rd c) = some c := by
  have h := mapM_map_some (readPoint lx) (writePoint rd) c.points fun x _ => readPoint_write lx rd hn x
  simp [readContour, writeContour, attrNames_contour, h]

theorem readAnchor_write (a : AnchorD) : readAnchor lx (writeAnchor rd a) = some a :=
  readAnchor_of lx (by simp [attrNames_anchor])
    (numReq_eq lx rfl (hn _)) (numReq_eq lx rfl (hn _))
    (colorOpt_colorA lx rd hn (by simp)) (by simp) (by simp)

theorem readGuideline_write (g : GuidelineD) : readGuideline lx (writeGuideline rd g) = some g :=
  readGuideline_of lx
    (by simp [attrNames_guideline]) (numOpt_eq lx (by simp) fun _ _ => hn _) (numOpt_eq lx (by simp) fun _ _ => hn _)
    (numOpt_eq lx (by simp) fun _ _ => hn _) (colorOpt_colorA lx rd hn (by simp)) (by simp) (by simp)

theorem readTransform_write (t : Affine Num) (pre post : List (String × String))
    (hpre : ∀ k ∈ transformAttrs, pre.lookup k = none) :
    readTransform lx (pre ++ transformA rd t ++ post) = some t := by
  have l (k : String) (hk : k ∈ transformAttrs) :
      (pre ++ transformA rd t ++ post).lookup k = ((transformA rd t).lookup k).or (post.lookup k) := by
    simp only [List.lookup_append, hpre k hk, Option.none_or]
  exact readTransform_of lx (numDflt_eq lx _ ((l _ (by decide)).trans rfl) (hn _))
    (numDflt_eq lx _ ((l _ (by decide)).trans rfl) (hn _)) (numDflt_eq lx _ ((l _ (by decide)).trans rfl) (hn _))
    (numDflt_eq lx _ ((l _ (by decide)).trans rfl) (hn _)) (numDflt_eq lx _ ((l _ (by decide)).trans rfl) (hn _))
    (numDflt_eq lx _ ((l _ (by decide)).trans rfl) (hn _))

theorem readComponent_write (c : ComponentD) : readComponent lx (writeComponent rd c) = some c :=
  readComponent_of lx
    (by simp [attrNames_component]) rfl (readTransform_write lx rd hn c.t _ _ (by simp [transformAttrs])) (by simp)

theorem colorOpt_write (c : Option ColorD) (pre post : List (String × String)) (hpre : pre.lookup "color" = none)
    (hpost : c = none → post.lookup "color" = none) :
    colorOpt lx (pre ++ colorA rd c ++ post) = some c := by
  refine colorOpt_colorA lx rd hn ?_
  cases c with
  | none => simp [hpre, hpost]
  | some c => simp [hpre]

theorem readImage_write (i : ImageD) : readImage lx (writeImage rd i) = some i :=
  readImage_of lx (by simp [attrNames_image]) rfl (readTransform_write lx rd hn i.t _ _ (by simp [transformAttrs]))
    (colorOpt_colorA lx rd hn (by simp))

theorem readAdvance_write (w h : Num) :
    readAdvance lx (.elem "advance" [("width", rd.nums [w]), ("height", rd.nums [h])] [] "") = some (w, h) :=
  readAdvance_of lx (by simp [attrNames_advance]) (numDflt_eq lx _ rfl (hn _)) (numDflt_eq lx _ rfl (hn _))

theorem readOutline_write (cs : List ContourD) (ks : List ComponentD) :
    readOutline lx (.elem "outline" [] (cs.map (writeContour rd) ++ ks.map (writeComponent rd)) "") = some (cs, ks) := by
  have hc := mapM_map_some (readContour lx) (writeContour rd) cs fun x _ => readContour_write lx rd hn x
  have hk := mapM_map_some (readComponent lx) (writeComponent rd) ks fun x _ => readComponent_write lx rd hn x
  simp [readOutline, List.all_append, List.filter_append, filter_hasTag_map, hc, hk]

end

theorem readUnicode_write (lx : Lex) (rd : Render) (hh : ∀ n, lx.hex (rd.hex n) = some n) (u : Nat) :
    readUnicode lx (writeUnicode rd u) = some u := by
  simp [readUnicode, writeUnicode, allowed, attrNames_unicode, hh, List.lookup]

theorem specRead_specWrite (lx : Lex) (rd : Render) (hn : ∀ ns, lx.nums (rd.nums ns) = some ns)
    (hh : ∀ n, lx.hex (rd.hex n) = some n) (g : GlyphD) : specRead lx (specWrite rd g) = some g := by
  have mU := mapM_map_some (readUnicode lx) (writeUnicode rd) g.unicodes fun x _ => readUnicode_write lx rd hh x
  have mG := mapM_map_some (readGuideline lx) (writeGuideline rd) g.guidelines fun x _ => readGuideline_write lx rd hn x
  have mA := mapM_map_some (readAnchor lx) (writeAnchor rd) g.anchors fun x _ => readAnchor_write lx rd hn x
  simp only [specRead, specWrite, optNode_eq]
  -- filtering the children by a tag picks that tag's family
  simp only [List.filter_append, filter_hasTag_cons, List.filter_nil, filter_hasTag_map, tag_elem, tag_writeUnicode,
    tag_writeGuideline, tag_writeAnchor, tag_writeImage, String.reduceEq, if_true, if_false, decide_true, decide_false,
    filter_true, filter_false, List.map_nil, List.append_nil, List.nil_append]
  rw [if_pos]
  · simp [atMostOne_one, mU, mG, mA, readAdvance_write lx rd hn, readOutline_write lx rd hn,
      atMostOne_toList _ _ id _ (fun i _ => readImage_write lx rd hn i),
      atMostOne_toList readNote (.elem "note" [] []) id _ (fun _ _ => rfl),
      atMostOne_toList readLib (.elem "lib" [] []) id _ (fun _ _ => rfl)]
  · refine ⟨trivial, by simp [attrNames_glyph], rfl, .inl rfl, ?_⟩
    simp only [List.all_append, List.all_cons, List.all_nil, tag_elem, all_map_tag _ _ _ (tag_writeUnicode rd) (childTag "unicode"),
      all_map_tag _ _ _ (tag_writeGuideline rd) (childTag "guideline"), all_map_tag _ _ _ (tag_writeAnchor rd) (childTag "anchor"),
      all_map_tag _ _ _ (tag_writeImage rd) (childTag "image"),
      all_map_tag (fun n => XNode.elem "note" [] [] n) _ _ (fun _ => rfl) (childTag "note"),
      all_map_tag (fun l => XNode.elem "lib" [] [] l) _ _ (fun _ => rfl) (childTag "lib"), childTag "advance", childTag "outline",
      Bool.and_self]

end Ufo3
