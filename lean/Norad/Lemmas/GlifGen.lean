import Norad.Lemmas.GlifElem
import Norad.Lemmas.Basic
/-!
# Glif documents read item by item; the generative grammar of legal format-2 documents as one instance

An item (`BIt` at glyph level, `OIt` in an outline, `CIt` in a contour) stands for what a piece of a document contributes
to the parser state (`applyB`, `applyO`, `CIt.pts`, its identifiers `ids`).  `X.ReadAs it evs`: from every state in which
`it` may come (`BIt.MayCome`), the parser consumes `evs` and ends where `it` leads; the `readAs_*` lemmas give this for ANY
events the element's parser reads.  The grammar (`render f doc`: items in any order, comments anywhere, numbers and colours
spelt by an arbitrary `Fmt` that reads back) is one instance, the tree of an independent writer another (C05).  Attribute
order is covered separately by `parseGlif_attr_order_irrelevant` (`Props/C12.lean`).
-/
namespace Glif

inductive CIt where
  | point (p : Point)
  | comment

inductive OIt where
  | contour (cid : Option Str) (its : List CIt)
  | emptyContour (a : Option (List Attr))
  | component (k : Component)
  | comment

inductive BIt where
  | advance (w h : Nat)
  | unicode (c : Nat)
  | image (i : Image)
  | outline (its : List OIt)
  | emptyOutline (a : Option (List Attr))
  | anchor (a : Anchor)
  | guideline (g : Guideline)
  | lib (d : Dict)
  | note (t : Option Str)
  | comment

def CIt.evs (f : Fmt) : CIt → List Ev
  | .point p => [pointEv f p]
  | .comment => [.comment]

def OIt.evs (f : Fmt) : OIt → List Ev
  | .contour cid its => .start sContour (some (optAttr "identifier" cid)) :: (its.flatMap (CIt.evs f) ++ [.close sContour])
  | .emptyContour a => [.empty sContour a]
  | .component k => [componentEv f k]
  | .comment => [.comment]

def BIt.evs (f : Fmt) : BIt → List Ev
  | .advance w h => [.empty sAdvance (some (advanceAttrs f w h))]
  | .unicode c => [.empty sUnicode (some [(sHex, showCodepoint c)])]
  | .image i => [imageEv f i]
  | .outline its => .start sOutline (some []) :: (its.flatMap (OIt.evs f) ++ [.close sOutline])
  | .emptyOutline a => [.empty sOutline a]
  | .anchor a => [anchorEv f a]
  | .guideline g => [guidelineEv f g]
  | .lib d => [.startLib (some []) (.dict d), .close sLib]
  | .note none => [.start sNote (some []), .close sNote]
  | .note (some t) => [.start sNote (some []), .text (some t), .close sNote]
  | .comment => [.comment]

def CIt.ids : CIt → List Str
  | .point p => p.ident.toList
  | .comment => []

def OIt.ids : OIt → List Str
  | .contour cid its => cid.toList ++ its.flatMap CIt.ids
  | .component k => k.ident.toList
  | _ => []

def BIt.ids : BIt → List Str
  | .outline its => its.flatMap OIt.ids
  | .anchor a => a.ident.toList
  | .guideline g => g.ident.toList
  | _ => []

def CIt.pts : CIt → List Point
  | .point p => [pPoint p]
  | .comment => []

def applyO (ob : OB) : OIt → OB
  | .contour cid its =>
    let pts := its.flatMap CIt.pts
    if pts.isEmpty then ob else { ob with contours := ob.contours ++ [{ points := pts, ident := cid }] }
  | .component k => { ob with components := ob.components ++ [pComponent k] }
  | _ => ob

def applyG (nc : Color → Color) (g : Glyph) : BIt → Glyph
  | .advance w h => { g with width := (if nonZero w then w else 0), height := (if nonZero h then h else 0) }
  | .unicode c => { g with codepoints := cpInsert g.codepoints c }
  | .image i => { g with image := some (pImage nc i) }
  | .outline its =>
    let ob := its.foldl applyO {}
    { g with contours := g.contours ++ ob.contours, components := g.components ++ ob.components }
  | .anchor a => { g with anchors := g.anchors ++ [pAnchor nc a] }
  | .guideline a => { g with guidelines := g.guidelines ++ [pGuideline nc a] }
  | .lib d => { g with lib := d }
  | .note (some t) => { g with note := some t }
  | _ => g

def BIt.isAdvance : BIt → Bool | .advance .. => true | _ => false
def BIt.isOutline : BIt → Bool | .outline .. => true | .emptyOutline .. => true | _ => false
def BIt.isLib : BIt → Bool | .lib .. => true | _ => false
def BIt.isNote : BIt → Bool | .note .. => true | _ => false
def BIt.isImage : BIt → Bool | .image .. => true | _ => false
/-- the items that exist in format 2 only (`anchor`, `guideline`, `image`, `note`) or end differently in format 1 (`outline`,
    `GlifGenV1.lean`); the others are read alike in both formats -/
def BIt.needsV2 : BIt → Bool | .advance .. | .unicode _ | .lib _ | .comment | .emptyOutline _ => false | _ => true

def applyB (nc : Color → Color) (s : PS) (it : BIt) : PS :=
  { s with
    seen := pushIds s.seen it.ids
    seenAdvance := s.seenAdvance || it.isAdvance
    seenOutline := s.seenOutline || it.isOutline
    seenLib := s.seenLib || it.isLib
    g := applyG nc s.g it }

section
variable {f : Fmt} {rd : Str → Option Nat} {nc : Color → Color} {ok : Nat → Prop}

def CIt.OK (ok : Nat → Prop) : CIt → Prop
  | .point p => PointOK ok p
  | .comment => True

def OIt.OK (ok : Nat → Prop) : OIt → Prop
  | .contour cid its => (∀ it, it ∈ its → it.OK ok) ∧ C11.accepts ((its.flatMap CIt.pts).map toPt) = true ∧
      (∀ i, cid = some i → validIdent i = true)
  | .component k => ComponentOK ok k
  | _ => True

def BIt.OK (ok : Nat → Prop) : BIt → Prop
  | .advance w h => ok w ∧ ok h
  | .unicode c => ValidCodepoint c
  | .image i => ValidImage ok i
  | .outline its => ∀ it, it ∈ its → it.OK ok
  | .anchor a => AnchorOK ok a
  | .guideline g => GuidelineOK ok g
  | _ => True

/-- format 1 has no identifiers; the two inner levels of the runs below serve both formats (`GlifGenV1.lean`) -/
def IdsAllowed (s : PS) (ids : List Str) : Prop := s.ver = 2 ∨ ids = []

theorem identReadable_of {s : PS} {o : Option Str} (hv : IdsAllowed s o.toList)
    (hok : ∀ i, o = some i → validIdent i = true) (hf : ∀ i, i ∈ o.toList → i ∉ s.seen) : IdentReadable s.ver s.seen o := by
  rcases hv with hv | hv
  · exact hv ▸ identReadable_v2 fun i h => ⟨hf i (by rw [h]; exact List.mem_singleton_self i), hok i h⟩
  · intro i h; rw [h] at hv; cases hv

theorem IdsAllowed.left {s : PS} {a b : List Str} (h : IdsAllowed s (a ++ b)) : IdsAllowed s a :=
  h.imp_right fun h => (List.append_eq_nil_iff.1 h).1
theorem IdsAllowed.right {s : PS} {a b : List Str} (h : IdsAllowed s (a ++ b)) : IdsAllowed s b :=
  h.imp_right fun h => (List.append_eq_nil_iff.1 h).2

inductive Itemwise {α : Type} (R : α → List Ev → Prop) : List α → List Ev → Prop
  | nil : Itemwise R [] []
  | cons {a : α} {e : List Ev} {l : List α} {es : List Ev} : R a e → Itemwise R l es → Itemwise R (a :: l) (e ++ es)

theorem Itemwise.append {α : Type} {R : α → List Ev → Prop} {l₁ l₂ : List α} {e₁ e₂ : List Ev} (h₁ : Itemwise R l₁ e₁)
    (h₂ : Itemwise R l₂ e₂) : Itemwise R (l₁ ++ l₂) (e₁ ++ e₂) := by
  induction h₁ with
  | nil => exact h₂
  | cons h _ ih => rw [List.cons_append, List.append_assoc]; exact .cons h ih

theorem Itemwise.one {α : Type} {R : α → List Ev → Prop} {a : α} {e : List Ev} (h : R a e) : Itemwise R [a] e :=
  List.append_nil e ▸ .cons h .nil

theorem Itemwise.map {α β : Type} {R : α → List Ev → Prop} (v : β → α) (w : β → List Ev) :
    ∀ l : List β, (∀ x, x ∈ l → R (v x) (w x)) → Itemwise R (l.map v) (l.flatMap w)
  | [], _ => .nil
  | x :: r, h => .cons (h x List.mem_cons_self) (Itemwise.map v w r fun y hy => h y (List.mem_cons_of_mem _ hy))

theorem Itemwise.flatMap {α : Type} {R : α → List Ev → Prop} (w : α → List Ev) (l : List α) (h : ∀ x, x ∈ l → R x (w x)) :
    Itemwise R l (l.flatMap w) := by
  simpa only [List.map_id] using Itemwise.map id w l h

def CIt.ReadAs (rd : Str → Option Nat) (it : CIt) (evs : List Ev) : Prop :=
  ∀ (s : PS) (ob : OB) (cid : Option Str) (pts : List Point), s.mode = .contour ob cid pts → IdsAllowed s it.ids →
    (∀ i, i ∈ it.ids → i ∉ s.seen) →
    Reach rd s evs
      { s with
        seen := pushIds s.seen it.ids
        mode := .contour ob cid (pts ++ it.pts) }

def OIt.ReadAs (rd : Str → Option Nat) (it : OIt) (evs : List Ev) : Prop :=
  ∀ (s : PS) (ob : OB), s.mode = .outline ob → IdsAllowed s it.ids → it.ids.Nodup → (∀ i, i ∈ it.ids → i ∉ s.seen) →
    Reach rd s evs
      { s with
        seen := pushIds s.seen it.ids
        mode := .outline (applyO ob it) }

structure BIt.MayCome (it : BIt) (s : PS) : Prop where
  mode : s.mode = .body
  ver : it.needsV2 = true → s.ver = 2
  nodup : it.ids.Nodup
  fresh : ∀ i, i ∈ it.ids → i ∉ s.seen
  advance : it.isAdvance = true → s.seenAdvance = false
  outline : it.isOutline = true → s.seenOutline = false
  lib : it.isLib = true → s.seenLib = false
  note : it.isNote = true → s.g.note.isSome = false
  image : it.isImage = true → s.g.image.isSome = false

def BIt.ReadAs (rd : Str → Option Nat) (nc : Color → Color) (it : BIt) (evs : List Ev) : Prop :=
  ∀ s : PS, it.MayCome s → Reach rd s evs (applyB nc s it)

theorem reach_cits {its : List CIt} {evs : List Ev} (h : Itemwise (CIt.ReadAs rd) its evs) :
    ∀ (s : PS) (ob : OB) (cid : Option Str) (pts : List Point), s.mode = .contour ob cid pts →
    IdsAllowed s (its.flatMap CIt.ids) → (its.flatMap CIt.ids).Nodup → (∀ i, i ∈ its.flatMap CIt.ids → i ∉ s.seen) →
    Reach rd s evs
      { s with
        seen := pushIds s.seen (its.flatMap CIt.ids)
        mode := .contour ob cid (pts ++ its.flatMap CIt.pts) } := by
  induction h with
  | nil =>
    intro s ob cid pts hm _ _ _
    exact (Reach.nil s).cast (by simp only [List.flatMap_nil, pushIds_nil, List.append_nil, ← hm])
  | @cons it e r es hit _ ih =>
    intro s ob cid pts hm hv hnd hfr
    rw [List.flatMap_cons] at hnd hfr hv
    obtain ⟨-, f2, f3, f4⟩ := fresh_append hnd hfr
    refine (Reach.append (hit s ob cid pts hm hv.left f2)
      (ih _ ob cid _ rfl hv.right f3 f4)).cast ?_
    simp only [List.flatMap_cons, pushIds_append, List.append_assoc]

theorem reach_oits {its : List OIt} {evs : List Ev} (h : Itemwise (OIt.ReadAs rd) its evs) :
    ∀ (s : PS) (ob : OB), s.mode = .outline ob → IdsAllowed s (its.flatMap OIt.ids) →
    (its.flatMap OIt.ids).Nodup → (∀ i, i ∈ its.flatMap OIt.ids → i ∉ s.seen) →
    Reach rd s evs
      { s with
        seen := pushIds s.seen (its.flatMap OIt.ids)
        mode := .outline (its.foldl applyO ob) } := by
  induction h with
  | nil =>
    intro s ob hm _ _ _
    exact (Reach.nil s).cast (by simp only [List.flatMap_nil, pushIds_nil, List.foldl_nil, ← hm])
  | @cons it e r es hit _ ih =>
    intro s ob hm hv hnd hfr
    rw [List.flatMap_cons] at hnd hfr hv
    obtain ⟨f1, f2, f3, f4⟩ := fresh_append hnd hfr
    refine (Reach.append (hit s ob hm hv.left f1 f2)
      (ih _ (applyO ob it) rfl hv.right f3 f4)).cast ?_
    simp only [List.flatMap_cons, pushIds_append, List.foldl_cons]

/-- `b.toNat + l.countP p ≤ 1`: an element that may occur once, `b` saying whether it has -/
theorem once_cons {α : Type} {p : α → Bool} {b : Bool} {a : α} {r : List α} (h : b.toNat + (a :: r).countP p ≤ 1) :
    (p a = true → b = false) ∧ (b || p a).toNat + r.countP p ≤ 1 := by
  rw [List.countP_cons] at h
  cases hp : p a with
  | false =>
    rw [hp] at h
    exact ⟨fun h' => (nomatch h'), by rw [Bool.or_false]; exact h⟩
  | true =>
    rw [hp, if_pos rfl] at h
    cases b with
    | false => exact ⟨fun _ => rfl, by rw [Bool.or_true, Bool.toNat_true]; omega⟩
    | true => rw [Bool.toNat_true] at h; omega

theorem once_mono {b b' : Bool} {n : Nat} (hb : b' = true → b = true) (h : b.toNat + n ≤ 1) : b'.toNat + n ≤ 1 := by
  cases b' with
  | false => rw [Bool.toNat_false]; omega
  | true => rw [hb rfl] at h; exact h

theorem applyG_note {nc : Color → Color} {g : Glyph} {it : BIt} (h : (applyG nc g it).note.isSome = true) :
    (g.note.isSome || it.isNote) = true := by
  cases it with
  | note t => exact Bool.or_true _
  | _ => simpa [applyG, BIt.isNote] using h

theorem applyG_image {nc : Color → Color} {g : Glyph} {it : BIt} (h : (applyG nc g it).image.isSome = true) :
    (g.image.isSome || it.isImage) = true := by
  cases it with
  | image i => exact Bool.or_true _
  | note t => cases t <;> simpa [applyG, BIt.isImage] using h
  | _ => simpa [applyG, BIt.isImage] using h

theorem reach_bits {items : List BIt} {evs : List Ev} (h : Itemwise (BIt.ReadAs rd nc) items evs) :
    ∀ s : PS, s.mode = .body → s.ver = 2 →
    (items.flatMap BIt.ids).Nodup → (∀ i, i ∈ items.flatMap BIt.ids → i ∉ s.seen) →
    s.seenAdvance.toNat + items.countP BIt.isAdvance ≤ 1 → s.seenOutline.toNat + items.countP BIt.isOutline ≤ 1 →
    s.seenLib.toNat + items.countP BIt.isLib ≤ 1 → s.g.note.isSome.toNat + items.countP BIt.isNote ≤ 1 →
    s.g.image.isSome.toNat + items.countP BIt.isImage ≤ 1 →
    Reach rd s evs (items.foldl (applyB nc) s) := by
  induction h with
  | nil => intros; exact Reach.nil _
  | @cons it e r es hit _ ih =>
    intro s hm hv hnd hfr ha ho hl hn hi
    rw [List.flatMap_cons] at hnd hfr
    obtain ⟨f1, f2, f3, f4⟩ := fresh_append hnd hfr
    obtain ⟨a1, a2⟩ := once_cons ha
    obtain ⟨o1, o2⟩ := once_cons ho
    obtain ⟨l1, l2⟩ := once_cons hl
    obtain ⟨n1, n2⟩ := once_cons hn
    obtain ⟨i1, i2⟩ := once_cons hi
    rw [List.foldl_cons]
    -- `hm`, `hv` serve for `applyB nc s it` as well: `applyB` leaves mode and version alone by definition
    exact Reach.append (hit s ⟨hm, fun _ => hv, f1, f2, a1, o1, l1, n1, i1⟩)
      (ih (applyB nc s it) hm hv f3 f4 a2 o2 l2 (once_mono applyG_note n2) (once_mono applyG_image i2))

theorem applyB_eq (nc : Color → Color) (s : PS) (it : BIt) (ha : it.isAdvance = false) (ho : it.isOutline = false)
    (hl : it.isLib = false) : applyB nc s it = { s with seen := pushIds s.seen it.ids, g := applyG nc s.g it } := by
  simp only [applyB, ha, ho, hl, Bool.or_false]

theorem readAs_advance {w h : Nat} {as : List Attr}
    (hp : parseAdvance rd as = some (if nonZero w then w else 0, if nonZero h then h else 0)) :
    BIt.ReadAs rd nc (.advance w h) [.empty sAdvance (some as)] := fun s h =>
  (Reach.one (step_advance h.mode (h.advance rfl) hp)).cast (by simp only [applyB, applyG, BIt.ids, BIt.isAdvance, BIt.isOutline, BIt.isLib,
    pushIds_nil, Bool.or_false, Bool.or_true])

theorem readAs_unicode {c : Nat} {as : List Attr} (hp : ∀ cps, parseUnicode cps as = some (cpInsert cps c)) :
    BIt.ReadAs rd nc (.unicode c) [.empty sUnicode (some as)] := fun s h =>
  (Reach.one (by rw [step_empty h.mode, bodyEmpty_unicode, elemArm_some (hp _)]; rfl)).cast (applyB_eq nc s (.unicode c) rfl rfl rfl).symm

theorem readAs_image {i : Image} {as : List Attr} (hp : parseImage rd as = some (pImage nc i)) :
    BIt.ReadAs rd nc (.image i) [.empty sImage (some as)] := fun s h =>
  (Reach.one (step_image h.mode (h.ver rfl) (h.image rfl) hp)).cast (applyB_eq nc s (.image i) rfl rfl rfl).symm

theorem readAs_anchor {a : Anchor} {as : List Attr} (hid : ∀ i, a.ident = some i → validIdent i = true)
    (hp : ∀ seen, FreshId seen a.ident → parseAnchor rd 2 seen as = some (pAnchor nc a)) :
    BIt.ReadAs rd nc (.anchor a) [.empty sAnchor (some as)] := fun s h =>
  (Reach.one (step_anchor h.mode (h.ver rfl) (hp s.seen fun i hi => ⟨h.fresh i (by simp [BIt.ids, hi]), hid i hi⟩))).cast
    (applyB_eq nc s (.anchor a) rfl rfl rfl).symm

theorem readAs_guideline {a : Guideline} {as : List Attr} (hid : ∀ i, a.ident = some i → validIdent i = true)
    (hp : ∀ seen, FreshId seen a.ident → parseGuideline rd 2 seen as = some (pGuideline nc a)) :
    BIt.ReadAs rd nc (.guideline a) [.empty sGuideline (some as)] := fun s h =>
  (Reach.one (step_guideline h.mode (h.ver rfl) (hp s.seen fun i hi => ⟨h.fresh i (by simp [BIt.ids, hi]), hid i hi⟩))).cast
    (applyB_eq nc s (.guideline a) rfl rfl rfl).symm

theorem readAs_lib (d : Dict) : BIt.ReadAs rd nc (.lib d) [.startLib (some []) (.dict d), .close sLib] :=
  fun s h => (reach_lib h.mode (h.lib rfl) d).cast (by
    simp only [applyB, applyG, BIt.ids, BIt.isAdvance, BIt.isOutline, BIt.isLib, pushIds_nil, Bool.or_false, Bool.or_true])

theorem readAs_note (t : Option Str) : BIt.ReadAs rd nc (.note t)
    (.start sNote (some []) :: ((match t with | none => [] | some t => [.text (some t)]) ++ [.close sNote])) := by
  intro s h
  have hm := h.mode
  have h1 : step rd s (.start sNote (some [])) = .ok (.inl { s with mode := .note }) := by
    rw [step_start hm, bodyStart_note, h.ver rfl, if_neg (by decide), h.note rfl, if_neg Bool.false_ne_true]; rfl
  cases t with
  | none =>
    exact (Reach.cons h1 (Reach.one (step_close_note rfl))).cast ((applyB_eq nc s (.note none) rfl rfl rfl).trans (by rw [← hm]; rfl)).symm
  | some t =>
    exact (Reach.cons h1 (Reach.cons (step_text rfl t) (Reach.one (step_close_note rfl)))).cast
      ((applyB_eq nc s (.note (some t)) rfl rfl rfl).trans (by rw [← hm]; rfl)).symm

theorem readAs_comment : BIt.ReadAs rd nc .comment [.comment] := fun s _ =>
  (Reach.one (step_comment s)).cast (applyB_eq nc s .comment rfl rfl rfl).symm

theorem readAs_emptyOutline (a : Option (List Attr)) : BIt.ReadAs rd nc (.emptyOutline a) [.empty sOutline a] :=
  fun s h => (Reach.one (by rw [step_empty h.mode, bodyEmpty_outline, h.outline rfl, if_neg Bool.false_ne_true]; rfl)).cast (by
    simp only [applyB, applyG, BIt.ids, BIt.isAdvance, BIt.isOutline, BIt.isLib, pushIds_nil, Bool.or_false, Bool.or_true])

theorem readAs_outline {its : List OIt} {evs : List Ev} (h : Itemwise (OIt.ReadAs rd) its evs) :
    BIt.ReadAs rd nc (.outline its) (.start sOutline (some []) :: (evs ++ [.close sOutline])) := by
  intro s hs
  have hm := hs.mode
  have hv := hs.ver rfl
  have h1 : step rd s (.start sOutline (some [])) = .ok (.inl { s with seenOutline := true, mode := .outline {} }) := by
    rw [step_start_outline hm, hs.outline rfl, if_neg Bool.false_ne_true]; rfl
  have h2 := reach_oits h { s with seenOutline := true, mode := .outline {} } {} rfl (.inl hv) hs.nodup hs.fresh
  refine (Reach.cons h1 (Reach.append h2 (Reach.one (step_close_outline rfl)))).cast ?_
  -- `finishOutline` in format 2 appends the contours and components of the outline, which is `applyG` at `.outline`
  simp only [applyB, applyG, BIt.ids, BIt.isAdvance, BIt.isOutline, BIt.isLib, Bool.or_false, Bool.or_true, finishOutline, hv,
    if_neg (show ¬(2 : Nat) = 1 by decide), hm]

theorem readAs_component {k : Component} {as : List Attr} (hid : ∀ i, k.ident = some i → validIdent i = true)
    (hp : ∀ ver seen, IdentReadable ver seen k.ident → parseComponent rd ver seen as = some (pComponent k)) :
    OIt.ReadAs rd (.component k) [.empty sComponent (some as)] := fun _ _ hm hv _ hfr =>
  Reach.one (step_component hm (hp _ _ (identReadable_of hv hid hfr)))

theorem readAs_ocomment : OIt.ReadAs rd .comment [.comment] := fun s _ hm _ _ _ =>
  (Reach.one (step_comment s)).cast (by simp only [OIt.ids, applyO, pushIds_nil, ← hm])

theorem readAs_emptyContour (a : Option (List Attr)) : OIt.ReadAs rd (.emptyContour a) [.empty sContour a] :=
  fun s _ hm _ _ _ => (Reach.one (step_empty_contour hm a)).cast (by simp only [OIt.ids, applyO, pushIds_nil, ← hm])

theorem readAs_point {p : Point} {as : List Attr} (hid : ∀ i, p.ident = some i → validIdent i = true)
    (hp : ∀ ver seen, IdentReadable ver seen p.ident → parsePoint rd ver seen as = some (pPoint p)) :
    CIt.ReadAs rd (.point p) [.empty sPoint (some as)] := fun _ _ _ _ hm hv hfr =>
  Reach.one (step_point hm (hp _ _ (identReadable_of hv hid hfr)))

theorem readAs_ccomment : CIt.ReadAs rd .comment [.comment] := fun s _ _ _ hm _ _ =>
  (Reach.one (step_comment s)).cast (by simp only [CIt.ids, CIt.pts, pushIds_nil, List.append_nil, ← hm])

theorem readAs_contour {cid : Option Str} {its : List CIt} {as : List Attr} {evs : List Ev}
    (hid : ∀ i, cid = some i → validIdent i = true)
    (ha : ∀ ver seen, IdentReadable ver seen cid → parseContourAttrs ver seen as = some cid) (hpts : Itemwise (CIt.ReadAs rd) its evs)
    (hacc : C11.accepts ((its.flatMap CIt.pts).map toPt) = true) :
    OIt.ReadAs rd (.contour cid its) (.start sContour (some as) :: (evs ++ [.close sContour])) := by
  intro s ob hm hv hnd hfr
  simp only [OIt.ids] at hnd hfr hv
  obtain ⟨-, f2, f3, f4⟩ := fresh_append hnd hfr
  have h1 : step rd s (.start sContour (some as)) = .ok (.inl
      { s with
        seen := pushIds s.seen cid.toList
        mode := .contour ob cid [] }) := by
    rw [step_start_contour hm, elemArm_some (ha _ _ (identReadable_of hv.left hid f2)), addSeen_eq]
  have h2 := reach_cits hpts { s with
        seen := pushIds s.seen cid.toList
        mode := .contour ob cid [] } ob cid [] rfl hv.right f3 f4
  have h3 : step rd { s with
        seen := pushIds (pushIds s.seen cid.toList) (its.flatMap CIt.ids)
        mode := .contour ob cid ([] ++ its.flatMap CIt.pts) } (.close sContour) = .ok (.inl
      { s with
        seen := pushIds (pushIds s.seen cid.toList) (its.flatMap CIt.ids)
        mode := .outline (applyO ob (.contour cid its)) }) := by
    rw [step_close_contour rfl, List.nil_append, if_pos hacc]; rfl
  refine (Reach.cons h1 (Reach.append h2 (Reach.one h3))).cast ?_
  simp only [OIt.ids, pushIds_append]

theorem reach_cit (hc : Codec f rd nc ok) : ∀ it : CIt, it.OK ok → CIt.ReadAs rd it (it.evs f)
  | .comment, _ => readAs_ccomment
  | .point p, hok =>
    have hp : PointOK ok p := hok
    readAs_point hp.ident fun _ _ hid => point_fold hc hp.x hp.y hp.name hid

theorem reach_oit (hc : Codec f rd nc ok) : ∀ it : OIt, it.OK ok → OIt.ReadAs rd it (it.evs f)
  | .comment, _ => readAs_ocomment
  | .emptyContour a, _ => readAs_emptyContour a
  | .component k, hok =>
    have hk : ComponentOK ok k := hok
    readAs_component hk.ident fun _ _ hid => component_fold hc hk.base hk.transform hid
  | .contour cid its, hok =>
    have ⟨hits, hacc, hcid⟩ : (∀ it, it ∈ its → it.OK ok) ∧ C11.accepts ((its.flatMap CIt.pts).map toPt) = true ∧
      (∀ i, cid = some i → validIdent i = true) := hok
    readAs_contour hcid (fun _ _ hid => contourAttrs_fold hid) (.flatMap _ its fun it hit => reach_cit hc it (hits it hit)) hacc

theorem reach_bit (hc : Codec f rd nc ok) : ∀ it : BIt, it.OK ok → BIt.ReadAs rd nc it (it.evs f)
  | .advance w h, hok => readAs_advance (advance_roundtrip hc (hok : ok w ∧ ok h).1 (hok : ok w ∧ ok h).2)
  | .unicode c, hok => readAs_unicode fun _ => unicode_roundtrip (hok : ValidCodepoint c)
  | .image i, hok => readAs_image (image_roundtrip hc (hok : ValidImage ok i))
  | .outline its, hok => readAs_outline (.flatMap _ its fun it hit => reach_oit hc it ((hok : ∀ it, it ∈ its → it.OK ok) it hit))
  | .emptyOutline a, _ => readAs_emptyOutline a
  | .anchor a, hok =>
    have ha : AnchorOK ok a := hok
    readAs_anchor ha.ident fun _ hi => anchor_roundtrip hc ⟨ha.x, ha.y, ha.name, hi⟩
  | .guideline a, hok =>
    have ha : GuidelineOK ok a := hok
    readAs_guideline ha.ident fun _ hi => guideline_roundtrip hc ⟨ha.line, ha.name, hi⟩
  | .lib d, _ => readAs_lib d
  | .note none, _ => readAs_note none
  | .note (some t), _ => readAs_note (some t)
  | .comment, _ => readAs_comment

structure GDoc where
  prolog : List Ev
  name : Str
  /-- `formatMinor="0"` written or not -/
  minor : Bool
  items : List BIt
  /-- whatever follows `</glyph>` -/
  trailer : List Ev

def isProlog : Ev → Bool
  | .decl => true
  | .comment => true
  | _ => false

def glyphStartAttrs (d : GDoc) : List Attr :=
  [("name".toList, d.name), ("format".toList, ['2'])] ++ (if d.minor then [("formatMinor".toList, ['0'])] else [])

def render (f : Fmt) (d : GDoc) : List Ev :=
  d.prolog ++ (.start sGlyph (some (glyphStartAttrs d)) :: (d.items.flatMap (BIt.evs f) ++ (.close sGlyph :: d.trailer)))

/-- the glyph the document describes, before the object libs are moved -/
def interp (nc : Color → Color) (d : GDoc) : Glyph :=
  (d.items.foldl (applyB nc) { g := { name := d.name }, ver := 2 }).g

theorem scanStart_prolog : ∀ (pro : List Ev) (l : List Ev), (∀ e, e ∈ pro → isProlog e = true) →
    scanStart (pro ++ l) = scanStart l := by
  intro pro
  induction pro with
  | nil => intro l _; rfl
  | cons e r ih =>
    intro l h
    have he := h e List.mem_cons_self
    have hr := ih l (fun x hx => h x (List.mem_cons_of_mem _ hx))
    cases e <;> simp [isProlog] at he <;> simpa [scanStart] using hr

theorem foldl_applyB_g (nc : Color → Color) : ∀ (items : List BIt) (s : PS),
    (items.foldl (applyB nc) s).g = items.foldl (applyG nc) s.g
  | [], _ => rfl
  | it :: r, s => foldl_applyB_g nc r (applyB nc s it)

theorem parse_of_reach {pro body trailer : List Ev} {attrs : List Attr} {name : Str} {ver : Nat} {s' : PS}
    (hp : ∀ e, e ∈ pro → isProlog e = true) (hs : parseGlyphAttrs (some attrs) = .ok (name, ver))
    (hr : Reach rd { g := { name := name }, ver := ver } body s') (hm : s'.mode = .body) :
    parseGlif rd (pro ++ (.start sGlyph (some attrs) :: (body ++ (.close sGlyph :: trailer)))) = loadObjectLibs s'.g := by
  rw [parseGlif, scanStart_prolog _ _ hp]
  simp only [scanStart, if_true, hs]
  rw [run_of_reach rd hr]
  rw [run, step_close_glyph hm]
  cases loadObjectLibs s'.g <;> rfl

/-- Despite the name: the parser gets to `</glyph>` with what the items lead to and returns `load_object_libs` of it, no
    error if `public.objectLibs`, if present, is a dictionary of dictionaries (`loadObjectLibs_ok`) -/
theorem accepted_itemwise {pro body trailer : List Ev} {attrs : List Attr} {name : Str} {items : List BIt}
    (hp : ∀ e, e ∈ pro → isProlog e = true) (hs : parseGlyphAttrs (some attrs) = .ok (name, 2))
    (hb : Itemwise (BIt.ReadAs rd nc) items body) (hids : (items.flatMap BIt.ids).Nodup)
    (h1 : items.countP BIt.isAdvance ≤ 1) (h2 : items.countP BIt.isOutline ≤ 1) (h3 : items.countP BIt.isLib ≤ 1)
    (h4 : items.countP BIt.isNote ≤ 1) (h5 : items.countP BIt.isImage ≤ 1) :
    parseGlif rd (pro ++ (.start sGlyph (some attrs) :: (body ++ (.close sGlyph :: trailer)))) =
      loadObjectLibs (items.foldl (applyB nc) { g := { name := name }, ver := 2 }).g :=
  parse_of_reach hp hs
    (reach_bits hb _ rfl rfl hids (fun _ _ => List.not_mem_nil) (by simpa using h1) (by simpa using h2) (by simpa using h3)
      (by simpa using h4) (by simpa using h5))
    (foldl_keeps (F := applyB nc) (π := PS.mode) (l := items) (fun _ _ _ => rfl) _)

structure LegalItems (ok : Nat → Prop) (items : List BIt) : Prop where
  valid : ∀ it, it ∈ items → it.OK ok
  ids : (items.flatMap BIt.ids).Nodup
  advance : items.countP BIt.isAdvance ≤ 1
  outline : items.countP BIt.isOutline ≤ 1
  lib : items.countP BIt.isLib ≤ 1
  note : items.countP BIt.isNote ≤ 1
  image : items.countP BIt.isImage ≤ 1

/-- format 2, any element order, comments anywhere: the grammar's rendering of a document whose items obey the rules -/
theorem legal_accepted_gdoc (hc : Codec f rd nc ok) (d : GDoc) (hp : ∀ e, e ∈ d.prolog → isProlog e = true)
    (hn : validName d.name = true) (hL : LegalItems ok d.items) :
    parseGlif rd (render f d) = loadObjectLibs (interp nc d) :=
  accepted_itemwise hp (glyphStart_fold hn (show parseU32 10 ['2'] = some 2 by decide) d.minor)
    (.flatMap _ d.items fun it hit => reach_bit hc it (hL.valid it hit)) hL.ids hL.advance hL.outline hL.lib hL.note hL.image

end

end Glif
