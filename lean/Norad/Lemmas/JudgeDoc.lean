import Norad.Lemmas.JudgeBody
import Norad.Lemmas.GlifGen
/-!
# Whole documents

`Spec.judge rd d = ([], false)` is unpacked into `JudgeClean`, and back; a clean prefix extended by an item that fits it is
clean (`JudgeClean.snoc`).  The `glyph` start tag in both directions: clean attributes are read, every rule `glyphAttrCheck`
reports and the rule `version` make the parser stop there.  A clean shaped document is read to the end
(`judge_clean_accepted`); a clean prefix brings the parser to the state `CleanState` describes, from where a `BodyBad` item
is refused (`judge_bad_item_rejected`).  `first_failure` is the generic "shortest failing prefix" argument.
-/
namespace Glif
open Spec

structure JudgeClean (rd : Str → Option Nat) (d : Doc) (ver : Nat) : Prop where
  version : (docVersion d).1 = some ver
  glyph : glyphAttrCheck d = []
  items : ∀ it, it ∈ d.items → itemCheck rd ver it = ([], false)
  once : ∀ n, n ∈ onceOnly → countName d n.toList ≤ 1
  idents : (docIdents d).Nodup
  objlibs : objectLibsCheck d = []
  trailer : d.trailer = []

theorem judge_clean {rd : Str → Option Nat} {d : Doc} (h : judge rd d = ([], false)) : ∃ ver, JudgeClean rd d ver := by
  unfold judge at h
  cases hv : docVersion d with
  | mk ver? verOdd =>
    simp only [hv] at h
    cases ver? with
    | none =>
      simp only [Prod.mk.injEq] at h
      have := dedup_nil h.1
      simp only [List.append_eq_nil_iff] at this
      rw [h.2] at this
      simp at this
    | some ver =>
      simp only [Prod.mk.injEq, Bool.or_eq_false_iff] at h
      obtain ⟨h1, h2, h3⟩ := h
      have hl := dedup_nil h1
      simp only [List.append_eq_nil_iff] at hl
      obtain ⟨⟨⟨⟨hg, hper⟩, hdups⟩, hids⟩, hol⟩ := hl
      refine ⟨ver, by simp [hv], hg, ?_, ?_, ?_, hol, by simpa using h3⟩
      · exact fun it hit => (merge_clean_iff (rs := d.items.map (itemCheck rd ver))).1 (Prod.ext hper h2) _
          (List.mem_map.2 ⟨it, hit, rfl⟩)
      · intro n hn
        have := List.filterMap_eq_nil_iff.1 hdups n hn
        by_cases hc : countName d n.toList > 1
        · simp [hc] at this
        · omega
      · apply hasDup_eq_false_iff.1
        by_cases hd : hasDup (docIdents d) = true
        · simp [hd] at hids
        · simpa using hd

section
variable {rd : Str → Option Nat}

theorem judge_eq {d : Doc} {ver : Nat} (hver : (docVersion d).1 = some ver) :
    judge rd d =
      (dedup (glyphAttrCheck d ++ (merge (d.items.map (itemCheck rd ver))).1 ++
          (onceOnly.filterMap fun n => if countName d n.toList > 1 then some ("dup-" ++ n) else none) ++
          (if hasDup (docIdents d) then ["ident-dup"] else []) ++ objectLibsCheck d),
        (merge (d.items.map (itemCheck rd ver))).2 || !d.trailer.isEmpty) := by
  have hv : docVersion d = (some ver, (docVersion d).2) := Prod.ext hver rfl
  unfold judge
  rw [hv]

theorem judge_item_rule {d : Doc} {ver : Nat} (hver : (docVersion d).1 = some ver) {it : Item} (hit : it ∈ d.items) {r : String}
    (hr : r ∈ (itemCheck rd ver it).1) : r ∈ (judge rd d).1 := by
  rw [judge_eq hver]
  exact mem_dedup (by
    simp only [List.mem_append]
    exact .inl (.inl (.inl (.inr (mem_merge_iff.2 ⟨_, List.mem_map.2 ⟨it, hit, rfl⟩, hr⟩)))))

theorem judge_dup_rule {d : Doc} {ver : Nat} (hver : (docVersion d).1 = some ver) {n : String} (hn : n ∈ onceOnly)
    (hc : countName d n.toList > 1) : "dup-" ++ n ∈ (judge rd d).1 := by
  rw [judge_eq hver]
  exact mem_dedup (by
    simp only [List.mem_append, List.mem_filterMap]
    exact .inl (.inl (.inr ⟨n, hn, if_pos hc⟩)))

theorem judge_objlib_rule {d : Doc} {ver : Nat} (hver : (docVersion d).1 = some ver) {r : String}
    (hr : r ∈ objectLibsCheck d) : r ∈ (judge rd d).1 := by
  rw [judge_eq hver]
  exact mem_dedup (by simp only [List.mem_append]; exact .inr hr)

theorem judge_of_clean {d : Doc} {ver : Nat} (h : JudgeClean rd d ver) : judge rd d = ([], false) := by
  have hper : merge (d.items.map (itemCheck rd ver)) = ([], false) := merge_clean_iff.2 fun r hr => by
    obtain ⟨it, hit, rfl⟩ := List.mem_map.1 hr
    exact h.items it hit
  have hdups : (onceOnly.filterMap fun n => if countName d n.toList > 1 then some ("dup-" ++ n) else none) = [] :=
    List.filterMap_eq_nil_iff.2 fun n hn => if_neg (Nat.not_lt.2 (h.once n hn))
  rw [judge_eq h.version, hper, hdups, h.glyph, hasDup_eq_false_iff.2 h.idents, h.objlibs, h.trailer]
  rfl

theorem JudgeClean.snoc {d : Doc} {ver : Nat} {pre : List Item} {it : Item} (hc : JudgeClean rd { d with items := pre } ver)
    (hf : ItemFits rd ver pre it) (hnote : itemName it = some sNote → cnt pre sNote = 0)
    (hobj : objectLibsCheck { d with items := [it] } = []) : JudgeClean rd { d with items := pre ++ [it] } ver := by
  refine ⟨hc.version, hc.glyph, fun x hx => ?_, fun n hn => ?_, ?_, ?_, hc.trailer⟩
  · rcases List.mem_append.1 hx with h | h
    · exact hc.items x h
    · rw [List.mem_singleton.1 h]; exact hf.clean
  · show cnt (pre ++ [it]) n.toList ≤ 1
    rw [cnt_append, cnt_cons]
    have h1 : cnt pre n.toList ≤ 1 := hc.once n hn
    split
    · rename_i hname
      simp only [onceOnly, List.mem_cons, List.not_mem_nil, or_false] at hn
      have : cnt pre n.toList = 0 := by
        rcases hn with rfl | rfl | rfl | rfl | rfl
        · exact hf.once _ (.inl rfl) hname
        · exact hf.once _ (.inr (.inl rfl)) hname
        · exact hf.once _ (.inr (.inr (.inl rfl))) hname
        · exact hnote hname
        · exact hf.once _ (.inr (.inr (.inr rfl))) hname
      rw [this]; exact Nat.le_refl 1
    · exact h1
  · show ((pre ++ [it]).flatMap itemIdents).Nodup
    rw [List.flatMap_append, List.flatMap_singleton]
    exact List.nodup_append.2 ⟨hc.idents, hf.nodup, fun a ha b hb hab => hf.fresh b hb (hab ▸ ha)⟩
  · show (pre ++ [it]).flatMap _ = []
    rw [List.flatMap_append]
    exact List.append_eq_nil_iff.2 ⟨hc.objlibs, hobj⟩

end

section
variable {rd : Str → Option Nat}

theorem glyph_start_clean {d : Doc} {ver : Nat} (hj : JudgeClean rd d ver) {as : List Attr} (has : d.gattrs = some as)
    (hnd : (as.map (·.1)).Nodup) :
    (ver = 1 ∨ ver = 2) ∧ ∃ name, parseGlyphAttrs (some as) = .ok (name, ver) := by
  have hver := hj.version
  unfold docVersion at hver
  simp only [has] at hver
  have hfmt : (ver = 1 ∨ ver = 2) ∧ (∃ f, Spec.get as "format" = some f ∧ parseU32 10 f = some ver) ∧
      (∀ m, Spec.get as "formatMinor" = some m → m = ['0']) := by
    have hguard : ∀ {c : Bool} {n : Nat} {b : Bool},
        ((if c = true then some n else none : Option Nat), b).1 = some ver → c = true ∧ n = ver := by
      intro c n b h
      cases c <;> simp at h
      exact ⟨rfl, h⟩
    split at hver
    · rename_i h1
      obtain ⟨hc, rfl⟩ := hguard hver
      exact ⟨.inl rfl, ⟨_, h1, by decide⟩, fun m hm => by simpa [hm] using hc⟩
    · rename_i h2
      obtain ⟨hc, rfl⟩ := hguard hver
      exact ⟨.inr rfl, ⟨_, h2, by decide⟩, fun m hm => by simpa [hm] using hc⟩
    · simp at hver
    · simp at hver
  obtain ⟨hv12, ⟨f, hformat, hfv⟩, hminor⟩ := hfmt
  have hg := hj.glyph
  unfold glyphAttrCheck at hg
  simp only [has, List.append_eq_nil_iff] at hg
  obtain ⟨hname, hset⟩ := hg
  have hn : ∃ n, Spec.get as "name" = some n ∧ validName n = true := by
    cases hgn : Spec.get as "name" with
    | none => simp [hgn] at hname
    | some n =>
      by_cases hok : nameOk n = true
      · exact ⟨n, rfl, nameOk_eq_validName n ▸ hok⟩
      · simp [hgn, hok] at hname
  obtain ⟨n, hgn, hvn⟩ := hn
  have hall : ∀ a, a ∈ as → a.1 = "name".toList ∨ a.1 = "format".toList ∨ a.1 = "formatMinor".toList := by
    split at hset
    · rename_i hc
      exact fun a ha => of_decide_eq_true (List.all_eq_true.1 hc a ha)
    · cases hset
  -- no attribute stops the loop, and what it collects is what `Spec.get` finds
  have h0 : parseU32 10 ['0'] = some 0 := by decide
  obtain ⟨m, hm⟩ : ∃ m, collect gKeyOf gOk as = some m :=
    Option.ne_none_iff_exists'.1 fun hnone => by
      obtain ⟨⟨a1, a2⟩, ha, hbad⟩ := (collect_none_iff (keyOf := gKeyOf) (ok := gOk) as).1 hnone
      rcases hall _ ha with h | h | h <;> simp only at h <;> subst h
      · obtain rfl : n = a2 := Option.some.inj (hgn.symm.trans (get_of_mem_nodup hnd ha))
        simpa [gOk, hvn] using hbad GKey.name (gKeyNames.of_name .name)
      · obtain rfl : f = a2 := Option.some.inj (hformat.symm.trans (get_of_mem_nodup hnd ha))
        simpa [gOk, hfv] using hbad GKey.format (gKeyNames.of_name .format)
      · obtain rfl := hminor a2 (get_of_mem_nodup hnd ha)
        simpa [gOk, h0] using hbad GKey.formatMinor (gKeyNames.of_name .formatMinor)
  have hN := (collect_get gKeyNames hnd hm (k := .name) (s := "name") rfl).1
  have hM := (collect_get gKeyNames hnd hm (k := .format) (s := "format") rfl).1
  have hm' := (collect_get gKeyNames hnd hm (k := .formatMinor) (s := "formatMinor") rfl).1
  have hminor0 : ((Spec.get as "formatMinor").bind (parseU32 10)).getD 0 = 0 := by
    cases hmm : Spec.get as "formatMinor" with
    | none => rfl
    | some mm => rw [hminor mm hmm, Option.bind_some, h0]; rfl
  refine ⟨hv12, n, ?_⟩
  simp only [parseGlyphAttrs, gFold_view, hm, Option.map_some, gFinish, gOf, hN, hgn, hM, hformat, Option.bind_some, hfv,
    Option.getD_some, hm', hminor0]
  rcases hv12 with rfl | rfl <;> simp

theorem parseGlyphAttrs_error {a : Option (List Attr)}
    (h : ∀ as acc, a = some as → foldAttrs gStep {} as = some acc → ∃ k, gFinish acc = .error k) :
    ∃ k, parseGlyphAttrs a = .error k := by
  cases a with
  | none => exact ⟨_, rfl⟩
  | some as =>
    simp only [parseGlyphAttrs]
    cases hf : foldAttrs gStep {} as with
    | none => exact ⟨_, rfl⟩
    | some acc => exact h as acc rfl hf

theorem glyphAttrCheck_fails {d : Doc} (hne : glyphAttrCheck d ≠ []) : ∃ k, parseGlyphAttrs d.gattrs = .error k := by
  refine parseGlyphAttrs_error fun as acc hga hf => ?_
  rw [gFold_view] at hf
  obtain ⟨m, hm, rfl⟩ := Option.map_eq_some_iff.1 hf
  -- the loop has not stopped: every attribute has a key, and its value is accepted
  have hnone := mt (collect_none_iff (keyOf := gKeyOf) (ok := gOk) as).2 (by rw [hm]; nofun)
  unfold glyphAttrCheck at hne
  simp only [hga] at hne
  have hall : as.all (fun a => a.1 = "name".toList ∨ a.1 = "format".toList ∨ a.1 = "formatMinor".toList) = true := by
    apply List.all_eq_true.2
    intro a ha
    apply Decidable.byContradiction
    intro hnk
    simp only [decide_eq_true_eq, not_or] at hnk
    refine hnone ⟨a, ha, fun k hk => ?_⟩
    unfold gKeyOf at hk
    rw [if_neg hnk.1, if_neg hnk.2.1, if_neg hnk.2.2] at hk
    cases hk
  simp only [hall, if_true, List.append_nil] at hne
  cases hg : Spec.get as "name" with
  | none =>
    have hname : m .name = none := by
      have := collect_has gKeyNames hm (k := .name) (s := "name") rfl (r := some) fun _ _ => rfl
      simpa [has, hg] using this
    exact ⟨.wrongFirstElement, by simp [gFinish, gOf, hname]⟩
  | some n =>
    simp only [hg] at hne
    by_cases hok : nameOk n = true
    · simp [hok] at hne
    · exfalso
      refine hnone ⟨("name".toList, n), get_mem hg, fun k hk => ?_⟩
      cases (gKeyNames.of_name .name).symm.trans hk
      simpa [gOk, ← nameOk_eq_validName] using hok

theorem gfold_versions {as : List Attr} (hnd : (as.map (·.1)).Nodup) {acc : GlyphAcc} (hf : foldAttrs gStep {} as = some acc) :
    (∀ v, Spec.get as "format" = some v → parseU32 10 v = some acc.major) ∧ (Spec.get as "format" = none → acc.major = 0) ∧
    (∀ v, Spec.get as "formatMinor" = some v → parseU32 10 v = some acc.minor) ∧
    (Spec.get as "formatMinor" = none → acc.minor = 0) := by
  rw [gFold_view] at hf
  obtain ⟨m, hm, rfl⟩ := Option.map_eq_some_iff.1 hf
  obtain ⟨h1, h2⟩ := collect_get gKeyNames hnd hm (k := .format) (s := "format") rfl
  obtain ⟨h3, h4⟩ := collect_get gKeyNames hnd hm (k := .formatMinor) (s := "formatMinor") rfl
  simp only [gOf, h1, h3]
  refine ⟨fun v hv => ?_, fun hn => by rw [hn]; rfl, fun v hv => ?_, fun hn => by rw [hn]; rfl⟩
  · obtain ⟨n, hn⟩ := Option.isSome_iff_exists.1 (h2 v hv); simp [hv, hn]
  · obtain ⟨n, hn⟩ := Option.isSome_iff_exists.1 (h4 v hv); simp [hv, hn]

theorem docVersion_of_read {d : Doc} {as : List Attr} (has : d.gattrs = some as) {f : Str} (hf : Spec.get as "format" = some f)
    (hp : parseU32 10 f = some 1 ∨ parseU32 10 f = some 2)
    (hm : ∀ m, Spec.get as "formatMinor" = some m → parseU32 10 m = some 0) : docVersion d ≠ (none, false) := by
  intro h
  have hp' : (parseU32 10 f == some 1 || parseU32 10 f == some 2) = true := by rcases hp with e | e <;> simp [e]
  unfold docVersion at h
  simp only [has, hf] at h
  -- `formatMinor` absent, or present and read as 0; each time `format` is `"1"`, `"2"`, another spelling, absent
  rcases hmm : Spec.get as "formatMinor" with _ | m
  · simp only [hmm] at h
    split at h
    · simp at h
    · simp at h
    · rename_i heq; cases heq; simp [hp'] at h
    · rename_i hh; cases hh
  · simp only [hmm, hm m hmm] at h
    split at h
    · by_cases he : m = ['0'] <;> simp [he] at h
    · by_cases he : m = ['0'] <;> simp [he] at h
    · rename_i heq; cases heq; by_cases he : m = ['0'] <;> simp [hp', he] at h
    · rename_i hh; cases hh

theorem version_fails {d : Doc} (hnd : NodupAttrs d.gattrs) (hv : docVersion d = (none, false)) :
    ∃ k, parseGlyphAttrs d.gattrs = .error k := by
  refine parseGlyphAttrs_error fun as acc hga hf => ?_
  obtain ⟨h1, h2, h3, h4⟩ := gfold_versions (hnd as hga) hf
  have hbad : ¬ ((acc.major = 1 ∨ acc.major = 2) ∧ acc.minor = 0) := by
    intro ⟨hmaj, hmin⟩
    cases hgf : Spec.get as "format" with
    | none => have := h2 hgf; omega
    | some f =>
      have hp := h1 f hgf
      refine docVersion_of_read hga hgf ?_ ?_ hv
      · rcases hmaj with e | e <;> rw [e] at hp
        · exact .inl hp
        · exact .inr hp
      · intro m hm
        have := h3 m hm
        rw [hmin] at this
        exact this
  unfold gFinish
  cases acc.name with
  | none => exact ⟨_, rfl⟩
  | some n =>
    by_cases c1 : acc.major = 1 ∧ acc.minor = 0
    · exact absurd ⟨.inl c1.1, c1.2⟩ hbad
    · by_cases c2 : acc.major = 2 ∧ acc.minor = 0
      · exact absurd ⟨.inr c2.1, c2.2⟩ hbad
      · exact ⟨.unsupportedVersion, by simp [c1, c2]⟩

end

section
variable {rd : Str → Option Nat}

theorem items_reach (law : ReadsNumerals rd) {ver : Nat} : ∀ (its pre : List Item) (s : PS), CleanState ver pre s →
    (∀ it, it ∈ its → itemCheck rd ver it = ([], false)) → (∀ it, it ∈ its → IShaped it) →
    ((pre ++ its).flatMap itemIdents).Nodup →
    (∀ n, n ∈ [sAdvance, sOutline, sLib, sNote, sImage] → cnt (pre ++ its) n ≤ 1) →
    (∀ a d inner, Item.lib a (.dict d) inner ∈ its → LibOK d) →
    ∃ s', Reach rd s (its.flatMap Item.evs) s' ∧ CleanState ver (pre ++ its) s'
  | [], pre, s, hcs, _, _, _, _, _ => ⟨s, Reach.nil s, by rwa [List.append_nil]⟩
  | it :: r, pre, s, hcs, hcl, hsh, hnd, hcnt, hlnew => by
    rw [List.flatMap_append, List.flatMap_cons] at hnd
    obtain ⟨-, n2, n3⟩ := List.nodup_append.1 hnd
    obtain ⟨s1, hr1, hcs1⟩ := item_reach law hcs it (hcl it List.mem_cons_self) (hsh it List.mem_cons_self)
      (List.nodup_append.1 n2).1 (fun i hi hp => n3 i hp i (List.mem_append_left _ hi) rfl)
      (fun n hn e => by
        have := hcnt n hn
        rw [cnt_append, cnt_cons, if_pos e] at this
        omega)
      (fun a d inner e => hlnew a d inner (e ▸ List.mem_cons_self))
    obtain ⟨s2, hr2, hcs2⟩ := items_reach law r (pre ++ [it]) s1 hcs1 (fun x hx => hcl x (List.mem_cons_of_mem _ hx))
      (fun x hx => hsh x (List.mem_cons_of_mem _ hx)) (by simpa [List.flatMap_append] using hnd)
      (fun n hn => by simpa using hcnt n hn) (fun a d inner hx => hlnew a d inner (List.mem_cons_of_mem _ hx))
    exact ⟨s2, Reach.append hr1 hr2, by simpa using hcs2⟩

/-- what the tokeniser and the shape reader guarantee of a document, and the three spellings the recorded findings
    exclude (content-free elements self-closing, `note` and `glyph` not self-closed) -/
structure Shaped (d : Doc) : Prop where
  prolog : ∀ e, e ∈ d.prolog → isProlog e = true
  gattrs : NodupAttrs d.gattrs
  glyphOpen : d.gSelfClosed = false
  items : ∀ it, it ∈ d.items → IShaped it

theorem libOK_of_objectLibsCheck {d : Doc} (h : objectLibsCheck d = []) :
    ∀ a l inner, Item.lib a (.dict l) inner ∈ d.items → LibOK l := by
  intro a l inner hmem v hv
  have := (List.flatMap_eq_nil_iff.1 h) _ hmem
  simp only [hv] at this
  cases v with
  | dict ol =>
    refine ⟨ol, rfl, ?_⟩
    simp at this
    intro e he
    obtain ⟨k, v'⟩ := e
    have h2 := this k v' he
    cases v' with
    | dict d' => exact ⟨d', rfl⟩
    | _ => simp at h2
  | _ => simp at this

theorem clean_items_reach (law : ReadsNumerals rd) {d : Doc} (hj : judge rd d = ([], false)) (hs : Shaped d) :
    ∃ as name ver s', d.gattrs = some as ∧ parseGlyphAttrs (some as) = .ok (name, ver) ∧ (docVersion d).1 = some ver ∧
      Reach rd { g := { name := name }, ver := ver } (d.items.flatMap Item.evs) s' ∧ CleanState ver d.items s' := by
  obtain ⟨ver, hc⟩ := judge_clean hj
  obtain ⟨as, has⟩ : ∃ as, d.gattrs = some as := by
    cases hg : d.gattrs with
    | none => have := hc.glyph; simp [glyphAttrCheck, hg] at this
    | some as => exact ⟨as, rfl⟩
  obtain ⟨-, name, hparse⟩ := glyph_start_clean hc has (hs.gattrs as has)
  obtain ⟨s', hr, hcs⟩ := items_reach law d.items [] _ (cleanState_init name ver) hc.items hs.items hc.idents
    (fun n hn => by
      simp only [List.mem_cons, List.not_mem_nil, or_false] at hn
      rcases hn with rfl | rfl | rfl | rfl | rfl
      · exact hc.once "advance" (by decide)
      · exact hc.once "outline" (by decide)
      · exact hc.once "lib" (by decide)
      · exact hc.once "note" (by decide)
      · exact hc.once "image" (by decide))
    (libOK_of_objectLibsCheck hc.objlibs)
  exact ⟨as, name, ver, s', has, hparse, hc.version, hr, hcs⟩

theorem parseGlif_flatten {d : Doc} (hp : ∀ e, e ∈ d.prolog → isProlog e = true) (ho : d.gSelfClosed = false) :
    parseGlif rd (Spec.flatten d) =
      match parseGlyphAttrs d.gattrs with
      | .ok (name, ver) => run rd { g := { name := name }, ver := ver } (d.items.flatMap Item.evs ++ .close sGlyph :: d.trailer)
      | .error k => .error k := by
  unfold parseGlif Spec.flatten
  simp only [ho, Bool.false_eq_true, if_false, List.append_assoc, List.cons_append, List.nil_append]
  rw [scanStart_prolog _ _ hp]
  simp only [scanStart, if_true]
  rcases parseGlyphAttrs d.gattrs with k | ⟨name, ver⟩ <;> rfl

/-- **a clean document is accepted**: a document the specification judges clean (`Spec.judge rd d = ([], false)`: no rule
    broken, nothing unspecified), of the shape the tokeniser delivers and in the spellings the recorded findings leave
    (`Shaped`), is accepted by the parser — format 1 and format 2, any element order, any attribute order, comments
    anywhere. -/
theorem judge_clean_accepted (law : ReadsNumerals rd) {d : Doc} (hj : judge rd d = ([], false)) (hs : Shaped d) :
    ∃ g, parseGlif rd (Spec.flatten d) = .ok g := by
  obtain ⟨as, name, ver, s', has, hparse, -, hr, hcs⟩ := clean_items_reach law hj hs
  obtain ⟨g, hg⟩ := loadObjectLibs_ok hcs.libOK
  refine ⟨g, ?_⟩
  rw [parseGlif_flatten hs.prolog hs.glyphOpen, has, hparse]
  dsimp only
  rw [run_of_reach rd hr, run, step_close_glyph hcs.mode, hg]

theorem start_tag_rejected {d : Doc} (hs : Shaped d) (h : ∃ k, parseGlyphAttrs d.gattrs = .error k) :
    accepted (parseGlif rd (Spec.flatten d)) = false := by
  obtain ⟨k, hk⟩ := h
  rw [parseGlif_flatten hs.prolog hs.glyphOpen, hk]
  rfl

/-- **the converse for the `glyph` start tag**: every rule `glyphAttrCheck` reports — the attributes are not well-formed
    (`attr-syntax`), `name` is missing or not a valid name (`glyph-name`), an attribute other than `name`, `format`,
    `formatMinor` (`unknown-attr`) — makes the parser reject the document at the start tag. -/
theorem glyph_start_rule_rejected {d : Doc} (hs : Shaped d) (hne : glyphAttrCheck d ≠ []) :
    accepted (parseGlif rd (Spec.flatten d)) = false :=
  start_tag_rejected hs (glyphAttrCheck_fails hne)

/-- **the `version` rule**: `docVersion d = (none, false)` is exactly the case in which `judge` reports `version` (no version
    and not unspecified: `format` is missing or not read as 1 or 2, or `formatMinor` is not read as 0; the spellings `+2`,
    `02`, `00`, `+0` that `parse::<u32>` reads as a supported version are classified as unspecified by `docVersion`, not as
    `version`).  Then the parser rejects the document at the start tag. -/
theorem glyph_start_version_rejected {d : Doc} (hs : Shaped d) (hv : docVersion d = (none, false)) :
    accepted (parseGlif rd (Spec.flatten d)) = false :=
  start_tag_rejected hs (version_fails hs.gattrs hv)

theorem judge_version {d : Doc} (hv : docVersion d = (none, false)) :
    judge rd d = (dedup (glyphAttrCheck d ++ ["version"]), false) := by
  unfold judge
  rw [hv]
  rfl

theorem run_after_clean (law : ReadsNumerals rd) {d : Doc} {pre post : List Item} {bad : Item} {ver : Nat}
    (hitems : d.items = pre ++ bad :: post)
    (hpre : judge rd { d with items := pre } = ([], false)) (hs : Shaped { d with items := pre })
    (hver : (docVersion d).1 = some ver) :
    ∃ s rest, CleanState ver pre s ∧ parseGlif rd (Spec.flatten d) = run rd s (Item.evs bad ++ rest) := by
  obtain ⟨as, name, ver', s', has, hparse, hv', hr, hcs⟩ := clean_items_reach law hpre hs
  obtain rfl : ver' = ver := Option.some.inj (hv'.symm.trans hver)
  refine ⟨s', ?rest, hcs, ?eq⟩
  case eq =>
    rw [parseGlif_flatten (d := d) hs.prolog hs.glyphOpen, show d.gattrs = some as from has, hparse]
    dsimp only
    rw [hitems, List.flatMap_append, List.flatMap_cons, List.append_assoc, List.append_assoc, run_of_reach rd hr]

/-- **a refused item after a clean prefix**: a document whose items up to some position are `judge`-clean (and shaped) and
    whose next item is refused for one of the reasons of `BodyBad` is rejected by the parser.  The clean prefix is used through
    the exact state it leaves (`CleanState`). -/
theorem judge_bad_item_rejected (law : ReadsNumerals rd) {d : Doc} {pre post : List Item} {bad : Item} {ver : Nat}
    (hitems : d.items = pre ++ bad :: post)
    (hpre : judge rd { d with items := pre } = ([], false)) (hs : Shaped { d with items := pre })
    (hver : (docVersion d).1 = some ver) (hbad : BodyBad rd ver pre bad) :
    accepted (parseGlif rd (Spec.flatten d)) = false := by
  obtain ⟨s, rest, hcs, hrun⟩ := run_after_clean law hitems hpre hs hver
  rw [hrun]
  exact bodybad_rejected law hcs hbad _

theorem judge_hard_error_rejected (law : ReadsNumerals rd) {d : Doc} {pre post : List Item} {bad : Item} {ver : Nat}
    (hitems : d.items = pre ++ bad :: post)
    (hpre : judge rd { d with items := pre } = ([], false)) (hs : Shaped { d with items := pre })
    (hver : (docVersion d).1 = some ver) (hbad : HardFlag ver bad) :
    accepted (parseGlif rd (Spec.flatten d)) = false :=
  judge_bad_item_rejected law hitems hpre hs hver (.hard _ hbad)

theorem first_failure {α : Type} (P : List α → Prop) : ∀ (its pre : List α), P pre → ¬ P (pre ++ its) →
    ∃ mid bad post, its = mid ++ bad :: post ∧ P (pre ++ mid) ∧ ¬ P (pre ++ mid ++ [bad]) := by
  intro its
  induction its with
  | nil => exact fun pre h1 h2 => absurd h1 (by rwa [List.append_nil] at h2)
  | cons it r ih =>
    intro pre h1 h2
    rw [List.append_cons] at h2
    by_cases h : P (pre ++ [it])
    · obtain ⟨mid, bad, post, e, hp, hn⟩ := ih (pre ++ [it]) h h2
      exact ⟨it :: mid, bad, post, by rw [e]; rfl, by rwa [← List.append_cons] at hp, by rwa [← List.append_cons] at hn⟩
    · exact ⟨[], it, r, rfl, by rwa [List.append_nil], by rwa [List.append_nil]⟩

end

end Glif
