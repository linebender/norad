import Norad.Lemmas.JudgeSpec
import Norad.Lemmas.GlifAttrs
/-!
# One content-free element: the model's parser against `Spec.elemCheck`

Every element parser of the model is a loop over the attributes followed by a finishing step.  All loops but `uniStep` and
`ctStep` are views of one collected record (`Lemmas/GlifAttrs.lean`) whose keys are the rows of `Spec.attrTable` (`KeyTable`):
the loop stops exactly at an `AttrBad` attribute, and each parser fails exactly on a hard error `ElemBad` (`…_none_iff`; for
`image` the two directions separately).
On the specification's side a clean `Spec.elemCheck` unpacks into `ElemClean`, which excludes every hard error, whatever the
order of the attributes (`…_clean_accepted`); a rule `elemCheck` reports, other than those of a recorded finding, is a hard
error (`elemCheck_elemBad`).
-/
namespace Glif
open Spec

/-- an attribute that stops the model's attribute loop of element `n` (`collect_none_iff_attrBad`) -/
def AttrBad (rd : Str → Option Nat) (ver : Nat) (seen : List Str) (n : Str) (a : Attr) : Prop :=
  match attrTable n with
  | none => False
  | some tbl => match tbl.find? (fun t => t.1.toList = a.1) with
    | none => True
    | some (_, k) => Refuses rd ver seen k a.2

def specAttrNames (el : Str) : List Str := ((attrTable el).getD []).map (·.1.toList)

section
variable {rd : Str → Option Nat} {ver : Nat} {seen : List Str}

theorem attrBad_iff {n : Str} {a : Attr} :
    AttrBad rd ver seen n a ↔ (attrTable n).isSome = true ∧ ∀ k, attrKind n a.1 = some k → Refuses rd ver seen k a.2 := by
  unfold AttrBad attrKind
  cases attrTable n with
  | none => simp
  | some tbl =>
    simp only [Option.isSome_some, true_and]
    generalize tbl.find? (fun t => t.1.toList = a.1) = o
    cases o <;> simp

section
variable {κ : Type} {keyOf : Str → Option κ} {name : κ → Str} {kind : κ → AK} {n : Str} {keys : List κ}

theorem KeyTable.attrKind_eq (T : KeyTable keyOf name kind n keys) (s : Str) : (keyOf s).map kind = attrKind n s := by
  obtain ⟨tbl, ht, hrow, honto⟩ := T.rows
  unfold attrKind
  rw [ht]
  show (keyOf s).map kind = (tbl.find? (fun t => t.1.toList = s)).map (·.2)
  cases hf : tbl.find? (fun t => t.1.toList = s) with
  | some q =>
    obtain ⟨k, hk, hq⟩ := hrow q (List.mem_of_find?_eq_some hf)
    have : q.1.toList = s := by simpa using List.find?_some hf
    rw [← this, hk, Option.map_some, Option.map_some, hq]
  | none =>
    cases hk : keyOf s with
    | none => rfl
    | some k =>
      obtain ⟨p, hp, hpk, _⟩ := honto k
      have := List.find?_eq_none.1 hf p hp
      exact absurd ((T.names.name_of hpk).trans (T.names.name_of hk).symm) (by simpa using this)

theorem untaken_iff_attrBad [DecidableEq κ] (T : KeyTable keyOf name kind n keys) (a : Attr) :
    (∀ k, keyOf a.1 = some k → readableBy kind rd ver seen k a.2 = false) ↔ AttrBad rd ver seen n a := by
  obtain ⟨tbl, ht, _⟩ := T.rows
  rw [attrBad_iff, ← T.attrKind_eq, ht]
  cases keyOf a.1 with
  | none => simp
  | some k => simp [readableBy, refuses_iff]

theorem collect_none_iff_attrBad [DecidableEq κ] (T : KeyTable keyOf name kind n keys) (as : List Attr) :
    collect keyOf (readableBy kind rd ver seen) as = none ↔ ∃ a ∈ as, AttrBad rd ver seen n a := by
  simp only [collect_none_iff, untaken_iff_attrBad T]

end

/-- the three shapes of a guideline the format knows -/
def guidelineShapeOk (as : List Attr) : Bool :=
  match has as "x", has as "y", has as "angle" with
  | true, false, false => true
  | false, true, false => true
  | true, true, true => true
  | _, _, _ => false

/-- the hard errors of a content-free element named `n` with attribute list `as`, in a glyph of format `ver` where the
    identifiers `seen` are taken.  `file` is stated for pairwise different attribute names only: of a repeated `fileName` the
    model keeps the last, `Spec.get` finds the first -/
inductive ElemBad (rd : Str → Option Nat) (ver : Nat) (seen : List Str) (n : Str) (as : List Attr) : Prop
  | attr (a : Attr) : a ∈ as → AttrBad rd ver seen n a → ElemBad rd ver seen n as
  | missing (r : String) : r ∈ required n → has as r = false → ElemBad rd ver seen n as
  | shape : n = sGuideline → guidelineShapeOk as = false → ElemBad rd ver seen n as
  | file (f : Str) : n = sImage → (as.map (·.1)).Nodup → Spec.get as "fileName" = some f → imageNameOk f = false →
      ElemBad rd ver seen n as

theorem elemBad_iff {n : Str} {as : List Attr} (hn : n ∈ [sAdvance, sUnicode, sAnchor, sPoint, sComponent])
    {req : List String} (hr : required n = req) :
    ElemBad rd ver seen n as ↔ (∃ a ∈ as, AttrBad rd ver seen n a) ∨ ∃ r ∈ req, has as r = false := by
  have h : ∀ n ∈ [sAdvance, sUnicode, sAnchor, sPoint, sComponent], n ≠ sGuideline ∧ n ≠ sImage := by decide +kernel
  subst hr
  constructor
  · rintro (⟨a, ha, hb⟩ | ⟨r, hr, hh⟩ | ⟨hg, _⟩ | ⟨_, hi, _⟩)
    · exact .inl ⟨a, ha, hb⟩
    · exact .inr ⟨r, hr, hh⟩
    · exact absurd hg (h n hn).1
    · exact absurd hi (h n hn).2
  · rintro (⟨a, ha, hb⟩ | ⟨r, hr, hh⟩)
    · exact .attr a ha hb
    · exact .missing r hr hh

theorem aFinish_none_iff (acc : AnchorAcc) : aFinish acc = none ↔ acc.x.isSome = false ∨ acc.y.isSome = false := by
  cases hx : acc.x <;> cases hy : acc.y <;> simp [aFinish, hx, hy]

theorem parseAnchor_none_iff {as : List Attr} : parseAnchor rd ver seen as = none ↔ ElemBad rd ver seen sAnchor as := by
  rw [elemBad_iff (by simp) required_anchor, parseAnchor_view, ← collect_none_iff_attrBad aKeyTable as]
  cases hm : collect aKeyOf (readableBy aKind rd ver seen) as with
  | none => simp
  | some m =>
    have hx := collect_has aKeyTable.names hm (k := .x) (s := "x") rfl (r := rd) fun _ => id
    have hy := collect_has aKeyTable.names hm (k := .y) (s := "y") rfl (r := rd) fun _ => id
    simp [aFinish_none_iff, aOf, hx, hy]

theorem parseAnchor_ident {as : List Attr} {x : Anchor} (hnd : (as.map (·.1)).Nodup)
    (hp : parseAnchor rd ver seen as = some x) : x.ident = Spec.get as "identifier" := by
  rw [parseAnchor_view] at hp
  obtain ⟨m, hm, hx⟩ := Option.bind_eq_some_iff.1 hp
  rw [← collect_ident aKeyTable.names hnd hm (k := .ident) rfl rfl]
  unfold aFinish at hx
  split at hx <;> cases hx
  rfl

theorem pFinish_none_iff (acc : PointAcc) : pFinish acc = none ↔ acc.x.isSome = false ∨ acc.y.isSome = false := by
  cases hx : acc.x <;> cases hy : acc.y <;> simp [pFinish, hx, hy]

theorem parsePoint_none_iff {as : List Attr} : parsePoint rd ver seen as = none ↔ ElemBad rd ver seen sPoint as := by
  rw [elemBad_iff (by simp) required_point, parsePoint_view, ← collect_none_iff_attrBad pKeyTable as]
  cases hm : collect pKeyOf (readableBy pKind rd ver seen) as with
  | none => simp
  | some m =>
    have hx := collect_has pKeyTable.names hm (k := .x) (s := "x") rfl (r := rd) fun _ => id
    have hy := collect_has pKeyTable.names hm (k := .y) (s := "y") rfl (r := rd) fun _ => id
    simp [pFinish_none_iff, pOf, hx, hy]

theorem parsePoint_fields {as : List Attr} {x : Point} (hnd : (as.map (·.1)).Nodup)
    (hp : parsePoint rd ver seen as = some x) :
    x.ident = Spec.get as "identifier" ∧
    x.typ = (match Spec.get as "type" with | some v => (readPointType v).getD .off | none => .off) ∧
    x.smooth = (Spec.get as "smooth" == some "yes".toList) := by
  rw [parsePoint_view] at hp
  obtain ⟨m, hm, hx⟩ := Option.bind_eq_some_iff.1 hp
  have hi := collect_ident pKeyTable.names hnd hm (k := .ident) rfl rfl
  obtain ⟨ht, -⟩ := collect_get pKeyTable.names hnd hm (k := .typ) (s := "type") rfl
  obtain ⟨hs, -⟩ := collect_get pKeyTable.names hnd hm (k := .smooth) (s := "smooth") rfl
  rw [← hi, ← ht, ← hs]
  unfold pFinish at hx
  split at hx <;> cases hx
  refine ⟨rfl, ?_, ?_⟩
  · show ((m .typ).bind readPointType).getD .off = _
    cases m .typ <;> rfl
  · show ((m .smooth).any fun v => decide (v = "yes".toList)) = _
    cases m .smooth
    · rfl
    · rw [Option.some_beq_some, Bool.beq_eq_decide_eq]; rfl

theorem guFinish_none_iff (acc : GuideAcc) : guFinish acc = none ↔
    (match acc.x.isSome, acc.y.isSome, acc.angle.isSome with
      | true, false, false => true
      | false, true, false => true
      | true, true, true => true
      | _, _, _ => false) = false := by
  cases hx : acc.x <;> cases hy : acc.y <;> cases ha : acc.angle <;> simp [guFinish, hx, hy, ha]

theorem parseGuideline_none_iff {as : List Attr} :
    parseGuideline rd ver seen as = none ↔ ElemBad rd ver seen sGuideline as := by
  have hE : ElemBad rd ver seen sGuideline as ↔
      (∃ a ∈ as, AttrBad rd ver seen sGuideline a) ∨ guidelineShapeOk as = false := by
    constructor
    · rintro (⟨a, ha, hb⟩ | ⟨r, hr, _⟩ | ⟨_, hs⟩ | ⟨_, hn, _⟩)
      · exact .inl ⟨a, ha, hb⟩
      · rw [required_guideline] at hr
        cases hr
      · exact .inr hs
      · exact absurd hn (by decide +kernel)
    · rintro (⟨a, ha, hb⟩ | hs)
      · exact .attr a ha hb
      · exact .shape rfl hs
  rw [hE, parseGuideline_view, ← collect_none_iff_attrBad guKeyTable as]
  cases hm : collect guKeyOf (readableBy guKind rd ver seen) as with
  | none => simp
  | some m =>
    have hx := collect_has guKeyTable.names hm (k := .x) (s := "x") rfl (r := rd) fun _ => id
    have hy := collect_has guKeyTable.names hm (k := .y) (s := "y") rfl (r := rd) fun _ => id
    have ha := collect_has guKeyTable.names hm (k := .angle) (s := "angle") rfl (r := rd) fun v h => by
      simp only [readableBy, guKind, readable] at h
      cases hr : rd v with
      | none => rw [hr] at h; cases h
      | some _ => rfl
    simp [guFinish_none_iff, guidelineShapeOk, guOf, hx, hy, ha]

theorem parseGuideline_ident {as : List Attr} {x : Guideline} (hnd : (as.map (·.1)).Nodup)
    (hp : parseGuideline rd ver seen as = some x) : x.ident = Spec.get as "identifier" := by
  rw [parseGuideline_view] at hp
  obtain ⟨m, hm, hx⟩ := Option.bind_eq_some_iff.1 hp
  rw [← collect_ident guKeyTable.names hnd hm (k := .ident) rfl rfl]
  unfold guFinish at hx
  split at hx <;> cases hx <;> rfl

theorem parseImage_none {as : List Attr} (h : ElemBad rd ver seen sImage as) : parseImage rd as = none := by
  rw [parseImage_view ver seen]
  cases hm : collect iKeyOf (readableBy iKind rd ver seen) as with
  | none => rfl
  | some m =>
    show iFinish (iOf rd m) = none
    rcases h with ⟨a, ha, hb⟩ | ⟨r, hr, hh⟩ | ⟨hn, _⟩ | ⟨f, _, hnd, hg, hbad⟩
    · exact absurd ((collect_none_iff_attrBad iKeyTable as).2 ⟨a, ha, hb⟩) (by rw [hm]; nofun)
    · obtain rfl : r = "fileName" := by simpa [required_image] using hr
      have hf := (collect_none_at iKeyTable.names hm .fileName).2 fun hmem => by rw [has_iff_mem.2 hmem] at hh; cases hh
      simp [iFinish, iOf, hf]
    · exact absurd hn (by decide +kernel)
    · simp [iFinish, iOf, (collect_get iKeyTable.names hnd hm (k := .fileName) (s := "fileName") rfl).1, hg, hbad]

theorem parseImage_some {as : List Attr} (hb : ∀ a ∈ as, ¬ AttrBad rd ver seen sImage a) (hh : has as "fileName" = true)
    (hok : ∀ v, ("fileName".toList, v) ∈ as → imageNameOk v = true) : ∃ x, parseImage rd as = some x := by
  rw [parseImage_view ver seen]
  cases hm : collect iKeyOf (readableBy iKind rd ver seen) as with
  | none =>
    obtain ⟨a, ha, hbad⟩ := (collect_none_iff_attrBad iKeyTable as).1 hm
    exact absurd hbad (hb a ha)
  | some m =>
    cases hfv : m .fileName with
    | none => exact absurd (has_iff_mem.1 hh) ((collect_none_at iKeyTable.names hm .fileName).1 hfv)
    | some v => simp [iFinish, iOf, hfv, hok v (collect_some iKeyTable.names hm hfv).1]

theorem cFinish_none_iff (acc : CompAcc) : cFinish acc = none ↔ acc.base.isSome = false := by
  cases hb : acc.base <;> simp [cFinish, hb]

theorem parseComponent_none_iff {as : List Attr} :
    parseComponent rd ver seen as = none ↔ ElemBad rd ver seen sComponent as := by
  rw [elemBad_iff (by simp) required_component, parseComponent_view, ← collect_none_iff_attrBad cKeyTable as]
  cases hm : collect cKeyOf (readableBy cKind rd ver seen) as with
  | none => simp
  | some m =>
    have hb := collect_has cKeyTable.names hm (k := .base) (s := "base") rfl (r := some) fun _ _ => rfl
    simp [cFinish_none_iff, cOf, ← hb]

theorem parseComponent_ident {as : List Attr} {x : Component} (hnd : (as.map (·.1)).Nodup)
    (hp : parseComponent rd ver seen as = some x) : x.ident = Spec.get as "identifier" := by
  rw [parseComponent_view] at hp
  obtain ⟨m, hm, hx⟩ := Option.bind_eq_some_iff.1 hp
  rw [← collect_ident cKeyTable.names hnd hm (k := .ident) rfl rfl]
  unfold cFinish at hx
  split at hx <;> cases hx
  rfl

theorem parseAdvance_none_iff {as : List Attr} : parseAdvance rd as = none ↔ ElemBad rd ver seen sAdvance as := by
  rw [elemBad_iff (by simp) required_advance, parseAdvance_view ver seen, Option.map_eq_none_iff,
    collect_none_iff_attrBad advKeyTable]
  simp

theorem uniStep_none_iff (cps : List Nat) (a : Attr) : uniStep cps a = none ↔ AttrBad rd ver seen sUnicode a := by
  have ht : attrTable sUnicode = some [("hex", .hex)] := by decide +kernel
  unfold uniStep AttrBad
  rw [ht]
  by_cases hk : a.1 = sHex
  · have : ("hex".toList = a.1) := hk.symm
    simp only [hk, if_true, List.find?_cons, this, decide_true, Refuses]
    split <;> simp [*]
  · have : ¬ ("hex".toList = a.1) := fun e => hk e.symm
    simp only [hk, if_false, List.find?_cons, this, decide_false, List.find?_nil]

theorem parseUnicode_none_iff {cps : List Nat} {as : List Attr} :
    parseUnicode cps as = none ↔ ElemBad rd ver seen sUnicode as := by
  rw [elemBad_iff (by simp) required_unicode]
  unfold parseUnicode
  rw [foldAttrs_none_iff (uniStep_none_iff (rd := rd) (ver := ver) (seen := seen))]
  simp

theorem elemBad_fails {n : Str} {as : List Attr} (h : ElemBad rd ver seen n as) :
    (n = sAdvance → parseAdvance rd as = none) ∧ (n = sUnicode → ∀ cps, parseUnicode cps as = none) ∧
    (n = sAnchor → parseAnchor rd ver seen as = none) ∧ (n = sGuideline → parseGuideline rd ver seen as = none) ∧
    (n = sImage → parseImage rd as = none) ∧ (n = sPoint → parsePoint rd ver seen as = none) ∧
    (n = sComponent → parseComponent rd ver seen as = none) := by
  refine ⟨?_, ?_, ?_, ?_, ?_, ?_, ?_⟩ <;> rintro rfl
  · exact parseAdvance_none_iff.2 h
  · exact fun _ => parseUnicode_none_iff.2 h
  · exact parseAnchor_none_iff.2 h
  · exact parseGuideline_none_iff.2 h
  · exact parseImage_none h
  · exact parsePoint_none_iff.2 h
  · exact parseComponent_none_iff.2 h

end

section
variable {rd : Str → Option Nat}

theorem attrBad_of_unknown {ver : Nat} {seen : List Str} {n : Str} {a : Attr} (hn : (attrTable n).isSome = true)
    (h : (specAttrNames n).contains a.1 = false) : AttrBad rd ver seen n a := by
  refine attrBad_iff.2 ⟨hn, fun k hk => ?_⟩
  obtain ⟨-, p, hp, hpa, -⟩ := attrKind_mem hk
  have : a.1 ∈ specAttrNames n := List.mem_map.2 ⟨p, hp, hpa⟩
  rw [List.contains_iff_mem.2 this] at h
  cases h

theorem readIdent_congr {ver : Nat} {seen seen' : List Str} (h : ∀ i, i ∈ seen ↔ i ∈ seen') (v : Str) :
    readIdent ver seen v = readIdent ver seen' v := by
  have : seen.contains v = seen'.contains v :=
    Bool.eq_iff_iff.2 (by simp only [List.contains_iff_mem]; exact h v)
  rw [readIdent, readIdent, this]

theorem AttrBad.congr {ver : Nat} {seen seen' : List Str} (h : ∀ i, i ∈ seen ↔ i ∈ seen') {n : Str} {a : Attr}
    (hb : AttrBad rd ver seen n a) : AttrBad rd ver seen' n a := by
  rw [attrBad_iff] at hb ⊢
  refine ⟨hb.1, fun k hk => ?_⟩
  have := hb.2 k hk
  cases k with
  | ident => simp only [Refuses] at this ⊢; rw [← readIdent_congr h]; exact this
  | _ => exact this

theorem ElemBad.congr {ver : Nat} {seen seen' : List Str} (h : ∀ i, i ∈ seen ↔ i ∈ seen') {n : Str} {as : List Attr}
    (hb : ElemBad rd ver seen n as) : ElemBad rd ver seen' n as := by
  cases hb with
  | attr a ha hbad => exact .attr a ha (hbad.congr h)
  | missing r hr hh => exact .missing r hr hh
  | shape hn hs => exact .shape hn hs
  | file f hn hnd hg hbad => exact .file f hn hnd hg hbad

end

structure ElemClean (rd : Str → Option Nat) (ver : Nat) (e : Elem) (as : List Attr) : Prop where
  attrs : e.attrs = some as
  each : ∀ a, a ∈ as → ∃ k, attrKind e.name a.1 = some k ∧ ¬(k = AK.ident ∧ ver = 1) ∧ ValOK rd k a.2
  req : ∀ r, r ∈ required e.name → has as r = true
  shape : e.name = sGuideline → guidelineShapeOk as = true
  v1 : ¬(ver = 1 ∧ (e.name = sAnchor ∨ e.name = sGuideline ∨ e.name = sImage))

theorem elemCheck_clean {rd : Str → Option Nat} {ver : Nat} {e : Elem} (h : elemCheck rd ver e = ([], false)) :
    ∃ as, ElemClean rd ver e as := by
  unfold elemCheck at h
  cases htbl : attrTable e.name with
  | none => simp [htbl] at h
  | some tbl =>
    cases hattrs : e.attrs with
    | none => simp [htbl, hattrs] at h
    | some as =>
      simp only [htbl, hattrs] at h
      have hm := merge_clean_iff.1 h
      refine ⟨as, hattrs, ?_, ?_, ?_, ?_⟩
      · intro a ha
        have := hm _ (List.mem_append_left _ (List.mem_map.2 ⟨a, ha, rfl⟩))
        have hk : attrKind e.name a.1 = (tbl.find? (fun t => t.1.toList = a.1)).map (·.2) := by
          unfold attrKind; rw [htbl]
        rw [hk]
        cases hf : tbl.find? (fun t => t.1.toList = a.1) with
        | none => simp [hf] at this
        | some p =>
          simp only [hf] at this
          refine ⟨p.2, rfl, ?_, ?_⟩
          · rintro ⟨hk, rfl⟩; simp [hk] at this
          · by_cases hc : (p.2 == AK.ident && ver == 1) = true
            · simp [hc] at this
            · simp only [hc] at this; exact valueCheck_clean this
      · intro r hr
        have := hm ((List.filter (fun k => !has as k) (required e.name)).map (fun _ => "required"), false) (by simp)
        simp only [Prod.mk.injEq, List.map_eq_nil_iff, and_true] at this
        simpa using List.filter_eq_nil_iff.1 this r hr
      · intro hg
        have := hm (_, false) (List.mem_append_right _ (List.mem_cons_of_mem _ (List.mem_cons_self)))
        simp only [hg, if_true, Prod.mk.injEq, and_true] at this
        unfold guidelineShapeOk
        revert this
        cases has as "x" <;> cases has as "y" <;> cases has as "angle" <;> simp
      · intro hv
        have := hm (_, false) (List.mem_append_right _ (List.mem_cons_of_mem _ (List.mem_cons_of_mem _ List.mem_cons_self)))
        simp [hv.1, hv.2] at this

section
variable {rd : Str → Option Nat}

theorem ElemClean.not_attrBad (law : ReadsNumerals rd) {ver : Nat} {seen : List Str} {e : Elem} {as : List Attr}
    (hc : ElemClean rd ver e as) (hfr : ∀ v, (sIdentifier, v) ∈ as → v ∉ seen) {a : Attr} (ha : a ∈ as) :
    ¬ AttrBad rd ver seen e.name a := by
  obtain ⟨k, hk, hv1, hval⟩ := hc.each a ha
  rw [attrBad_iff]
  refine fun hb => hval.not_refuses law (fun hki => ⟨fun hv => hv1 ⟨hki, hv⟩, hfr a.2 ?_⟩) (hb.2 k hk)
  rw [← attrKind_ident (hki ▸ hk)]
  exact ha

theorem ElemClean.fileName_ok {ver : Nat} {e : Elem} {as : List Attr} (hc : ElemClean rd ver e as) (hn : e.name = sImage)
    {v : Str} (hv : ("fileName".toList, v) ∈ as) : imageNameOk v = true := by
  obtain ⟨k, hk, _, hval⟩ := hc.each _ hv
  have hf : iKeyOf "fileName".toList = some .fileName := iKeyTable.names.of_name .fileName
  rw [hn, ← iKeyTable.attrKind_eq] at hk
  have hk' : (iKeyOf "fileName".toList).map iKind = some k := hk
  rw [hf] at hk'
  cases hk'
  exact hval

theorem ElemClean.not_elemBad (law : ReadsNumerals rd) {ver : Nat} {seen : List Str} {e : Elem} {as : List Attr}
    (hc : ElemClean rd ver e as) (hfr : ∀ v, (sIdentifier, v) ∈ as → v ∉ seen) : ¬ ElemBad rd ver seen e.name as := by
  rintro (⟨a, ha, hb⟩ | ⟨r, hr, hh⟩ | ⟨hn, hs⟩ | ⟨f, hn, -, hg, hbad⟩)
  · exact hc.not_attrBad law hfr ha hb
  · rw [hc.req r hr] at hh; cases hh
  · rw [hc.shape hn] at hs; cases hs
  · rw [hc.fileName_ok hn (get_mem hg)] at hbad; cases hbad

section
variable {ver : Nat} {seen : List Str} {e : Elem} {as : List Attr} (law : ReadsNumerals rd) (hc : ElemClean rd ver e as)
include law hc

theorem anchor_clean_accepted (hn : e.name = sAnchor) (hfr : ∀ v, (sIdentifier, v) ∈ as → v ∉ seen) :
    ∃ x, parseAnchor rd ver seen as = some x :=
  Option.ne_none_iff_exists'.1 fun h => hc.not_elemBad law hfr (hn ▸ parseAnchor_none_iff.1 h)

theorem guideline_clean_accepted (hn : e.name = sGuideline) (hfr : ∀ v, (sIdentifier, v) ∈ as → v ∉ seen) :
    ∃ x, parseGuideline rd ver seen as = some x :=
  Option.ne_none_iff_exists'.1 fun h => hc.not_elemBad law hfr (hn ▸ parseGuideline_none_iff.1 h)

theorem point_clean_accepted (hn : e.name = sPoint) (hfr : ∀ v, (sIdentifier, v) ∈ as → v ∉ seen) :
    ∃ x, parsePoint rd ver seen as = some x :=
  Option.ne_none_iff_exists'.1 fun h => hc.not_elemBad law hfr (hn ▸ parsePoint_none_iff.1 h)

theorem component_clean_accepted (hn : e.name = sComponent) (hfr : ∀ v, (sIdentifier, v) ∈ as → v ∉ seen) :
    ∃ x, parseComponent rd ver seen as = some x :=
  Option.ne_none_iff_exists'.1 fun h => hc.not_elemBad law hfr (hn ▸ parseComponent_none_iff.1 h)

theorem advance_clean_accepted (hn : e.name = sAdvance) : ∃ wh, parseAdvance rd as = some wh :=
  Option.ne_none_iff_exists'.1 fun h =>
    hc.not_elemBad (seen := []) law (fun _ _ => List.not_mem_nil) (hn ▸ parseAdvance_none_iff.1 h)

theorem unicode_clean_accepted (hn : e.name = sUnicode) (cps : List Nat) : ∃ cps', parseUnicode cps as = some cps' :=
  Option.ne_none_iff_exists'.1 fun h =>
    hc.not_elemBad (seen := []) law (fun _ _ => List.not_mem_nil) (hn ▸ parseUnicode_none_iff.1 h)

/-- not through `ElemBad`, which speaks of distinct attribute names only: of a repeated `fileName` the last value counts -/
theorem image_clean_accepted (hn : e.name = sImage) : ∃ x, parseImage rd as = some x :=
  parseImage_some (ver := ver) (seen := []) (fun _ ha => hn ▸ hc.not_attrBad law (fun _ _ => List.not_mem_nil) ha)
    (hc.req _ (by rw [hn]; decide +kernel)) fun _ => hc.fileName_ok hn

end

/-- the step neither fails nor ends the parse -/
def stepContinues : StepRes → Bool
  | .ok (.inl _) => true
  | _ => false

theorem clean_element_step (law : ReadsNumerals rd) {s : PS} {e : Elem} (hclean : elemCheck rd s.ver e = ([], false))
    (hfr : ∀ as v, e.attrs = some as → (sIdentifier, v) ∈ as → v ∉ s.seen) :
    (s.mode = .body → e.name = sAdvance → s.seenAdvance = false → stepContinues (step rd s (.empty e.name e.attrs)) = true) ∧
    (s.mode = .body → e.name = sUnicode → stepContinues (step rd s (.empty e.name e.attrs)) = true) ∧
    (s.mode = .body → e.name = sAnchor → stepContinues (step rd s (.empty e.name e.attrs)) = true) ∧
    (s.mode = .body → e.name = sGuideline → stepContinues (step rd s (.empty e.name e.attrs)) = true) ∧
    (s.mode = .body → e.name = sImage → s.g.image = none → stepContinues (step rd s (.empty e.name e.attrs)) = true) ∧
    (∀ ob, s.mode = .outline ob → e.name = sComponent → stepContinues (step rd s (.empty e.name e.attrs)) = true) ∧
    (∀ ob cid pts, s.mode = .contour ob cid pts → e.name = sPoint →
      stepContinues (step rd s (.empty e.name e.attrs)) = true) := by
  obtain ⟨as, hc⟩ := elemCheck_clean hclean
  have hfr' : ∀ v, (sIdentifier, v) ∈ as → v ∉ s.seen := fun v hv => hfr as v hc.attrs hv
  have hv1 := hc.v1
  refine ⟨?_, ?_, ?_, ?_, ?_, ?_, ?_⟩
  · intro hm hn hs
    obtain ⟨⟨w, h⟩, hp⟩ := advance_clean_accepted law hc hn
    rw [hn, hc.attrs, step_empty hm, bodyEmpty_advance, hs, if_neg Bool.false_ne_true, elemArm_some hp]; rfl
  · intro hm hn
    obtain ⟨cps, hp⟩ := unicode_clean_accepted law hc hn s.g.codepoints
    rw [hn, hc.attrs, step_empty hm, bodyEmpty_unicode, elemArm_some hp]; rfl
  · intro hm hn
    obtain ⟨x, hp⟩ := anchor_clean_accepted law hc hn hfr'
    have hv : s.ver ≠ 1 := fun h => hv1 ⟨h, Or.inl hn⟩
    rw [hn, hc.attrs, step_empty hm, bodyEmpty_anchor, if_neg hv, elemArm_some hp]; rfl
  · intro hm hn
    obtain ⟨x, hp⟩ := guideline_clean_accepted law hc hn hfr'
    have hv : s.ver ≠ 1 := fun h => hv1 ⟨h, Or.inr (Or.inl hn)⟩
    rw [hn, hc.attrs, step_empty hm, bodyEmpty_guideline, if_neg hv, elemArm_some hp]; rfl
  · intro hm hn hi
    obtain ⟨x, hp⟩ := image_clean_accepted law hc hn
    have hv : s.ver ≠ 1 := fun h => hv1 ⟨h, Or.inr (Or.inr hn)⟩
    rw [hn, hc.attrs, step_empty hm, bodyEmpty_image, if_neg hv, hi, if_neg (by decide), elemArm_some hp]; rfl
  · intro ob hm hn
    obtain ⟨x, hp⟩ := component_clean_accepted law hc hn hfr'
    rw [hn, hc.attrs, step_empty_component hm, elemArm_some hp]; rfl
  · intro ob cid pts hm hn
    obtain ⟨x, hp⟩ := point_clean_accepted law hc hn hfr'
    rw [hn, hc.attrs, step_empty_point hm, elemArm_some hp]; rfl

end

section
variable {rd : Str → Option Nat}

/-- `v1-element` is left out: the model refuses such an element in `step`, not in the element's parser -/
theorem elemCheck_elemBad (lawT : ReadsTrimmed rd) {ver : Nat} {seen : List Str} {e : Elem} {as : List Attr}
    {tbl : List (String × AK)} (ht : attrTable e.name = some tbl) (ha : e.attrs = some as) (hnd : (as.map (·.1)).Nodup)
    {r : String} (hr : r ∈ (elemCheck rd ver e).1) (hnf : r ∉ findingValueRules) (hv1 : r ≠ "v1-element") :
    ElemBad rd ver seen e.name as := by
  unfold elemCheck at hr
  simp only [ht, ha] at hr
  have hn : (attrTable e.name).isSome = true := by rw [ht]; rfl
  obtain ⟨x, hx, hrx⟩ := mem_merge_iff.1 hr
  rcases List.mem_append.1 hx with hx | hx
  · -- one attribute: not in the table, an identifier in format 1, or a value that is flagged
    obtain ⟨a, haa, rfl⟩ := List.mem_map.1 hx
    have hk : attrKind e.name a.1 = (tbl.find? (fun t => t.1.toList = a.1)).map (·.2) := by unfold attrKind; rw [ht]
    have bad : (∀ k, attrKind e.name a.1 = some k → Refuses rd ver seen k a.2) → ElemBad rd ver seen e.name as :=
      fun h => .attr a haa (attrBad_iff.2 ⟨hn, h⟩)
    cases hf : tbl.find? (fun t => t.1.toList = a.1) with
    | none => exact bad fun k h => by rw [hk, hf] at h; cases h
    | some p =>
      rw [hf, Option.map_some] at hk
      simp only [hf] at hrx
      split at hrx
      · rename_i hv
        rw [Bool.and_eq_true, beq_iff_eq, beq_iff_eq] at hv
        refine bad fun k h => ?_
        cases hk.symm.trans h
        rw [hv.1]
        exact if_pos hv.2
      · obtain ⟨h1, h2⟩ := valueCheck_refuses lawT (ver := ver) (seen := seen) hrx hnf
        by_cases hfile : p.2 = AK.file
        · obtain ⟨hname, hnm⟩ := attrKind_file (hfile ▸ hk)
          exact .file a.2 hname hnd (get_of_mem_nodup hnd (hnm ▸ haa)) (h2 hfile)
        · refine bad fun k h => ?_
          cases hk.symm.trans h
          exact h1 hfile
  · simp only [List.mem_cons, List.not_mem_nil, or_false] at hx
    rcases hx with rfl | rfl | rfl
    · obtain ⟨q, hq, _⟩ := List.mem_map.1 hrx
      exact .missing q (List.mem_filter.1 hq).1 (by simpa using (List.mem_filter.1 hq).2)
    · split at hrx
      · rename_i hg
        refine .shape hg ?_
        unfold guidelineShapeOk
        cases hx : has as "x" <;> cases hy : has as "y" <;> cases hz : has as "angle" <;>
          simp only [hx, hy, hz] at hrx ⊢ <;> first | rfl | (cases hrx)
      · cases hrx
    · split at hrx
      · exact absurd (List.mem_singleton.1 hrx) hv1
      · cases hrx

theorem elemBad_of_rule (lawT : ReadsTrimmed rd) {ver : Nat} {seen : List Str} {e : Elem} {as : List Attr}
    (hn : e.name ∈ bodyNames ++ [sPoint, sComponent]) (ha : e.attrs = some as) (hnd : (as.map (·.1)).Nodup)
    {r : String} (hr : r ∈ (elemCheck rd ver e).1) (hnf : r ∉ findingValueRules) (hv1 : r ≠ "v1-element") :
    ElemBad rd ver seen e.name as := by
  obtain ⟨tbl, ht⟩ := Option.isSome_iff_exists.1 (attrTable_isSome e.name hn)
  exact elemCheck_elemBad lawT ht ha hnd hr hnf hv1

variable {ver : Nat}

theorem v1_element_names {e : Elem} (h : "v1-element" ∈ (elemCheck rd ver e).1) :
    ver = 1 ∧ (e.name = sAnchor ∨ e.name = sGuideline ∨ e.name = sImage) := by
  unfold elemCheck at h
  cases ht : attrTable e.name with
  | none => simp [ht] at h
  | some tbl =>
    cases ha : e.attrs with
    | none => simp [ht, ha] at h
    | some as =>
      simp only [ht, ha] at h
      obtain ⟨x, hx, hrx⟩ := mem_merge_iff.1 h
      rcases List.mem_append.1 hx with hx | hx
      · -- an attribute reports `unknown-attr`, `v1-attr` or a rule of `valueCheck`
        obtain ⟨at', _, rfl⟩ := List.mem_map.1 hx
        split at hrx
        · simp at hrx
        · split at hrx
          · simp at hrx
          · -- no rule of `valueCheck` is `v1-element`
            generalize ‹AK› = k at hrx
            cases k <;> simp only [valueCheck] at hrx <;> repeat' split at hrx
            all_goals simp at hrx
      · simp only [List.mem_cons, List.not_mem_nil, or_false] at hx
        rcases hx with rfl | rfl | rfl
        · simp at hrx
        · simp only at hrx
          repeat' split at hrx
          all_goals simp at hrx
        · simp only at hrx
          split at hrx
          · rename_i hcond
            exact ⟨by simpa using hcond.1, hcond.2⟩
          · cases hrx

theorem attrBad_ident_seen {seen : List Str} {n i : Str} (hn : n ∈ [sAnchor, sGuideline, sPoint, sComponent]) (hi : i ∈ seen) :
    AttrBad rd ver seen n (sIdentifier, i) := by
  have hk := attrKind_identifier n hn
  refine attrBad_iff.2 ⟨(attrKind_mem hk).1, fun k hk' => ?_⟩
  cases hk.symm.trans hk'
  exact readIdent_seen ver hi

theorem ident_elem_decide (lawT : ReadsTrimmed rd) (seen : List Str) {e : Elem} {as : List Attr}
    (hn : e.name = sPoint ∨ e.name = sComponent) (ha : e.attrs = some as) (hnd : (as.map (·.1)).Nodup)
    (h2 : (elemCheck rd ver e).2 = false) (hnf : ∀ r, r ∈ (elemCheck rd ver e).1 → r ∉ findingValueRules) :
    ElemBad rd ver seen e.name as ∨
      (elemCheck rd ver e = ([], false) ∧ ∀ i, i ∈ elemIdent e → i ∉ seen) := by
  have hmem : e.name ∈ [sAnchor, sGuideline, sPoint, sComponent] := by rcases hn with h | h <;> simp [h]
  by_cases hc : (elemCheck rd ver e).1 = []
  · have hclean : elemCheck rd ver e = ([], false) := Prod.ext hc h2
    rw [elemIdent_eq ha]
    cases hg : Spec.get as "identifier" with
    | none => exact .inr ⟨hclean, nofun⟩
    | some i =>
      by_cases hi : i ∈ seen
      · exact .inl (.attr (sIdentifier, i) (get_mem hg) (attrBad_ident_seen hmem hi))
      · exact .inr ⟨hclean, fun j hj => List.mem_singleton.1 hj ▸ hi⟩
  · obtain ⟨r, hr⟩ := List.exists_mem_of_ne_nil _ hc
    refine .inl (elemBad_of_rule lawT (by rcases hn with h | h <;> simp [h]) ha hnd hr (hnf r hr) fun hv => ?_)
    obtain ⟨_, hcomponent, hpoint, _⟩ :=
      elemNames.bodyOnly e.name (by rcases (v1_element_names (hv ▸ hr)).2 with h | h | h <;> simp [h])
    exact hn.elim hpoint hcomponent

end

end Glif
