import Norad.Spec.C20
import Norad.Lemmas.C11
/-!
# C20 — the drawing loop against the segment specification

On well-formed segments (`SegOK`) the loop of `to_kurbo` draws `flatMap specEls ∘ segments` (`go_eq_spec`).  The rotation
of a closed contour yields `s :: post ++ pre ++ [s]`, the walk from its last on-curve point back to it; `segments_run`
ties the queue along the walk to C11's `trailOffs`.
-/
namespace C20
open C11 (trailOffs)

variable {α : Type}

theorem qcurveArm_eq_quads (mid : α → α → α) (offs : List α) (e : α) :
    qcurveArm mid offs e = quads mid offs e := by
  fun_induction quads mid offs e <;> simp_all [qcurveArm, qcurveLoop]

/-- what the loop needs of a segment to draw it as specified -/
def SegOK (s : List α × Pt α) : Prop :=
  (s.2.typ = .line ∨ s.2.typ = .move → s.1 = []) ∧ (s.2.typ = .curve → s.1.length ≤ 2)

theorem segments_cons_off {p : Pt α} (h : p.typ = .off) (offs : List α) (ps : List (Pt α)) :
    segments offs (p :: ps) = segments (offs ++ [p.pos]) ps := by rw [segments, if_pos h]

theorem segments_cons_on {p : Pt α} (h : p.typ ≠ .off) (offs : List α) (ps : List (Pt α)) :
    segments offs (p :: ps) = (offs, p) :: segments [] ps := by rw [segments, if_neg h]

theorem curveArm_eq_spec (mid : α → α → α) (offs : List α) (p : Pt α) (ht : p.typ = .curve)
    (h : offs.length ≤ 2) : curveArm offs p.pos = .ok (specEls mid (offs, p)) := by
  match offs, h with
  | [], _ | [_], _ | [_, _], _ => simp [curveArm, specEls, ht]
  | _ :: _ :: _ :: _, h3 => simp at h3

theorem go_cons_on (mid : α → α → α) (offs : List α) {p : Pt α} (ps : List (Pt α)) (hp : p.typ ≠ .off)
    (h : SegOK (offs, p)) : go mid offs (p :: ps) = prepend (specEls mid (offs, p)) (go mid [] ps) := by
  rw [go]
  cases ht : p.typ with
  | off => exact absurd ht hp
  | curve => simp only [curveArm_eq_spec mid offs p ht (h.2 ht)]
  | qcurve => simp only [qcurveArm_eq_quads, specEls, ht]
  | move => cases h.1 (.inr ht); simp only [specEls, ht]
  | line => cases h.1 (.inl ht); simp only [specEls, ht]

theorem go_eq_spec (mid : α → α → α) (ps : List (Pt α)) (offs : List α)
    (h : ∀ s ∈ segments offs ps, SegOK s) :
    go mid offs ps = .ok ((segments offs ps).flatMap (specEls mid)) := by
  induction ps generalizing offs with
  | nil => rfl
  | cons p ps ih =>
    by_cases hp : p.typ = .off
    · rw [segments_cons_off hp] at h ⊢
      rw [go, hp]; exact ih _ h
    · rw [segments_cons_on hp] at h ⊢
      rw [List.forall_mem_cons] at h
      rw [go_cons_on mid offs ps hp h.1, ih [] h.2]; rfl

theorem segments_offs_prefix (post rest : List (Pt α)) (offs : List α)
    (h : ∀ q ∈ post, q.typ = .off) :
    segments offs (post ++ rest) = segments (offs ++ post.map (·.pos)) rest := by
  induction post generalizing offs with
  | nil => simp
  | cons q qs ih =>
    rw [List.forall_mem_cons] at h
    rw [List.cons_append, segments_cons_off h.1, ih _ h.2, List.map_cons, List.append_assoc]; rfl

theorem segments_endpoints (ps : List (Pt α)) (offs : List α) :
    (segments offs ps).map (·.2) = ps.filter (fun p => p.typ != .off) := by
  induction ps generalizing offs with
  | nil => rfl
  | cons p ps ih =>
    by_cases hp : p.typ = .off
    · simp [segments_cons_off hp, hp, ih]
    · simp [segments_cons_on hp, hp, ih]

/-- `hne`: a queue with no point left to flush it would be lost -/
theorem segments_cover (ps : List (Pt α)) (offs : List α)
    (hlast : ∀ q, ps.getLast? = some q → q.typ ≠ .off) (hne : ps = [] → offs = []) :
    (segments offs ps).flatMap (fun s => s.1 ++ [s.2.pos]) = offs ++ ps.map (·.pos) := by
  induction ps generalizing offs with
  | nil => simp [segments, hne rfl]
  | cons p ps ih =>
    have hl : ∀ q, ps.getLast? = some q → q.typ ≠ .off :=
      fun q hq => hlast q (by rw [List.getLast?_cons, hq]; rfl)
    by_cases hp : p.typ = .off
    · have hps : ps ≠ [] := by rintro rfl; exact hlast p rfl hp
      simp [segments_cons_off hp, ih _ hl (absurd · hps)]
    · simp [segments_cons_on hp, ih [] hl fun _ => rfl]

theorem segments_snoc (w : List (Pt α)) (s : Pt α) (offs : List α) (hs : s.typ ≠ .off) :
    ∃ o, segments offs (w ++ [s]) = segments offs w ++ [(o, s)] := by
  induction w generalizing offs with
  | nil => exact ⟨offs, segments_cons_on hs offs []⟩
  | cons p ps ih =>
    by_cases hp : p.typ = .off
    · simpa only [List.cons_append, segments_cons_off hp] using ih _
    · obtain ⟨o, ho⟩ := ih []
      exact ⟨o, by rw [List.cons_append, segments_cons_on hp, segments_cons_on hp, ho]; rfl⟩

/-- what `Legal` guarantees of every segment of the outline -/
def SegGood (s : List α × Pt α) : Prop :=
  SegOK s ∧ s.2.typ ≠ .off ∧ s.2.typ ≠ .move

/-- The queue is as long as the run of off-curves C11 counts (`pre0`: what came before the walk `w`): an
    off-curve lengthens both, an on-curve point empties both.  Hence C11's rule at a point bounds its segment. -/
theorem segments_run (w : List (Pt α)) (offs : List α) (pre0 : List C11.Pt)
    (h0 : offs.length = trailOffs pre0)
    (hrule : ∀ a p b, w = a ++ p :: b → p.typ ≠ .move ∧
      (p.typ = .line → trailOffs (pre0 ++ a.map (·.base)) = 0) ∧
      (p.typ = .curve → trailOffs (pre0 ++ a.map (·.base)) ≤ 2)) :
    ∀ s ∈ segments offs w, SegGood s := by
  induction w generalizing offs pre0 with
  | nil => intro s hs; cases hs
  | cons p ps ih =>
    rw [C11.forall_split_cons] at hrule
    obtain ⟨⟨hmv, hline, hcurve⟩, htail⟩ := hrule
    rw [List.map_nil, List.append_nil, ← h0] at hline hcurve
    have ih' : ∀ offs', offs'.length = trailOffs (pre0 ++ [p.base]) → ∀ s ∈ segments offs' ps, SegGood s :=
      fun offs' h' => ih offs' _ h' fun a q b hab => by rw [List.append_assoc]; exact htail a q b hab
    rw [C11.trailOffs_snoc] at ih'
    by_cases hp : p.typ = .off
    · rw [segments_cons_off hp]
      exact ih' _ (by rw [if_pos hp, List.length_append, h0]; rfl)
    · rw [segments_cons_on hp, List.forall_mem_cons]
      refine ⟨⟨⟨?_, hcurve⟩, hp, hmv⟩, ih' [] (by rw [if_neg hp]; rfl)⟩
      rintro (hl | hm)
      · exact List.eq_nil_of_length_eq_zero (hline hl)
      · exact absurd hm hmv

theorem splitLastOn_none (pts : List (Pt α)) (h : splitLastOn pts = none) :
    ∀ q ∈ pts, q.typ = .off := by
  revert h
  fun_induction splitLastOn pts with
  | case1 => simp
  | case2 | case4 => nofun
  | case3 p ps hr hp ih => exact fun _ => List.forall_mem_cons.2 ⟨hp, ih hr⟩

theorem splitLastOn_some (pts pre post : List (Pt α)) (s : Pt α)
    (h : splitLastOn pts = some (pre, s, post)) :
    pts = pre ++ s :: post ∧ s.typ ≠ .off ∧ ∀ q ∈ post, q.typ = .off := by
  revert h
  fun_induction splitLastOn pts generalizing pre with
  | case1 | case3 => nofun
  | case2 p ps pre' s' post' hr ih =>
    rintro ⟨⟩
    obtain ⟨h1, h2, h3⟩ := ih pre' hr
    exact ⟨by rw [h1]; rfl, h2, h3⟩
  | case4 p ps hr hp => rintro ⟨⟩; exact ⟨rfl, hp, splitLastOn_none _ hr⟩

-- not core's `List.filter_eq_nil_iff`, which rests on `Classical.choice`: `toKurbo_eq_spec`, `no_point_lost`,
-- `closed_returns_to_start` and `starts_at_move_or_oncurve` are free of it and rest on this
theorem filter_offs (l : List (Pt α)) (h : ∀ q ∈ l, q.typ = .off) : l.filter (fun p => p.typ != .off) = [] := by
  induction l with
  | nil => rfl
  | cons q l ih =>
    rw [List.forall_mem_cons] at h
    rw [List.filter_cons_of_neg (by rw [h.1]; decide), ih h.2]

theorem rotateIdx_none (pts : List (Pt α)) (h : ∀ q ∈ pts, q.typ = .off) : rotateIdx pts = none := by
  rw [rotateIdx, List.findIdx?_eq_none_iff.2 fun q hq => by simp [h q (List.mem_reverse.1 hq)]]

theorem rotateIdx_split (pre post : List (Pt α)) (s : Pt α) (hs : s.typ ≠ .off)
    (hpost : ∀ q ∈ post, q.typ = .off) :
    rotateIdx (pre ++ s :: post) = some pre.length := by
  have hidx : (post.reverse ++ s :: pre.reverse).findIdx? (fun p => p.typ != .off) = some post.length := by
    rw [List.findIdx?_append,
      List.findIdx?_eq_none_iff.2 fun q hq => by simp [hpost q (List.mem_reverse.1 hq)]]
    simp [List.findIdx?_cons, hs]
  rw [rotateIdx, List.reverse_append, List.reverse_cons, List.append_assoc, List.singleton_append, hidx]
  -- `len - 1 - idx` with `len = |pre| + (|post| + 1)` and `idx = |post|`
  show some ((pre ++ s :: post).length - 1 - post.length) = some pre.length
  rw [List.length_append, List.length_cons, ← Nat.add_assoc, Nat.add_sub_cancel, Nat.add_sub_cancel]

theorem cycleSkipTake_split (pre post : List (Pt α)) (s : Pt α) :
    cycleSkipTake (pre ++ s :: post) pre.length ((pre ++ s :: post).length + 1)
      = s :: (post ++ pre ++ [s]) := by
  have h1 : ((pre ++ s :: post) ++ (pre ++ s :: post)).drop pre.length
      = (s :: (post ++ pre ++ [s])) ++ post := by
    rw [List.append_assoc, List.drop_left' rfl]; simp
  have h2 : (s :: (post ++ pre ++ [s])).length = (pre ++ s :: post).length + 1 := by
    simp only [List.length_cons, List.length_append, List.length_nil]; omega
  rw [cycleSkipTake, h1, List.take_left' h2]

theorem cycleSkipTake_zero (pts : List (Pt α)) : cycleSkipTake pts 0 pts.length = pts := by
  simp [cycleSkipTake]

theorem isClosed_eq (pts : List (Pt α)) : isClosed pts = C11.isClosed (pts.map (·.base)) := by
  cases pts with
  | nil => rfl
  | cons p ps => simp only [isClosed, C11.isClosed, Pt.typ, List.map_cons]; cases p.base.typ <;> decide

/-- the `zip(points, points.cycle().skip(1))` of the off-curve-only block; `a` and `x` are both the first point in
    use, separate so that the induction can move `a` -/
theorem allOff_zip (mid : α → α → α) (x : Pt α) (a : Pt α) (l : List (Pt α)) (last : Pt α)
    (hl : (a :: l).getLast? = some last) :
    ((a :: l).zip (l ++ [x])).map (fun pn => El.quadTo pn.1.pos (mid pn.1.pos pn.2.pos))
      = quads mid ((a :: l).map (·.pos)) (mid last.pos x.pos) := by
  induction l generalizing a with
  | nil => cases hl; rfl
  | cons b r ih =>
    exact congrArg _ (ih b hl)

theorem quads_ne_nil (mid : α → α → α) (o : List α) (e : α) : quads mid o e ≠ [] := by
  fun_induction quads mid o e <;> simp

theorem quads_last (mid : α → α → α) (o : List α) (e : α) :
    (quads mid o e).getLast?.bind El.endPt = some e := by
  fun_induction quads mid o e with
  | case3 a b r e ih => rwa [List.getLast?_cons_of_ne_nil (quads_ne_nil mid (b :: r) e)]
  | _ => rfl

theorem quads_noMove (mid : α → α → α) (o : List α) (e : α) :
    ∀ x ∈ quads mid o e, x.isMove = false := by
  fun_induction quads mid o e with
  | case3 a b r e ih => exact List.forall_mem_cons.2 ⟨rfl, ih⟩
  | _ => exact List.forall_mem_cons.2 ⟨rfl, nofun⟩

theorem quads_sublist (mid : α → α → α) (o : List α) (e : α) :
    List.Sublist (o ++ [e]) ((quads mid o e).flatMap El.points) := by
  fun_induction quads mid o e with
  | case3 a b r e ih => exact (ih.cons _).cons_cons a
  | _ => simp [El.points]

theorem quads_length (mid : α → α → α) (o : List α) (e : α) : (quads mid o e).length = max 1 o.length := by
  fun_induction quads mid o e <;> simp_all <;> omega

section specEls
variable (mid : α → α → α) {p : Pt α} (o : List α)

theorem specEls_move (h : p.typ = .move) : specEls mid (o, p) = [.moveTo p.pos] := by simp [specEls, h]

theorem specEls_line (h : p.typ = .line) : specEls mid (o, p) = [.lineTo p.pos] := by simp [specEls, h]

theorem specEls_qcurve (h : p.typ = .qcurve) : specEls mid (o, p) = quads mid o p.pos := by
  simp [specEls, h]

theorem specEls_curve (h : p.typ = .curve) :
    ∃ x, specEls mid (o, p) = [x] ∧ x.isMove = false ∧ x.endPt = some p.pos ∧
      (o.length ≤ 2 → x.points = o ++ [p.pos]) := by
  simp only [specEls, h]
  match o with
  | [] | [_] | [_, _] => exact ⟨_, rfl, rfl, rfl, fun _ => rfl⟩
  | _ :: _ :: _ :: _ => exact ⟨_, rfl, rfl, rfl, fun h => absurd h (by simp)⟩

end specEls

theorem specEls_good (mid : α → α → α) (s : List α × Pt α) (h : SegGood s) :
    (specEls mid s).getLast?.bind El.endPt = some s.2.pos ∧ (∀ x ∈ specEls mid s, x.isMove = false) ∧
      List.Sublist (s.1 ++ [s.2.pos]) ((specEls mid s).flatMap El.points) := by
  obtain ⟨o, p⟩ := s
  obtain ⟨⟨hl, hc⟩, hoff, hmv⟩ := h
  cases ht : p.typ with
  | move => exact absurd ht hmv
  | off => exact absurd ht hoff
  | line =>
    cases hl (.inl ht)
    rw [specEls_line mid _ ht]
    exact ⟨rfl, List.forall_mem_singleton.2 rfl, .refl _⟩
  | qcurve =>
    rw [specEls_qcurve mid o ht]
    exact ⟨quads_last mid o p.pos, quads_noMove mid o p.pos, quads_sublist mid o p.pos⟩
  | curve =>
    obtain ⟨x, hx, hm, he, hp⟩ := specEls_curve mid o ht
    rw [hx, List.flatMap_singleton, hp (hc ht)]
    exact ⟨he, List.forall_mem_singleton.2 hm, .refl _⟩

theorem specEls_length (mid : α → α → α) (s : List α × Pt α) : (specEls mid s).length = segWidth s := by
  obtain ⟨o, p⟩ := s
  cases ht : p.typ with
  | move => simp [specEls_move mid o ht, segWidth, ht]
  | off => simp [specEls, segWidth, ht]
  | line => simp [specEls_line mid o ht, segWidth, ht]
  | qcurve => simp [specEls_qcurve mid o ht, quads_length, segWidth, ht]
  | curve => obtain ⟨x, hx, -⟩ := specEls_curve mid o ht; simp [hx, segWidth, ht]

theorem getLast?_append_bind {β γ : Type} {l l' : List β} {f : β → Option γ} {y : γ}
    (h : l'.getLast?.bind f = some y) : (l ++ l').getLast?.bind f = some y := by
  cases hl : l'.getLast? <;> simp_all

theorem chunks_flatMap {β γ : Type} (l : List β) (f : β → List γ) :
    chunks (l.map fun x => (f x).length) (l.flatMap f) = some (l.map f) := by
  induction l with
  | nil => rfl
  | cons x xs ih =>
    simp only [List.map_cons, List.flatMap_cons, chunks, List.length_append]
    rw [if_neg (by omega), List.drop_left, ih, List.take_left]

theorem isSublist_eq [DecidableEq α] (a b : List α) : isSublist a b = a.isSublist b := by
  fun_induction isSublist a b <;> simp_all [List.isSublist]

theorem isSublist_of_sublist [DecidableEq α] (a b : List α) (h : List.Sublist a b) : isSublist a b = true :=
  (isSublist_eq a b).trans (List.isSublist_iff_sublist.2 h)

end C20
