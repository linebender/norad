import Norad.Model.C07
import Norad.Spec.C07
/-!
Helper lemmas for C07: the `Option`-valued transcription never panics on a character boundary and equals the
closed form `candidate`; what the candidates look like (characters, length, first and last character, affixes,
reserved names).
-/
namespace C07

@[simp] theorem usize_nil : usize [] = 0 := rfl
@[simp] theorem usize_cons (c : Char) (s : Str) : usize (c :: s) = c.utf8Size + usize s := by
  simp [usize]
@[simp] theorem usize_append (a b : Str) : usize (a ++ b) = usize a + usize b := by
  induction a with
  | nil => simp
  | cons c a ih => simp only [List.cons_append, usize_cons, ih]; omega

theorem usize_prefix_le {p s : Str} (h : p <+: s) : usize p ≤ usize s := by
  obtain ⟨t, rfl⟩ := h; simp

theorem usize_le_4len (s : Str) : usize s ≤ 4 * s.length := by
  induction s with
  | nil => exact Nat.le_refl _
  | cons c s ih => have := c.utf8Size_le_four; simp only [usize_cons, List.length_cons]; omega

theorem usize_of_ascii {s : Str} (h : ∀ c ∈ s, c.utf8Size = 1) : usize s = s.length := by
  induction s with
  | nil => rfl
  | cons c s ih =>
    rw [usize_cons, h c List.mem_cons_self, ih fun x hx => h x (List.mem_cons_of_mem _ hx), List.length_cons]
    omega

theorem takeBytes_cons (n : Nat) (c : Char) (cs : Str) :
    takeBytes n (c :: cs) = if c.utf8Size ≤ n then c :: takeBytes (n - c.utf8Size) cs else [] := by
  rw [takeBytes]

theorem takeBytes_prefix (n : Nat) (s : Str) : takeBytes n s <+: s := by
  fun_induction takeBytes n s with
  | case1 => exact List.prefix_refl _
  | case2 n c cs _ ih => exact List.cons_prefix_cons.2 ⟨rfl, ih⟩
  | case3 => exact List.nil_prefix

theorem usize_takeBytes_le (n : Nat) (s : Str) : usize (takeBytes n s) ≤ n := by
  fun_induction takeBytes n s with
  | case1 => exact Nat.zero_le _
  | case2 n c cs _ ih => rw [usize_cons]; omega
  | case3 => exact Nat.zero_le _

/-- the cut is at most 3 bytes below the requested index (a character has at most 4 bytes) -/
theorem takeBytes_gap {n : Nat} {s : Str} (h : n < usize s) : n < usize (takeBytes n s) + 4 := by
  fun_induction takeBytes n s with
  | case1 => exact absurd h (Nat.not_lt_zero _)
  | case2 n c cs _ ih => rw [usize_cons] at h ⊢; have := ih (by omega); omega
  | case3 n c cs _ => have := c.utf8Size_le_four; rw [usize_cons] at h; rw [usize_nil]; omega

theorem takeBytes_append_prefix {n : Nat} (p e : Str) (h : usize p ≤ n) :
    takeBytes n (p ++ e) = p ++ takeBytes (n - usize p) e := by
  induction p generalizing n with
  | nil => rfl
  | cons c p ih =>
    rw [usize_cons] at h
    rw [List.cons_append, takeBytes_cons, if_pos (by omega), ih (by omega), usize_cons, Nat.sub_add_eq]
    rfl

theorem takeBytes_of_le {n : Nat} {s : Str} (h : usize s ≤ n) : takeBytes n s = s := by
  have := takeBytes_append_prefix s [] h
  rwa [List.append_nil, takeBytes, List.append_nil] at this

theorem takeBytes_keeps_prefix {p s : Str} {n : Nat} (hp : p <+: s) (hn : usize p ≤ n) :
    p <+: takeBytes n s := by
  obtain ⟨t, rfl⟩ := hp
  rw [takeBytes_append_prefix p t hn]
  exact List.prefix_append _ _

theorem takeBytes_append_left {n : Nat} {a : Str} (b : Str) (h : n ≤ usize a) :
    takeBytes n (a ++ b) = takeBytes n a := by
  induction a generalizing n with
  | nil =>
    cases Nat.le_zero.1 h
    cases b with
    | nil => rfl
    | cons c cs => rw [List.nil_append, takeBytes_cons, if_neg (Nat.not_le.2 c.utf8Size_pos)]; rfl
  | cons c cs ih =>
    rw [usize_cons] at h
    rw [List.cons_append, takeBytes_cons, takeBytes_cons]
    split
    · rw [ih (by omega)]
    · rfl

theorem takeBytes_ne_nil {s : Str} {n : Nat} (hs : s ≠ []) (hn : 4 ≤ n) : takeBytes n s ≠ [] := by
  cases s with
  | nil => exact absurd rfl hs
  | cons c cs =>
    have := c.utf8Size_le_four
    rw [takeBytes_cons, if_pos (by omega)]
    exact List.cons_ne_nil _ _

theorem takeBytes_stable {m k : Nat} {s : Str} (h1 : usize (takeBytes m s) ≤ k) (h2 : k ≤ m) :
    takeBytes k s = takeBytes m s := by
  fun_induction takeBytes m s generalizing k with
  | case1 => rfl
  | case2 m c cs hc ih => rw [usize_cons] at h1; rw [takeBytes_cons, if_pos (by omega), ih (by omega) (by omega)]
  | case3 m c cs hc => rw [takeBytes_cons, if_neg (by omega)]

theorem isCharBoundary_iff (s : Str) (n : Nat) :
    isCharBoundary s n = true ↔ usize (takeBytes n s) = n := by
  induction s generalizing n with
  | nil => cases n <;> simp [isCharBoundary, takeBytes]
  | cons c cs ih =>
    have := c.utf8Size_pos
    cases n with
    | zero => simp [isCharBoundary, takeBytes_cons, Nat.not_le.2 this]
    | succ n =>
      rw [isCharBoundary, takeBytes_cons]
      split
      · rw [ih, usize_cons]; omega
      · simp

theorem backoff_eq (s : Str) (n : Nat) : backoff s n = usize (takeBytes n s) := by
  induction n with
  | zero => exact (Nat.le_zero.1 (usize_takeBytes_le 0 s)).symm
  | succ n ih =>
    rw [backoff]
    split
    · rename_i h; exact ((isCharBoundary_iff s (n + 1)).1 h).symm
    · rename_i h
      rw [isCharBoundary_iff] at h
      have hle := usize_takeBytes_le (n + 1) s
      rw [ih, takeBytes_stable (m := n + 1) (k := n) (by omega) (by omega)]

theorem truncateAt_cons (c : Char) (cs : Str) {n : Nat} (h : 0 < n) :
    truncateAt (c :: cs) n = if c.utf8Size ≤ n then (truncateAt cs (n - c.utf8Size)).map (c :: ·) else none := by
  cases n with
  | zero => cases h
  | succ n => rw [truncateAt]

theorem truncateAt_prefix (p t : Str) : truncateAt (p ++ t) (usize p) = some p := by
  induction p with
  | nil => cases t <;> rfl
  | cons c p ih =>
    have := c.utf8Size_pos
    rw [usize_cons, List.cons_append, truncateAt_cons _ _ (by omega), if_pos (Nat.le_add_right _ _),
      Nat.add_sub_cancel_left, ih]
    rfl

theorem truncateAt_backoff (s : Str) (n : Nat) :
    truncateAt s (backoff s n) = some (takeBytes n s) := by
  obtain ⟨t, ht⟩ := takeBytes_prefix n s
  have := truncateAt_prefix (takeBytes n s) t
  rwa [ht, ← backoff_eq] at this

variable {U : Char → Bool} {lower : Str → Str} {accept : Nat → Str → Bool} {name pre suf : Str}

theorem escChar_ne_nil (U : Char → Bool) (b : Bool) (c : Char) : escChar U b c ≠ [] := by
  fun_cases escChar U b c <;> exact List.cons_ne_nil _ _

theorem escapeInto_eq (acc : Str) :
    escapeInto U acc name = acc ++ escape U acc.isEmpty name := by
  induction name generalizing acc with
  | nil => exact (List.append_nil _).symm
  | cons c cs ih =>
    have : (acc ++ escChar U acc.isEmpty c).isEmpty = false := by simp [escChar_ne_nil]
    rw [escapeInto, escape, ih, this, List.append_assoc]

theorem clip_eq (suf r : Str) :
    clip suf r = some (if usize r + usize suf > maxLen then takeBytes (maxLen - usize suf) r else r) := by
  unfold clip
  split
  · exact truncateAt_backoff _ _
  · rfl

theorem firstCandidate_eq :
    firstCandidate U name pre suf = some (body U name pre suf ++ suf) := by
  rw [firstCandidate, clip_eq, escapeInto_eq]; rfl

theorem cutForCounter_eq (b suf : Str) :
    cutForCounter (b ++ suf) suf =
      some (if usize b + numberLen > maxLen then takeBytes (maxLen - usize suf - numberLen) b else b) := by
  have h : usize (b ++ suf) - usize suf = usize b := by rw [usize_append]; omega
  rw [cutForCounter, h]
  split
  · rename_i hc
    rw [truncateAt_backoff, takeBytes_append_left]
    simp only [maxLen, numberLen] at hc ⊢; omega  -- `255 - usize suf - 2 ≤ usize b` from `usize b + 2 > 255`
  · exact truncateAt_prefix _ _

theorem candidate_zero :
    candidate U name pre suf 0 = body U name pre suf ++ suf := rfl

theorem candidate_pos {k : Nat} (hk : 0 < k) :
    candidate U name pre suf k = counterBase U name pre suf ++ twoDigits k ++ suf :=
  if_neg (Nat.ne_of_gt hk)

theorem tryCounters_eq_find (fuel : Nat) {k : Nat} (hk : 0 < k) :
    tryCounters lower accept (counterBase U name pre suf) suf fuel k =
      ((List.range' k fuel).find? fun i => accept i (lower (candidate U name pre suf i))).map
        (candidate U name pre suf) := by
  induction fuel generalizing k with
  | zero => rfl
  | succ fuel ih =>
    rw [tryCounters, List.range'_succ, List.find?_cons, ← candidate_pos hk]
    cases accept k (lower (candidate U name pre suf k)) with
    | true => rfl
    | false => exact ih (Nat.succ_pos k)

theorem fileName_unfold :
    userNameToFileName U lower name pre suf accept =
      if accept 0 (lower (body U name pre suf ++ suf)) then some (body U name pre suf ++ suf)
      else tryCounters lower accept (counterBase U name pre suf) suf 99 1 := by
  simp only [userNameToFileName, firstCandidate_eq, cutForCounter_eq]
  rfl

theorem fileName_eq_find :
    userNameToFileName U lower name pre suf accept =
      ((List.range' 0 100).find? fun k => accept k (lower (candidate U name pre suf k))).map
        (candidate U name pre suf) := by
  rw [fileName_unfold, tryCounters_eq_find 99 Nat.one_pos,
    List.range'_succ (n := 99), List.find?_cons, candidate_zero]
  cases accept 0 (lower (body U name pre suf ++ suf)) <;> rfl

theorem getLast?_append_of_ne_nil (l : Str) {m : Str} (h : m ≠ []) : (l ++ m).getLast? = m.getLast? := by
  rw [List.getLast?_append, List.getLast?_eq_some_getLast h, Option.some_or]

theorem isDotSp_eq_false {c : Char} : isDotSp c = false ↔ c ≠ '.' ∧ c ≠ ' ' := by
  simp [isDotSp]

theorem dotsp_size {c : Char} (h : isDotSp c = true) : c.utf8Size = 1 := by
  simp only [isDotSp, Bool.or_eq_true, beq_iff_eq] at h
  rcases h with rfl | rfl <;> rfl

theorem fixTrailing_append_dotsp {a d : Str} (hd : ∀ c ∈ d, isDotSp c = true)
    (ha : ∀ x, a.getLast? = some x → isDotSp x = false) :
    fixTrailing (a ++ d) = a ++ List.replicate d.length '_' := by
  have h1 : (a ++ d).reverse.takeWhile isDotSp = d.reverse := by
    rw [List.reverse_append, List.takeWhile_append_of_pos fun c hc => hd c (List.mem_reverse.1 hc)]
    cases h : a.reverse with
    | nil => exact List.append_nil _
    | cons y ys =>
      rw [List.takeWhile_cons, ha y (by rw [← List.head?_reverse, h]; rfl), if_neg Bool.false_ne_true,
        List.append_nil]
  simp only [fixTrailing, h1, List.length_reverse, List.length_append, Nat.add_sub_cancel, List.take_left' rfl]

/-- the `ends_with` guard of util.rs:128 -/
theorem fixTrailing_eq_self {r : Str} (h : ∀ x, r.getLast? = some x → isDotSp x = false) : fixTrailing r = r := by
  have := fixTrailing_append_dotsp (a := r) (d := []) nofun h
  rwa [List.append_nil, List.length_nil, List.replicate_zero, List.append_nil] at this

theorem fixTrailing_decomp (s : Str) :
    ∃ a d, s = a ++ d ∧ (∀ c ∈ d, isDotSp c = true) ∧ (∀ x, a.getLast? = some x → isDotSp x = false) ∧
      fixTrailing s = a ++ List.replicate d.length '_' := by
  have hs : s = (s.reverse.dropWhile isDotSp).reverse ++ (s.reverse.takeWhile isDotSp).reverse := by
    rw [← List.reverse_append, List.takeWhile_append_dropWhile, List.reverse_reverse]
  have hd : ∀ c ∈ (s.reverse.takeWhile isDotSp).reverse, isDotSp c = true := fun c hc =>
    List.all_eq_true.1 List.all_takeWhile c (List.mem_reverse.1 hc)
  have ha : ∀ x, (s.reverse.dropWhile isDotSp).reverse.getLast? = some x → isDotSp x = false := fun x hx => by
    have := List.head?_dropWhile_not isDotSp s.reverse
    rwa [← List.getLast?_reverse, hx] at this
  exact ⟨_, _, hs, hd, ha, (congrArg fixTrailing hs).trans (fixTrailing_append_dotsp hd ha)⟩

theorem fixTrailing_usize (s : Str) : usize (fixTrailing s) = usize s := by
  obtain ⟨a, d, rfl, hd, _, hf⟩ := fixTrailing_decomp s
  rw [hf, usize_append, usize_append, usize_of_ascii fun c hc => dotsp_size (hd c hc),
    usize_of_ascii fun c hc => (List.mem_replicate.1 hc).2 ▸ rfl, List.length_replicate]

theorem fixTrailing_mem {s : Str} {c : Char} (h : c ∈ fixTrailing s) : c ∈ s ∨ c = '_' := by
  obtain ⟨a, d, rfl, _, _, hf⟩ := fixTrailing_decomp s
  rw [hf] at h
  exact (List.mem_append.1 h).imp (List.mem_append_left _) fun h => (List.mem_replicate.1 h).2

theorem fixTrailing_last (s : Str) : ∀ x, (fixTrailing s).getLast? = some x → isDotSp x = false := by
  obtain ⟨a, d, rfl, _, ha, hf⟩ := fixTrailing_decomp s
  intro x hx
  rw [hf, List.getLast?_append, List.getLast?_replicate] at hx
  split at hx
  · exact ha x hx
  · cases hx; rfl

theorem fixTrailing_head (s : Str) : ∀ x, (fixTrailing s).head? = some x → x = '_' ∨ s.head? = some x := by
  obtain ⟨a, d, rfl, _, _, hf⟩ := fixTrailing_decomp s
  intro x hx
  rw [hf, List.head?_append] at hx
  cases a with
  | nil =>
    rw [List.head?_nil, Option.none_or, List.head?_replicate] at hx
    split at hx <;> cases hx
    exact .inl rfl
  | cons y ys => exact .inr hx

theorem fixTrailing_append_of_not_all (p : Str) {s : Str} (h : s.all isDotSp = false) :
    fixTrailing (p ++ s) = p ++ fixTrailing s := by
  obtain ⟨a, d, rfl, hd, ha, hf⟩ := fixTrailing_decomp s
  have hne : a ≠ [] := by
    rintro rfl
    rw [List.nil_append, List.all_eq_true.2 hd] at h
    cases h
  rw [hf, ← List.append_assoc, ← List.append_assoc, fixTrailing_append_dotsp hd]
  intro x hx
  rw [getLast?_append_of_ne_nil _ hne] at hx
  exact ha x hx

open Spec

abbrev Good (c : Char) : Prop := goodChar c = true

theorem good_underscore : Good '_' := by decide +kernel

theorem illegalChars_sub : ∀ x ∈ illegalChars, x ∈ illegal := by decide +kernel

theorem good_of_name {c : Char} (h1 : c ∉ illegal) (h2 : isControl c = false) : Good c := by
  have : illegalChars.contains c = false :=
    Bool.eq_false_iff.2 fun hc => h1 (illegalChars_sub c (List.contains_iff_mem.1 hc))
  simp only [Good, goodChar, this, h2, Bool.not_false, Bool.and_self]

structure DigitChar (c : Char) : Prop where
  good : Good c
  notDotSp : isDotSp c = false
  ne_dot : c ≠ '.'
  lower : asciiLower c = c
  size : c.utf8Size = 1
  isDigit : c.isDigit = true

theorem digit_props (n : Nat) : DigitChar (digit n) := by
  have h : ∀ m < 10, Good (digit m) ∧ isDotSp (digit m) = false ∧ digit m ≠ '.' ∧ asciiLower (digit m) = digit m ∧
      (digit m).utf8Size = 1 ∧ (digit m).isDigit = true := by decide +kernel
  rw [show digit n = digit (n % 10) by rw [digit, digit, Nat.mod_mod]]
  obtain ⟨h1, h2, h3, h4, h5, h6⟩ := h _ (Nat.mod_lt n (by decide))
  exact ⟨h1, h2, h3, h4, h5, h6⟩

theorem escChar_good {b : Bool} {c : Char} (hc : isControl c = false) :
    ∀ x ∈ escChar U b c, Good x := by
  fun_cases escChar U b c
  · exact List.forall_mem_cons.2 ⟨good_underscore, nofun⟩
  · exact List.forall_mem_cons.2 ⟨good_underscore, nofun⟩
  next hi _ => exact List.forall_mem_cons.2 ⟨good_of_name hi hc, List.forall_mem_cons.2 ⟨good_underscore, nofun⟩⟩
  next hi _ => exact List.forall_mem_cons.2 ⟨good_of_name hi hc, nofun⟩

theorem escape_good {b : Bool}
    (h : ∀ c ∈ name, isControl c = false) : ∀ x ∈ escape U b name, Good x := by
  induction name generalizing b with
  | nil => nofun
  | cons c cs ih =>
    obtain ⟨hc, hcs⟩ := List.forall_mem_cons.1 h
    exact List.forall_mem_append.2 ⟨escChar_good hc, ih hcs⟩

theorem insertReserved_mem {r : Str} {c : Char} (h : c ∈ insertReserved r) : c = '_' ∨ c ∈ r := by
  unfold insertReserved at h
  split at h
  · exact List.mem_cons.1 h
  · exact .inr h

theorem stem_cons (c : Char) (s : Str) : stem (c :: s) = if c ≠ '.' then c :: stem s else [] := by
  unfold stem; rw [List.takeWhile_cons]; by_cases h : c = '.' <;> simp [h]

theorem stem_append_of_mem {x : Str} (y : Str) (h : '.' ∈ x) : stem (x ++ y) = stem x := by
  induction x with
  | nil => cases h
  | cons c x ih =>
    rw [List.cons_append, stem_cons, stem_cons]
    split
    · rename_i hc
      rw [ih ((List.mem_cons.1 h).resolve_left (Ne.symm hc))]
    · rfl

theorem stem_append_of_not_mem {x : Str} (y : Str) (h : '.' ∉ x) : stem (x ++ y) = x ++ stem y :=
  List.takeWhile_append_of_pos fun _ hc => decide_eq_true fun e => h (e ▸ hc)

/-- the `r1` of the model's `body` -/
def stage1 (U : Char → Bool) (name pre : Str) : Str := insertReserved (pre ++ escape U pre.isEmpty name)

/-- the clipping is `takeBytes` whether or not the string is too long: one that fits is taken whole -/
theorem body_eq :
    body U name pre suf =
      if suf.isEmpty then fixTrailing (takeBytes (maxLen - usize suf) (stage1 U name pre))
      else takeBytes (maxLen - usize suf) (stage1 U name pre) := by
  have : takeBytes (maxLen - usize suf) (stage1 U name pre) =
      if usize (stage1 U name pre) + usize suf > maxLen then takeBytes (maxLen - usize suf) (stage1 U name pre)
      else stage1 U name pre := by
    split
    · rfl
    · exact takeBytes_of_le (by omega)
  rw [this]; rfl

theorem body_usize_le (U : Char → Bool) (name pre suf : Str) : usize (body U name pre suf) ≤ maxLen - usize suf := by
  rw [body_eq]; split
  · rw [fixTrailing_usize]; exact usize_takeBytes_le _ _
  · exact usize_takeBytes_le _ _

theorem counterBase_eq :
    counterBase U name pre suf = if usize (body U name pre suf) + numberLen > maxLen then
      takeBytes (maxLen - usize suf - numberLen) (body U name pre suf) else body U name pre suf := rfl

theorem counterBase_prefix (U : Char → Bool) (name pre suf : Str) :
    counterBase U name pre suf <+: body U name pre suf := by
  rw [counterBase_eq]; split
  · exact takeBytes_prefix _ _
  · exact List.prefix_refl _

/-- the counter always has room behind its base (the suffix does not: util.rs:151 leaves it out) -/
theorem counterBase_usize (U : Char → Bool) (name pre suf : Str) :
    usize (counterBase U name pre suf) + numberLen ≤ maxLen := by
  rw [counterBase_eq]; split
  · have := usize_takeBytes_le (maxLen - usize suf - numberLen) (body U name pre suf)
    simp only [maxLen, numberLen] at this ⊢; omega  -- at most `255 - usize suf - 2` bytes, and 2 for the counter
  · omega

theorem body_mem {c : Char} (h : c ∈ body U name pre suf) :
    c = '_' ∨ c ∈ pre ∨ c ∈ escape U pre.isEmpty name := by
  have key : c ∈ takeBytes (maxLen - usize suf) (stage1 U name pre) →
      c = '_' ∨ c ∈ pre ∨ c ∈ escape U pre.isEmpty name := fun hc =>
    (insertReserved_mem ((takeBytes_prefix _ _).subset hc)).imp_right List.mem_append.1
  rw [body_eq] at h
  split at h
  · exact (fixTrailing_mem h).elim key .inl
  · exact key h

theorem candidate_mem {k : Nat} {c : Char}
    (h : c ∈ candidate U name pre suf k) : c ∈ body U name pre suf ∨ c ∈ twoDigits k ∨ c ∈ suf := by
  unfold candidate candidateFrom at h
  split at h
  · exact (List.mem_append.1 h).imp_right .inr
  · rcases List.mem_append.1 h with h | h
    · exact (List.mem_append.1 h).imp ((counterBase_prefix U name pre suf).subset ·) .inl
    · exact .inr (.inr h)

theorem candidate_good {k : Nat} (hn : ∀ c ∈ name, isControl c = false) (hp : ∀ c ∈ pre, Good c)
    (hs : ∀ c ∈ suf, Good c) :
    ∀ c ∈ candidate U name pre suf k, Good c := by
  intro c hc
  rcases candidate_mem hc with h | h | h
  · rcases body_mem h with rfl | h | h
    · exact good_underscore
    · exact hp c h
    · exact escape_good hn c h
  · rcases List.mem_cons.1 h with rfl | h
    · exact (digit_props _).good
    · cases List.mem_singleton.1 h; exact (digit_props _).good
  · exact hs c h

theorem twoDigits_usize (k : Nat) : usize (twoDigits k) = 2 := by
  simp only [twoDigits, usize_cons, usize_nil, (digit_props _).size]

theorem candidate_len (U : Char → Bool) (name pre : Str) (k : Nat) (hs : usize suf ≤ maxLen) :
    usize (candidate U name pre suf k) ≤ maxLen + 2 ∧
    (k = 0 ∨ suf = [] → usize (candidate U name pre suf k) ≤ maxLen) := by
  have hb := body_usize_le U name pre suf
  cases k with
  | zero => rw [candidate_zero, usize_append]; exact ⟨by omega, fun _ => by omega⟩
  | succ k =>
    have h1 := usize_prefix_le (counterBase_prefix U name pre suf)
    have h2 := counterBase_usize U name pre suf
    rw [candidate_pos (Nat.succ_pos k), usize_append, usize_append, twoDigits_usize]
    rw [numberLen] at h2
    refine ⟨by omega, fun h => ?_⟩
    rcases h with h | rfl
    · cases h
    · rw [usize_nil]; omega

theorem candidate_suffix (U : Char → Bool) (name pre suf : Str) (k : Nat) :
    suf <:+ candidate U name pre suf k := by
  unfold candidate candidateFrom; split <;> exact List.suffix_append _ _

theorem candidate_last (U : Char → Bool) (name pre : Str) (k : Nat)
    (hs : ∀ x, suf.getLast? = some x → isDotSp x = false) :
    ∀ x, (candidate U name pre suf k).getLast? = some x → isDotSp x = false := by
  intro x hx
  cases suf with
  | cons y ys =>
    obtain ⟨t, ht⟩ := candidate_suffix U name pre (y :: ys) k
    rw [← ht, getLast?_append_of_ne_nil _ (List.cons_ne_nil y ys)] at hx
    exact hs x hx
  | nil =>
    cases k with
    | zero =>
      rw [candidate_zero, List.append_nil, body_eq, List.isEmpty_nil, if_pos rfl] at hx
      exact fixTrailing_last _ x hx
    | succ k =>
      rw [candidate_pos (Nat.succ_pos k), List.append_nil, twoDigits,
        List.append_cons _ _ [_], List.getLast?_concat] at hx
      cases hx
      exact (digit_props _).notDotSp

theorem candidate_keeps_prefix {q : Str} (hb : q <+: body U name pre suf)
    (hq : usize q + usize suf + numberLen ≤ maxLen) (k : Nat) : q <+: candidate U name pre suf k := by
  cases k with
  | zero => exact hb.trans (List.prefix_append _ _)
  | succ k =>
    rw [candidate_pos (Nat.succ_pos k), List.append_assoc, counterBase_eq]
    refine List.IsPrefix.trans ?_ (List.prefix_append _ _)
    split
    · exact takeBytes_keeps_prefix hb (by omega)
    · exact hb

/-! `250 = maxLen - usize glifSuffix`: the bytes left for the escaped name in front of `.glif` -/

theorem glif_candidate (U : Char → Bool) (name : Str) (k : Nat) :
    ∃ T, candidate U name [] glifSuffix k = takeBytes 250 (stage1 U name []) ++ T ∧
      (T = glifSuffix ∨ T = twoDigits k ++ glifSuffix) := by
  -- `fixTrailing` is applied only when there is no suffix
  have hb : body U name [] glifSuffix = takeBytes 250 (stage1 U name []) := by rw [body_eq]; rfl
  cases k with
  | zero => exact ⟨glifSuffix, by rw [candidate_zero, hb], .inl rfl⟩
  | succ k =>
    refine ⟨twoDigits (k + 1) ++ glifSuffix, ?_, .inr rfl⟩
    -- `.glif` leaves room for the counter: nothing more is cut
    have h1 := usize_takeBytes_le 250 (stage1 U name [])
    rw [candidate_pos (Nat.succ_pos k), counterBase_eq, if_neg (by rw [hb, maxLen, numberLen]; omega), hb,
      List.append_assoc]

theorem glif_head (U : Char → Bool) (hn : name ≠ []) (k : Nat) :
    ∃ x, (candidate U name [] glifSuffix k).head? = some x ∧ x ≠ '.' := by
  obtain ⟨c, cs, rfl⟩ := List.exists_cons_of_ne_nil hn
  -- the underscore put in front of a reserved word is not a period; neither is the first escaped character
  obtain ⟨y, r, hy, h1⟩ : ∃ y r, y ≠ '.' ∧ stage1 U (c :: cs) [] = y :: r := by
    show ∃ y r, y ≠ '.' ∧ insertReserved (escape U true (c :: cs)) = y :: r
    unfold insertReserved; split
    · exact ⟨'_', _, by decide, rfl⟩
    · rw [escape]
      fun_cases escChar U true c
      · exact ⟨'_', _, by decide, rfl⟩
      · exact ⟨'_', _, by decide, rfl⟩
      next hc _ _ => exact ⟨c, _, fun e => hc ⟨e, rfl⟩, rfl⟩
      next hc _ _ => exact ⟨c, _, fun e => hc ⟨e, rfl⟩, rfl⟩
  obtain ⟨T, hT, _⟩ := glif_candidate U (c :: cs) k
  have := y.utf8Size_le_four
  rw [hT, h1, takeBytes_cons, if_pos (by omega)]
  exact ⟨y, rfl, hy⟩

/-! `248 = maxLen - usize layerPrefix`: the bytes left for the escaped name behind `glyphs.` -/

theorem stage1_layer :
    stage1 U name layerPrefix = layerPrefix ++ escape U false name := by
  rw [stage1, insertReserved, if_neg]
  · rfl
  · show stem (layerPrefix ++ escape U false name) ∉ reserved
    rw [stem_append_of_mem _ (by decide)]; decide

theorem body_layer :
    body U name layerPrefix [] = fixTrailing (layerPrefix ++ takeBytes 248 (escape U false name)) := by
  rw [body_eq, stage1_layer, List.isEmpty_nil, if_pos rfl]
  exact congrArg fixTrailing (takeBytes_append_prefix _ _ (by decide))

/-- `glyphs_` (US = underscore) -/
def glyphsUS : Str := ['g', 'l', 'y', 'p', 'h', 's', '_']

/-- every candidate for a layer directory starts with `glyphs_` when the clipped escaped name is all periods and spaces
    (the run then reaches back over the period of the prefix), and with `glyphs.` otherwise -/
theorem layer_first_seven (U : Char → Bool) (name : Str) (k : Nat) :
    (if (takeBytes 248 (escape U false name)).all isDotSp then glyphsUS else layerPrefix) <+:
      candidate U name layerPrefix [] k := by
  refine candidate_keeps_prefix ?_ (by split <;> decide) k
  rw [body_layer]
  split
  · rename_i hall
    have hd : ∀ c ∈ '.' :: takeBytes 248 (escape U false name), isDotSp c = true :=
      List.forall_mem_cons.2 ⟨rfl, List.all_eq_true.1 hall⟩
    have : layerPrefix ++ takeBytes 248 (escape U false name) =
        ['g', 'l', 'y', 'p', 'h', 's'] ++ ('.' :: takeBytes 248 (escape U false name)) := rfl
    rw [this, fixTrailing_append_dotsp hd (by intro x hx; cases hx; rfl)]
    exact ⟨List.replicate (takeBytes 248 (escape U false name)).length '_', rfl⟩
  · rename_i hall
    rw [fixTrailing_append_of_not_all _ (Bool.eq_false_iff.2 hall)]
    exact List.prefix_append _ _

theorem layer_glyphs (U : Char → Bool) (name : Str) (k : Nat) :
    ['g', 'l', 'y', 'p', 'h', 's'] <+: candidate U name layerPrefix [] k := by
  refine List.IsPrefix.trans ?_ (layer_first_seven U name k)
  split
  · exact ⟨['_'], rfl⟩
  · exact ⟨['.'], rfl⟩

theorem layer_length (U : Char → Bool) (name : Str) (k : Nat) : 7 ≤ (candidate U name layerPrefix [] k).length := by
  refine Nat.le_trans ?_ (layer_first_seven U name k).length_le
  split <;> exact Nat.le_refl 7

theorem illegal_ascii : ∀ c ∈ illegal, c.utf8Size = 1 := by decide

theorem escChar_nodotsp_head (U : Char → Bool) (b : Bool) {c : Char} (hc : isDotSp c = false) :
    ∃ x t, escChar U b c = x :: t ∧ isDotSp x = false ∧ x.utf8Size = c.utf8Size := by
  fun_cases escChar U b c
  next h => cases h.1; cases hc
  next hi => exact ⟨'_', [], rfl, rfl, (illegal_ascii c hi).symm⟩
  · exact ⟨c, ['_'], rfl, hc, rfl⟩
  · exact ⟨c, [], rfl, hc, rfl⟩

theorem layer_prefix_kept {c : Char} {cs : Str} (hc : isDotSp c = false) (k : Nat) :
    layerPrefix <+: candidate U (c :: cs) layerPrefix [] k := by
  obtain ⟨x, t, he, hx, _⟩ := escChar_nodotsp_head U false hc
  have hall : (takeBytes 248 (escape U false (c :: cs))).all isDotSp = false := by
    have := x.utf8Size_le_four
    rw [escape, he, List.cons_append, takeBytes_cons, if_pos (by omega), List.all_cons, hx, Bool.false_and]
  have h7 := layer_first_seven U (c :: cs) k
  rwa [hall, if_neg Bool.false_ne_true] at h7

/-- the two affix pairs norad itself uses (`util.rs:21-28`) -/
def Wrapper (pre suf : Str) : Prop := (pre = [] ∧ suf = glifSuffix) ∨ (pre = layerPrefix ∧ suf = [])

instance (pre suf : Str) : Decidable (Wrapper pre suf) := by unfold Wrapper; infer_instance

theorem wrapper_good {pre suf : Str} (h : Wrapper pre suf) : (∀ c ∈ pre, Good c) ∧ (∀ c ∈ suf, Good c) := by
  rcases h with ⟨rfl, rfl⟩ | ⟨rfl, rfl⟩ <;> decide +kernel

/-- more than two characters (the five of `.glif`, the seven of `glyphs.`): a candidate is not `.` or `..` -/
theorem candidate_wrapper_length (U : Char → Bool) (name : Str) (h : Wrapper pre suf) (k : Nat) :
    2 < (candidate U name pre suf k).length := by
  rcases h with ⟨rfl, rfl⟩ | ⟨rfl, rfl⟩
  · exact Nat.lt_of_lt_of_le (by decide) (candidate_suffix U name [] glifSuffix k).length_le
  · exact Nat.lt_of_lt_of_le (by decide) (layer_length U name k)

-- the kernel compares `String.ofList cs` with a literal by spelling the literal: the literals of `deviceNames` are not decoded
theorem reserved_eq : reserved = deviceNames :=
  show reserved = (reserved.map String.ofList).map String.toList by
    rw [List.map_map]; exact (List.map_id'' (fun _ => String.toList_ofList) _).symm

def penultDigit (w : Str) : Bool :=
  match (w.reverse.drop 1).head? with
  | some x => x.isDigit
  | none => false

theorem penultDigit_append_two (p : Str) (a b : Char) : penultDigit (p ++ [a, b]) = a.isDigit := by
  rw [penultDigit, List.reverse_append]; rfl

structure DeviceName (w : Str) : Prop where
  length_le : w.length ≤ 4
  head_ne : w.head? ≠ some '_'
  penult : penultDigit w = false
  no_underscore : '_' ∉ w

theorem device_props {w : Str} (hw : w ∈ deviceNames) : DeviceName w := by
  have h : ∀ w ∈ reserved,
      w.length ≤ 4 ∧ w.head? ≠ some '_' ∧ penultDigit w = false ∧ '_' ∉ w := by decide +kernel
  obtain ⟨h1, h2, h3, h4⟩ := h w (reserved_eq ▸ hw)
  exact ⟨h1, h2, h3, h4⟩

/-- in an escaped name every ASCII capital is followed by an underscore: a stem without underscore has no capital,
    so lower-casing does not change it -/
theorem escape_stem_lower
    (hU : ∀ c : Char, 'A'.toNat ≤ c.toNat ∧ c.toNat ≤ 'Z'.toNat → U c = true) (b : Bool)
    (hu : '_' ∉ stem (escape U b name)) : (stem (escape U b name)).map asciiLower = stem (escape U b name) := by
  induction name generalizing b with
  | nil => rfl
  | cons c cs ih =>
    rw [escape] at hu ⊢
    revert hu
    fun_cases escChar U b c <;> intro hu
    · exact absurd List.mem_cons_self hu
    · exact absurd List.mem_cons_self hu
    · -- `c` is written as `c_`: the underscore is in the stem unless `c` is the period that ends it
      rw [List.cons_append, stem_cons] at hu ⊢
      by_cases hc : c ≠ '.'
      · rw [if_pos hc, List.cons_append, stem_cons, if_pos (by decide)] at hu
        exact absurd (List.mem_cons_of_mem _ List.mem_cons_self) hu
      · rw [if_neg hc]; rfl
    next _ _ hUc =>
      rw [List.cons_append, List.nil_append, stem_cons] at hu ⊢
      by_cases hc : c ≠ '.'
      · rw [if_pos hc] at hu ⊢
        rw [List.map_cons, ih false fun e => hu (List.mem_cons_of_mem _ e), asciiLower,
          if_neg fun hc => hUc (hU c hc)]
      · rw [if_neg hc]; rfl

/-- after the reserved-word test the stem of the escaped name is no device name, whatever the case of its letters:
    one that is a device name ignoring case is one literally, and then gets an underscore in front -/
theorem stage1_not_reserved (hU : ∀ c : Char, 'A'.toNat ≤ c.toNat ∧ c.toNat ≤ 'Z'.toNat → U c = true) :
    NotReserved (stage1 U name []) := by
  intro hd
  change (stem (insertReserved (escape U true name))).map asciiLower ∈ deviceNames at hd
  unfold insertReserved at hd
  split at hd
  · rw [stem_cons, if_pos (by decide)] at hd
    exact (device_props hd).head_ne rfl
  · rename_i hres
    have hu : '_' ∉ stem (escape U true name) := fun hw =>
      (device_props hd).no_underscore (List.mem_map.2 ⟨'_', hw, by decide⟩)
    rw [escape_stem_lower hU true hu] at hd
    exact hres (reserved_eq ▸ hd)

/-- `hlen`: `p` is all of `r` or longer than any device name (`DeviceName.length_le`); `hT`: the suffix alone or behind the counter -/
theorem notReserved_append {r p T : Str} {k : Nat} (hr : NotReserved r) (hp : p <+: r) (hlen : p = r ∨ 4 < p.length)
    (hT : stem T = [] ∨ stem T = twoDigits k) : NotReserved (p ++ T) := by
  intro hd
  change (stem (p ++ T)).map asciiLower ∈ deviceNames at hd
  by_cases hdot : '.' ∈ p
  · -- the stem ends inside `p`: it is the stem of `r`
    obtain ⟨u, rfl⟩ := hp
    rw [stem_append_of_mem _ hdot, ← stem_append_of_mem u hdot] at hd
    exact hr hd
  · rw [stem_append_of_not_mem _ hdot] at hd
    have h4 := (device_props hd).length_le
    rw [List.length_map, List.length_append] at h4
    rcases hlen with rfl | hlen
    · rcases hT with h | h <;> rw [h] at hd
      · have hst : stem p = p := by
          have := stem_append_of_not_mem [] hdot
          rwa [List.append_nil, show stem [] = [] from rfl, List.append_nil] at this
        rw [List.append_nil, ← hst] at hd
        exact hr hd
      · -- the character before the last one is a digit; in no device name it is
        have := (device_props hd).penult
        rw [twoDigits, List.map_append, List.map_cons, List.map_cons, List.map_nil, penultDigit_append_two,
          (digit_props _).lower, (digit_props _).isDigit] at this
        cases this
    · omega

/-- layer directories: the stem starts with the six letters `glyphs` -/
theorem layer_not_reserved (k : Nat) :
    NotReserved (candidate U name layerPrefix [] k) := by
  obtain ⟨t, ht⟩ := layer_glyphs U name k
  intro h
  have := (device_props h).length_le
  rw [← ht, show ∀ p : Str, p.takeWhile (· ≠ '.') = stem p from fun _ => rfl, stem_append_of_not_mem _ (by decide),
    List.length_map, List.length_append] at this
  exact absurd this (Nat.not_le.2 (Nat.lt_add_right _ (by decide)))

theorem glif_not_reserved
    (hU : ∀ c : Char, 'A'.toNat ≤ c.toNat ∧ c.toNat ≤ 'Z'.toNat → U c = true) (k : Nat) :
    NotReserved (candidate U name [] glifSuffix k) := by
  obtain ⟨T, hT, hT'⟩ := glif_candidate U name k
  rw [hT]
  refine notReserved_append (k := k) (stage1_not_reserved hU) (takeBytes_prefix _ _) ?_ ?_
  · -- what is cut at 250 bytes has more than four characters
    by_cases h : usize (stage1 U name []) ≤ 250
    · exact .inl (takeBytes_of_le h)
    · have hg := takeBytes_gap (Nat.lt_of_not_le h)
      have h4 := usize_le_4len (takeBytes 250 (stage1 U name []))
      exact .inr (by omega)
  · rcases hT' with rfl | rfl
    · exact .inl (by decide)
    · have hd : '.' ∉ twoDigits k := by
        simp only [twoDigits, List.mem_cons, List.not_mem_nil, or_false, not_or]
        exact ⟨(digit_props _).ne_dot.symm, (digit_props _).ne_dot.symm⟩
      rw [stem_append_of_not_mem _ hd, show stem glifSuffix = [] by decide, List.append_nil]
      exact .inr rfl

theorem escChar_dotsp (hU : U '.' = false ∧ U ' ' = false) {c : Char}
    (h : isDotSp c = true) : escChar U false c = [c] := by
  simp only [isDotSp, Bool.or_eq_true, beq_iff_eq] at h
  rcases h with rfl | rfl
  · rw [escChar, if_neg (by simp), if_neg (by decide), if_neg (by simp [hU.1])]
  · rw [escChar, if_neg (by simp), if_neg (by decide), if_neg (by simp [hU.2])]

theorem takeBytes_escape_all (hU : U '.' = false ∧ U ' ' = false) (n : Nat) :
    (takeBytes n (escape U false name)).all isDotSp = (takeBytes n name).all isDotSp := by
  induction name generalizing n with
  | nil => rfl
  | cons c cs ih =>
    rw [escape, takeBytes_cons]
    cases hc : isDotSp c with
    | true =>
      rw [escChar_dotsp hU hc, List.cons_append, List.nil_append, takeBytes_cons]
      split
      · rw [List.all_cons, List.all_cons, ih]
      · rfl
    | false =>
      -- both cuts are empty or start with a character that is neither period nor space
      obtain ⟨x, t, he, hx, hsz⟩ := escChar_nodotsp_head U false hc
      rw [he, List.cons_append, takeBytes_cons, hsz]
      split
      · rw [List.all_cons, List.all_cons, hx, hc]; rfl
      · rfl

theorem not_both_prefixes {l : Str} (h1 : glyphsUS <+: l) (h2 : layerPrefix <+: l) : False := by
  have := (List.prefix_of_prefix_length_le h1 h2 (by decide)).eq_of_length (by decide)
  revert this; decide

theorem layer_prefix_iff (hU : U '.' = false ∧ U ' ' = false) (k : Nat) :
    layerPrefix <+: candidate U name layerPrefix [] k ↔ (takeBytes 248 name).all isDotSp = false := by
  rw [← takeBytes_escape_all hU]
  have h7 := layer_first_seven U name k
  cases hall : (takeBytes 248 (escape U false name)).all isDotSp with
  | true => exact ⟨fun h2 => (not_both_prefixes (by rwa [hall, if_pos rfl] at h7) h2).elim, nofun⟩
  | false => exact ⟨fun _ => rfl, fun _ => by rwa [hall, if_neg Bool.false_ne_true] at h7⟩

end C07
