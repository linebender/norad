import Norad.Lemmas.C16Stable
import Norad.Lemmas.StorePlan
import Norad.Lemmas.SafePlan
/-! Where `Font::save` puts the entries of a store whose keys have normal components only: under the
    invariant the destinations are pairwise non-nested, and the effects `FontSave`'s plan lists for an entry
    are those of `StorePlan` on the destination `<target>/<dir>/<names>`.  Hence the block of the plan that writes
    a store (`storePlan kind`) runs where the store directory is fresh and leaves `StoreOrder.writeAll`'s tree,
    in any order of the entries. -/
namespace C16
open Path StoreOrder StorePlan AbsFS FontSave

/-- meant for a path whose components are all normal -/
def namesOf (p : P) : Loc := p.comps.filterMap fun c => match c with | .normal s => some s | _ => none

/-- where `Font::save` puts the entry: `<store directory>/<key>` -/
def destOf (base : Loc) (k : Key) : Loc := base ++ namesOf (parse k)

def storeWrites (base : Loc) (ws : List WriteFile) : List (Loc × StoreOrder.Bytes) :=
  ws.map fun w => (destOf base w.key, w.bytes)

theorem safeRel_of_key {k : Key} (hne : k ≠ []) (hrel : (parse k).abs = false) (hn : (parse k).allNormal = true) :
    safeRel (parse k) = true := by
  unfold safeRel
  rw [hrel, hn, List.isEmpty_eq_false_iff.2 (parse_comps_ne_nil hne hrel)]
  rfl

theorem dest_nonNested {s : Store} (h : Inv s) (hplain : ∀ k ∈ keys s, (parse k).allNormal = true)
    (base : Loc) {a b : Key} (ha : a ∈ keys s) (hb : b ∈ keys s) (hab : parse a ≠ parse b) :
    (destOf base a).isPrefixOf (destOf base b) = false := by
  rw [← Bool.not_eq_true, List.isPrefixOf_iff_prefix]
  intro hc
  have : (parse a).comps <+: (parse b).comps := by
    rw [comps_of_allNormal _ (hplain a ha), comps_of_allNormal _ (hplain b hb)]
    exact ((List.prefix_append_right_inj base).1 hc).map _
  exact hab (h.keysOK.prefixFree a ha b hb
    ((startsWith_rel (h.keysOK.relative a ha) (h.keysOK.relative b hb)).2 this))

theorem storeWrites_nonNested {s : Store} (h : Inv s) (hplain : ∀ k ∈ keys s, (parse k).allNormal = true)
    (base : Loc) {ws : List WriteFile} (hmem : ∀ w ∈ ws, w.key ∈ keys s)
    (hdist : ws.Pairwise fun a b => parse a.key ≠ parse b.key) : (storeWrites base ws).Pairwise NonNested :=
  List.pairwise_map.2 (hdist.imp_of_mem fun ha hb hab =>
    ⟨dest_nonNested h hplain base (hmem _ ha) (hmem _ hb) hab,
     dest_nonNested h hplain base (hmem _ hb) (hmem _ ha) (Ne.symm hab)⟩)

def storePlan (kind : Kind) (t : APath) (items : List (P × StoreOrder.Bytes)) : List (Eff StoreOrder.Bytes) :=
  match kind with
  | .data => items.flatMap (planDataItem t)
  | .image => planImages t items

/-- the state in which `Font::save` writes the store `s` as the block of a kind: after the wipe and the earlier
    writes the target `t` exists and nothing is at or below `t/<dir>` -/
structure Writable (kind : Kind) (s : Store) (t : APath) (fs : FS StoreOrder.Bytes) : Prop where
  inv : Inv s
  image : kind = .image → s.kind = .image
  plain : ∀ k ∈ keys s, (parse k).allNormal = true
  target : Dirs fs t
  fresh : ∀ q, (t ++ [storeDirName kind]) <+: q → node fs q = none

theorem plan_runs_of {kind : Kind} {s : Store} {t : APath} {fs : FS StoreOrder.Bytes} (h : Writable kind s t fs)
    (ws : List WriteFile) (hmemk : ∀ w ∈ ws, w.key ∈ keys s)
    (hdist : ws.Pairwise fun a b => parse a.key ≠ parse b.key) :
    (storeWrites (t ++ [storeDirName kind]) ws).Pairwise NonNested ∧
    ∃ fs', runEffs (storePlan kind t (ws.map fun w => (parse w.key, w.bytes))) fs = (none, fs') ∧
      treeOf fs' = writeAll (treeOf fs) (storeWrites (t ++ [storeDirName kind]) ws) := by
  have hpw := storeWrites_nonNested h.inv h.plain (t ++ [storeDirName kind]) hmemk hdist
  refine ⟨hpw, ?_⟩
  have hplain : ∀ w ∈ ws, (parse w.key).allNormal = true := fun w hw => h.plain _ (hmemk w hw)
  have hsafe : ∀ w ∈ ws, safeRel (parse w.key) = true := fun w hw =>
    safeRel_of_key (h.inv.keysOK.nonEmpty _ (hmemk w hw)) (h.inv.keysOK.relative _ (hmemk w hw)) (hplain w hw)
  cases kind with
  | data =>
    -- `planDataItem_normal` gives `(planDataItemN t (p, b)).map toEff`, which is `itemEffs (destOf …)` by evaluation
    have hplan : storePlan .data t (ws.map fun w => (parse w.key, w.bytes)) =
        (storeWrites (t ++ [storeDirName .data]) ws).flatMap itemEffs := by
      show List.flatMap _ _ = _
      unfold storeWrites
      rw [List.flatMap_def, List.flatMap_def, List.map_map, List.map_map]
      exact congrArg _ (List.map_congr_left fun w hw => planDataItem_normal t (parse w.key, w.bytes) (hsafe w hw))
    rw [hplan]
    refine data_block_runs h.target h.fresh _ hpw fun w hw => ?_
    obtain ⟨x, hx, rfl⟩ := List.mem_map.1 hw
    refine below_iff.2 ⟨List.prefix_append _ _, fun he => ?_⟩
    exact FontSave.namesOf_ne_nil _ (hsafe x hx) (List.append_right_eq_self.1 he.symm)
  | image =>
    cases ws with
    | nil => exact ⟨fs, rfl, rfl⟩
    | cons w0 r =>
    have hplan : storePlan .image t ((w0 :: r).map fun w => (parse w.key, w.bytes)) =
        Eff.mkdir (tC (t ++ [storeDirName .image])) ::
          (storeWrites (t ++ [storeDirName .image]) (w0 :: r)).map fun w => Eff.write (tC w.1) w.2 := by
      refine (planImages_normal t _ fun kb hkb => ?_).trans ?_
      · obtain ⟨w, hw, rfl⟩ := List.mem_map.1 hkb; exact hsafe w hw
      · unfold planImagesN storeWrites
        rw [if_neg (fun h => nomatch h), List.map_cons, List.map_map, List.map_map, List.map_map]
        rfl
    rw [hplan]
    refine image_block_runs h.target h.fresh _ (List.cons_ne_nil _ _) fun w hw => ?_
    obtain ⟨x, hx, rfl⟩ := List.mem_map.1 hw
    have hlen := h.inv.keysOK.imageFlat (h.image rfl) _ (hmemk x hx)
    rw [comps_of_allNormal _ (hplain x hx), tC, List.length_map] at hlen
    obtain ⟨n, hn⟩ := List.length_eq_one_iff.1 hlen
    exact ⟨n, congrArg _ hn⟩

theorem holds_of_tree {base : Loc} {ws : List WriteFile} {fs fs' : FS StoreOrder.Bytes}
    (hpw : (storeWrites base ws).Pairwise NonNested) (ht : treeOf fs' = writeAll (treeOf fs) (storeWrites base ws)) :
    ∀ w ∈ ws, node fs' (destOf base w.key) = some (.file w.bytes) := fun w hw =>
  (treeOf_conv (n := .file w.bytes)).1
    (ht ▸ writeAll_lookup (treeOf fs) _ hpw (destOf _ w.key, w.bytes) (List.mem_map_of_mem hw))

theorem plan_holds_of {kind : Kind} {s : Store} {t : APath} {fs : FS StoreOrder.Bytes} (h : Writable kind s t fs)
    (ws : List WriteFile) (hmemk : ∀ w ∈ ws, w.key ∈ keys s)
    (hdist : ws.Pairwise fun a b => parse a.key ≠ parse b.key) :
    ∃ fs', runEffs (storePlan kind t (ws.map fun w => (parse w.key, w.bytes))) fs = (none, fs') ∧
      ∀ w ∈ ws, node fs' (destOf (t ++ [storeDirName kind]) w.key) = some (.file w.bytes) := by
  obtain ⟨hpw, fs', hrun, htree⟩ := plan_runs_of h ws hmemk hdist
  exact ⟨fs', hrun, holds_of_tree hpw htree⟩

/-- `ws₂`: another `HashMap` order of the same writes; `store_save_order_independent` on the file system of C08/C09 -/
theorem plan_eq_writeAll {kind : Kind} {s : Store} {t : APath} {fs : FS StoreOrder.Bytes} (h : Writable kind s t fs)
    {ws₁ ws₂ : List WriteFile} (h1 : writesOf s = some ws₁) (hperm : ws₁.Perm ws₂) :
    ∃ fs₁ fs₂,
      runEffs (storePlan kind t (ws₁.map fun w => (parse w.key, w.bytes))) fs = (none, fs₁) ∧
      runEffs (storePlan kind t (ws₂.map fun w => (parse w.key, w.bytes))) fs = (none, fs₂) ∧
      treeOf fs₁ = treeOf fs₂ ∧
      ∀ w ∈ ws₂, node fs₂ (destOf (t ++ [storeDirName kind]) w.key) = some (.file w.bytes) := by
  obtain ⟨hmemk, hdist⟩ := writesOf_distinct h.inv h1
  obtain ⟨hpw1, f1, r1, t1⟩ := plan_runs_of h ws₁ hmemk hdist
  obtain ⟨hpw2, f2, r2, t2⟩ := plan_runs_of h ws₂ (fun w hw => hmemk w (hperm.mem_iff.2 hw))
    ((hperm.pairwise_iff Ne.symm).1 hdist)
  refine ⟨f1, f2, r1, r2, ?_, holds_of_tree hpw2 t2⟩
  rw [t1, t2]
  exact writes_order_independent _ (hperm.map _) hpw1

end C16
