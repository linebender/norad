import Norad.Lemmas.Basic
/-!
The model defines "the value of the first entry with this key" once per family (`StrMap.lookup`, `RT.lookupKV`, `Glif.dictGet`, …).
`IsLookup look` says, by the two defining equations, that `look` is that function; what is true of lookups is proved here once.
-/

universe u v

/-- the entry's key stands on the left of the test, as every one of the model's lookups writes it -/
structure IsLookup {κ : Type u} {β : Type v} [DecidableEq κ] (look : κ → List (κ × β) → Option β) : Prop where
  nil : ∀ k, look k [] = none
  cons : ∀ k k' v r, look k ((k', v) :: r) = if k' = k then some v else look k r

namespace IsLookup
variable {κ : Type u} {β : Type v} [DecidableEq κ] {look : κ → List (κ × β) → Option β} (L : IsLookup look)
include L

theorem ext {look' : κ → List (κ × β) → Option β} (L' : IsLookup look') (k : κ) (l : List (κ × β)) :
    look k l = look' k l := by
  induction l with
  | nil => rw [L.nil, L'.nil]
  | cons e r ih => rw [L.cons, L'.cons, ih]

theorem cons_self {k : κ} {v : β} {r : List (κ × β)} : look k ((k, v) :: r) = some v := (L.cons ..).trans (if_pos rfl)

theorem cons_ne {k k' : κ} {v : β} {r : List (κ × β)} (h : k' ≠ k) : look k ((k', v) :: r) = look k r :=
  (L.cons ..).trans (if_neg h)

theorem eq_none_iff {k : κ} {l : List (κ × β)} : look k l = none ↔ k ∉ l.map (·.1) := by
  induction l with
  | nil => simp [L.nil]
  | cons e r ih => obtain ⟨k', v⟩ := e; by_cases h : k' = k <;> simp [L.cons, h, ih, eq_comm (a := k)]

theorem mem {k : κ} {v : β} {l : List (κ × β)} (h : look k l = some v) : (k, v) ∈ l := by
  induction l with
  | nil => rw [L.nil] at h; cases h
  | cons e r ih =>
    obtain ⟨k', v'⟩ := e
    by_cases hk : k' = k
    · rw [hk, L.cons_self] at h; cases h; rw [hk]; exact List.mem_cons_self
    · rw [L.cons_ne hk] at h; exact List.mem_cons_of_mem _ (ih h)

theorem of_mem_unique {k : κ} {v : β} {l : List (κ × β)} (h : (k, v) ∈ l) (hu : ∀ e ∈ l, e.1 = k → e.2 = v) :
    look k l = some v := by
  cases h' : look k l with
  | none => exact absurd (List.mem_map_of_mem (f := (·.1)) h) (L.eq_none_iff.1 h')
  | some v' => exact congrArg some (hu _ (L.mem h') rfl)

theorem of_mem_nodup {k : κ} {v : β} {l : List (κ × β)} (hn : (l.map (·.1)).Nodup) (h : (k, v) ∈ l) :
    look k l = some v :=
  L.of_mem_unique h fun _ he hk => congrArg Prod.snd (eq_of_nodup_map hn he h hk)

theorem perm {l l' : List (κ × β)} (hp : l.Perm l') (hn : (l.map (·.1)).Nodup) (k : κ) : look k l = look k l' := by
  cases h : look k l' with
  | some v => exact L.of_mem_nodup hn (hp.symm.subset (L.mem h))
  | none => rw [L.eq_none_iff] at h ⊢; exact fun hm => h ((hp.map _).subset hm)

theorem append (k : κ) (a b : List (κ × β)) : look k (a ++ b) = (look k a).or (look k b) := by
  induction a with
  | nil => rw [L.nil]; rfl
  | cons e r ih => obtain ⟨k', v⟩ := e; rw [List.cons_append, L.cons, L.cons, ih]; split <;> rfl

theorem filter_of_keep {p : κ × β → Bool} {k : κ} (h : ∀ v, p (k, v) = true) (l : List (κ × β)) :
    look k (l.filter p) = look k l := by
  induction l with
  | nil => rfl
  | cons e r ih =>
    obtain ⟨k', v⟩ := e
    by_cases hk : k' = k
    · subst hk; rw [List.filter_cons_of_pos (h v), L.cons_self, L.cons_self]
    · rw [List.filter_cons, L.cons_ne hk]
      split
      · rw [L.cons_ne hk, ih]
      · exact ih

theorem filter_of_drop {p : κ × β → Bool} {k : κ} (h : ∀ v, p (k, v) = false) (l : List (κ × β)) :
    look k (l.filter p) = none :=
  L.eq_none_iff.2 fun hm => by
    obtain ⟨⟨_, v⟩, he, rfl⟩ := List.mem_map.1 hm
    exact absurd ((h v).symm.trans (List.mem_filter.1 he).2) Bool.false_ne_true

theorem map_of_mem {α : Type v} (key : α → κ) (val : α → β) {ls : List α} (hn : (ls.map key).Nodup) {x : α} (hx : x ∈ ls) :
    look (key x) (ls.map fun y => (key y, val y)) = some (val x) :=
  L.of_mem_nodup (by rwa [List.map_map]) (List.mem_map_of_mem (f := fun y => (key y, val y)) hx)

end IsLookup
