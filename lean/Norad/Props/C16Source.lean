import Norad.Props.C16
import Norad.Generated.StoreOps
import Norad.Generated.StorePlanGen
/-!
# C16 — source-level tie of the stores: operations, traits, and the store-writing blocks of `Font::save`

`Generated/StoreOps.lean` (namespace `C16.Gen`: the operations and traits of `src/datastore.rs`) and
`Generated/StorePlanGen.lean` (the two blocks of `save_impl` that write the stores) are regenerated on every run by
`tools/extract_store_ops.py`.  How much of the Rust that is: both `validate_entry` and the operations are translated clause
by clause, every condition through an expression translator; of the two `try_list_contents` only the chain of file-type
tests (what is collected, descended into, refused) and which walk surrounds it are read, the walk itself is not
interpreted (`Gen.listWith` takes the tree as the list of its entries); of the traits the field lists of `Clone` / `Default`
and the body of `PartialEq`.

Every theorem here states that a regenerated definition IS the model's (`Gen.x = x`, as functions), so the theorems of
`Props/C16.lean` are theorems about the regenerated code; four are restated directly over `Gen`.  A change of the Rust
inside a translated shape changes the generated text and the equalities no longer check.
-/
namespace C16
open Path StoreOrder StorePlan AbsFS FontSave

theorem source_validate_eq_model : Gen.validate = validate := by
  funext kind k items b
  cases kind with
  | data =>
    have hd : (items.any fun key => ((parse key.1 != parse k) && (parse key.1).startsWith (parse k)))
        = descendantInStore items (parse k) :=
      congrArg items.any (funext fun e => Bool.and_comm _ _)
    show Gen.validateData k items b = validateData k items
    unfold Gen.validateData
    rw [hd]
    rfl
  | image =>
    have hdp : (Gen.isSomeAnd (parse k).parent? fun p => !p.isEmpty) = hasDirPart (parse k) := by
      unfold Gen.isSomeAnd hasDirPart
      cases (parse k).parent? <;> rfl
    show Gen.validateImage k items b = validateImage k b
    unfold Gen.validateImage validateImage validateImagePath
    rw [hdp]
    cases k.isEmpty
    · cases (parse k).abs
      · cases hasDirPart (parse k)
        · show (if (!pngSig.isPrefixOf b) = true then _ else _) = _
          -- `Gen` has the PNG test as a negated fourth `if`, the model as a `match` followed by an `if`
          cases pngSig.isPrefixOf b <;> rfl
        · rfl
      · rfl
    · rfl

theorem source_loadItem_eq_model : Gen.loadItem = loadItem := by
  funext kind disk k items
  unfold Gen.loadItem loadItem Gen.tryLoadItem
  rw [source_validate_eq_model]
  cases disk k with
  | none => rfl
  | some b => cases validate kind k items b <;> rfl

theorem source_get_eq_model : Gen.get = get := by
  funext s disk k
  unfold Gen.get get
  rw [source_loadItem_eq_model]
  cases find? s.items k with
  | none => rfl
  | some e =>
    obtain ⟨k0, c⟩ := e
    cases c with
    | notLoaded =>
      cases loadItem s.kind disk k s.items <;> rfl
    | loaded b => rfl
    | error e => rfl

theorem source_insert_eq_model : Gen.insert = insert := by
  funext s k b
  unfold Gen.insert insert
  rw [source_validate_eq_model]
  cases validate s.kind k s.items b <;> rfl

theorem source_remove_eq_model : Gen.remove = remove := rfl

theorem source_clear_eq_model : Gen.clear = clear := rfl

theorem source_readers_eq_model :
    Gen.keys = keys ∧ Gen.isEmpty = isEmpty ∧ (∀ s, Gen.len s = (keys s).length) ∧
    (∀ s k, Gen.containsKey s k = (find? s.items k).isSome) :=
  ⟨rfl, rfl, fun _ => (List.length_map ..).symm, fun s k => (find?_isSome s.items k).symm⟩

theorem source_iter_eq_model : Gen.iter = iter := by
  have h : ∀ (ks : List Key) (s : Store) (disk : Disk), Gen.iterFrom s disk ks = iterFrom s disk ks := by
    intro ks
    induction ks with
    | nil => intro s disk; rfl
    | cons k r ih =>
      intro s disk
      simp only [Gen.iterFrom, iterFrom, source_get_eq_model, ih]
  funext s disk
  unfold Gen.iter iter
  rw [h]
  rfl

/-- the directories the lazy load reads and the listing walks are the model's store directories -/
theorem source_store_op_dirs_match_model : Gen.loadDir = storeDirName ∧ Gen.listDir = storeDirName := by
  constructor <;> (funext kind; cases kind <;> decide +kernel)

/-- both `try_list_contents`: data walks every depth, collects files, descends into directories, refuses anything
    else; images read the top level only, collect files, refuse everything else -/
theorem source_listing_eq_model :
    Gen.listWith (Gen.listRecursive .data) (Gen.listAct .data) (Gen.listErr .data) = listData ∧
    Gen.listWith (Gen.listRecursive .image) (Gen.listAct .image) (Gen.listErr .image) = listImages := by
  have d1 : ∀ nk, (Gen.listAct .data nk == .refuse) = (nk == .symlink) := by intro nk; cases nk <;> rfl
  have d2 : ∀ nk, (Gen.listAct .data nk == .collect) = (nk == .file) := by intro nk; cases nk <;> rfl
  have i1 : ∀ nk, (Gen.listAct .image nk == .refuse) = (nk != .file) := by intro nk; cases nk <;> rfl
  have i2 : ∀ nk, (Gen.listAct .image nk == .collect) = (nk == .file) := by intro nk; cases nk <;> rfl
  constructor
  · funext t
    simp only [Gen.listWith, Gen.listRecursive, Gen.listErr, listData, d1, d2, if_true]
  · funext t
    simp only [Gen.listWith, Gen.listRecursive, Gen.listErr, listImages, i1, i2, Bool.false_eq_true, if_false]
    split
    · rfl
    · -- nothing but plain files at the top level: collecting the files collects everything
      rename_i h
      rw [List.filter_eq_self.2 fun e he => Decidable.byContradiction fun hf =>
        h (List.any_eq_true.2 ⟨e, he, by simpa using hf⟩)]

theorem source_newStore_eq_model : Gen.newStore = newStore := by
  funext kind t
  unfold Gen.newStore newStore
  cases kind with
  | data => rw [source_listing_eq_model.1]; rfl
  | image => rw [source_listing_eq_model.2]; rfl

theorem source_step_eq_model : Gen.step = step := by
  funext st op
  unfold Gen.step
  rw [source_insert_eq_model, source_get_eq_model, source_iter_eq_model]
  cases op <;> rfl

theorem source_run_eq_model : Gen.run = run := by
  funext st ops
  induction ops generalizing st with
  | nil => rfl
  | cons op r ih => simp only [Gen.run, run, source_step_eq_model, ih]

/-- every history of the operations AS THE SOURCE HAS THEM NOW preserves the invariant -/
theorem source_store_inv_reachable (st : State) (ops : List Op) (h : Inv st.store) :
    Inv (Gen.run st ops).store := by
  rw [source_run_eq_model]; exact store_inv_reachable st ops h

example : Inv (Gen.run ⟨⟨.data, []⟩, fun _ => none⟩ [.insert ['a'] [1], .get ['a'], .iter]).store :=
  source_store_inv_reachable _ _ (inv_empty .data)

theorem source_rejected_insert_unchanged (s : Store) (k : Key) (b : Bytes) (e : Err)
    (h : (Gen.insert s k b).2 = .error e) : (Gen.insert s k b).1 = s := by
  rw [source_insert_eq_model] at h ⊢; exact rejected_insert_unchanged s k b e h

example : (Gen.insert ⟨.data, []⟩ [] [1]).2 = .error .emptyPath := by decide

theorem source_lazy_get_is_disk_at_first_access (s : Store) (disk : Disk) (k k0 : Key)
    (h : find? s.items k = some (k0, .notLoaded)) :
    (Gen.get s disk k).2 = some (cellResult (Gen.loadItem s.kind disk k s.items)) ∧
    ∀ b, (Gen.get s disk k).2 = some (.ok b) → disk k = some b := by
  rw [source_get_eq_model, source_loadItem_eq_model]
  exact lazy_get_is_disk_at_first_access s disk k k0 h

-- its hypothesis is satisfiable
example : find? [((['a'] : Key), Cell.notLoaded)] ['a'] = some (['a'], .notLoaded) := by decide

theorem source_newStore_inv (kind : Kind) (t : Listing) (s : Store) (hwf : ListingWF t)
    (h : Gen.newStore kind t = .ok s) : Inv s ∧ ∀ e ∈ s.items, e.2 = .notLoaded := by
  rw [source_newStore_eq_model] at h; exact newStore_inv kind t s hwf h

example : Gen.newStore .image [([['a']], .file)] = .ok ⟨.image, [(['a'], .notLoaded)]⟩ := by decide

/-- `Store<T>` has exactly the state the model accounts for; `Clone` takes EVERY field from the original (the clone reads
    lazily from the same root: the driver's `CL` step continues on the same store value); `Default` makes every field
    empty (`NEW`) -/
theorem source_store_traits_match_model :
    Gen.storeFields = modelledFields ∧
    Gen.cloneFields = modelledFields.map (fun f => (f, "clone")) ∧
    Gen.defaultFields = modelledFields.map (fun f => (f, "default")) := by decide +kernel

theorem source_storeEq_eq_model : Gen.storeEq = storeEq := rfl

theorem store_eq_reflexive (s : Store) : storeEq s s = true := by
  unfold storeEq
  simp only [beq_self_eq_true, Bool.true_and, List.all_eq_true]
  intro e he
  exact List.any_eq_true.2 ⟨e, he, by simp⟩

/-- the `data` block of `save_impl`, effect by effect, is the data part of `FontSave.plan` -/
theorem source_data_plan_eq_model {β : Type} (t : APath) (items : List (Path.P × β)) :
    PlanGen.planData t items = items.flatMap (planDataItem t) := by
  cases items with
  | nil => rfl
  | cons a r => rfl

theorem source_image_plan_eq_model {β : Type} (t : APath) (items : List (Path.P × β)) :
    PlanGen.planImages t items = planImages t items := by
  have hm : ∀ l : List (Path.P × β),
      l.flatMap (PlanGen.planImagesItem t) = l.map fun kb => Eff.write (joinRel (sub t "images") kb.1) kb.2 := by
    intro l
    induction l with
    | nil => rfl
    | cons a r ih => simp only [List.flatMap_cons, List.map_cons, ih]; rfl
  unfold PlanGen.planImages planImages
  rw [hm]
  rfl

/-- the store plans AS REGENERATED run on the abstract file system and leave the verbatim files -/
theorem source_store_plans_run (s : Store) (h : Inv s) (hplain : ∀ k ∈ keys s, (parse k).allNormal = true)
    (t : APath) (fs : FS StoreOrder.Bytes) (ws : List WriteFile) (h1 : writesOf s = some ws)
    (hT : ∀ m, m <+: t → m ≠ [] → isDir fs m = true) :
    ((∀ q, (t ++ [storeDirName .data]) <+: q → node fs q = none) →
      ∃ fs', runEffs (PlanGen.planData t (ws.map fun w => (parse w.key, w.bytes))) fs = (none, fs') ∧
        treeOf fs' = writeAll (treeOf fs) (storeWrites (t ++ [storeDirName .data]) ws)) ∧
    (s.kind = .image → (∀ q, (t ++ [storeDirName .image]) <+: q → node fs q = none) →
      ∃ fs', runEffs (PlanGen.planImages t (ws.map fun w => (parse w.key, w.bytes))) fs = (none, fs') ∧
        treeOf fs' = writeAll (treeOf fs) (storeWrites (t ++ [storeDirName .image]) ws)) := by
  constructor
  · intro hfresh
    rw [source_data_plan_eq_model]
    exact store_plan_runs ⟨h, nofun, hplain, hT, hfresh⟩ h1
  · intro hkind hfresh
    rw [source_image_plan_eq_model]
    exact image_plan_runs ⟨h, fun _ => hkind, hplain, hT, hfresh⟩ h1

example : PlanGen.planImages (β := Nat) [['t']] [(parse ['a'], 1)]
    = [.mkdir [.normal ['t'], .normal "images".toList], .write [.normal ['t'], .normal "images".toList, .normal ['a']] 1] := by
  rfl

end C16
