import Norad.Lemmas.NumWriters
import Norad.Lemmas.RoundTrip
import Norad.Lemmas.FontRT
import Norad.Generated.RoundTrip
import Norad.Generated.Vocab
import Norad.Lemmas.FieldTable
import Mathlib.Data.List.Forall2
/-!
# C01 — saving a font and loading it back preserves all font data

Theorems about the model `Model/RoundTrip.lean` (font = parts; each part has a codec to / from an
abstract file value).  The number writers of the model round before the cast (kerning) and take the integer
path only inside the i32 range (kerning / font info / unitsPerEm); the writers without these two repairs are kept
as `…Pinned` for the counterexamples.

Full-strength number statement, FALSE on the repaired tree as well (recorded finding, low severity):
  `∀ v finite, Close (w v).val v`   for `w ∈ {kernWrite, infoWrite, upmWrite}`
it fails for non-zero |v| < ε = 2⁻⁵², and for the font-info writer (whose test is `<=`) at |v| = ε as well
(`…_counterexample`); under the guard `v = 0 ∨ ε < |v|` it is proved (`int_or_float_within_1e9`).
-/
namespace RT

variable {P : Parts} (L : PartLaws P)

/-- every finite value under the guard is read back within 1e-9 relative, for each of the three
    int-or-float writers (units-per-em is non-negative by construction of its type) -/
theorem int_or_float_within_1e9 (v : ℚ) (hv : NumGuard v) :
    Close (kernWrite v).val v ∧ Close (infoWrite v).val v ∧ (0 ≤ v → Close (upmWrite v).val v) :=
  ⟨kern_close v hv, info_close v hv, fun h0 => upm_close v h0 hv⟩

example : NumGuard (1 - 1 / 9007199254740992) := by unfold NumGuard eps; right; norm_num [abs_of_pos]
example : NumGuard 3000000000 := by unfold NumGuard eps; right; norm_num [abs_of_pos]

/-- the guard cannot be dropped: 10⁻¹⁷ is written as the integer 0 by all three writers, and 0 is not
    within 1e-9 relative of 10⁻¹⁷ (recorded findings `tiny-kerning-`, `tiny-fontinfo-`, `tiny-upm-written-as-zero`) -/
theorem int_or_float_within_1e9_counterexample :
    kernWrite (1 / 100000000000000000) = .int 0 ∧ infoWrite (1 / 100000000000000000) = .int 0 ∧
    upmWrite (1 / 100000000000000000) = .int 0 ∧ ¬ Close (Num.int 0).val (1 / 100000000000000000) := by
  refine ⟨by decide +kernel, by decide +kernel, by decide +kernel, ?_⟩
  unfold Close Num.val; norm_num

/-- pinned tree: the kerning writer tests `round` but truncates: one ulp below 1 is written as 0;
    repaired (`fix:` round before the cast): written as 1 -/
theorem kerning_truncation_pinned_counterexample :
    kernWritePinned (1 - 1 / 9007199254740992) = .int 0 ∧ kernWrite (1 - 1 / 9007199254740992) = .int 1 := by
  constructor <;> decide +kernel

/-- pinned tree: `as i32` saturates, 3·10⁹ ↦ 2147483647 for all three writers;
    repaired (`fix:` range guard): written as a real -/
theorem saturation_pinned_counterexample :
    kernWritePinned 3000000000 = .int 2147483647 ∧ infoWritePinned 3000000000 = .int 2147483647 ∧
    upmWritePinned 3000000000 = .int 2147483647 ∧
    kernWrite 3000000000 = .real 3000000000 ∧ infoWrite 3000000000 = .real 3000000000 ∧
    upmWrite 3000000000 = .real 3000000000 := by
  refine ⟨?_, ?_, ?_, ?_, ?_, ?_⟩ <;> decide +kernel

/-- two in-memory numbers agree: finite values within the tolerance, anything else identical -/
def CloseV (a b : NumV) : Prop :=
  match a.val?, b.val? with
  | some x, some y => Close x y
  | _, _ => a = b

def NumOK (v : NumV) : Prop := ∀ q, v.val? = some q → NumGuard q

theorem closeV_refl (v : NumV) : CloseV v v := by
  unfold CloseV
  cases v.val? with
  | none => rfl
  | some q => exact close_refl q

theorem closeV_roundtrip (w : ℚ → Num) (v : NumV) (h : ∀ q, v.val? = some q → Close (w q).val q) :
    CloseV (readNum (writeWith w v)) v := by
  rcases readNum_writeWith w v with e | ⟨q, k, hq, hw, e⟩ <;> rw [e]
  · exact closeV_refl v
  · have := h q hq
    rw [hw] at this
    unfold CloseV
    rw [hq]
    exact this

/-- for a writer within tolerance on the whole guard (kerning, font info; the unitsPerEm writer also needs `0 ≤ v` and goes
    through `closeV_roundtrip`); non-finite values are written as reals and come back identical -/
theorem num_roundtrip (w : ℚ → Num) (hw : ∀ q, NumGuard q → Close (w q).val q) (v : NumV) (hv : NumOK v) :
    CloseV (readNum (writeWith w v)) v :=
  closeV_roundtrip w v fun q hq => hw q (hv q hq)

theorem kerning_value_roundtrip (v : NumV) (hv : NumOK v) : CloseV (readNum (writeWith kernWrite v)) v :=
  num_roundtrip kernWrite kern_close v hv

theorem fontinfo_value_roundtrip (v : NumV) (hv : NumOK v) : CloseV (readNum (writeWith infoWrite v)) v :=
  num_roundtrip infoWrite info_close v hv

/-- `lib.plist` / `layerinfo.plist` lib / object libs: what is written (keys sorted recursively) shows
    at every path the same node as the in-memory dictionary -/
theorem lib_roundtrip (d : Dict) (p : List Seg) :
    ((PV.dict (sortDict d)).get p).map PV.leaf = ((PV.dict d).get p).map PV.leaf := by
  have := sortRec_get_leaf p (PV.dict d)
  simpa [sortRec, sortDict] using this

example : (sortDict [("b", PV.int 1), ("a", PV.dict [("z", PV.bool true), ("y", PV.str "s")])]).map (·.1) = ["a", "b"] := by
  decide

/-- what is read back is the saved text with CR LF replaced by LF; it has the same line-ending normal
    form as the original -/
theorem features_roundtrip (s : List Char) : lfNorm (crlfToLf s) = lfNorm s := by
  fun_induction crlfToLf s with
  | case1 r ih => simp [lfNorm, startsCRsLF, ih]
  | case2 c r hne ih => simp [lfNorm, startsCRsLF_crlfToLf, ih]
  | case3 => rfl

/-- the replacement is not idempotent (CR CR LF ↦ CR LF ↦ LF): "equal up to CR LF" has to be read as
    equality of the normal forms -/
theorem crlfToLf_not_idempotent_counterexample :
    crlfToLf (crlfToLf ['\r', '\r', '\n']) ≠ crlfToLf ['\r', '\r', '\n'] := by decide

/-- foreign input (C04): the default layer is moved to the front, the others keep their file order -/
theorem layers_default_moved_to_front (ls : List (Layer P)) (i : Nat) (h : findDefault ls = some i) :
    ∃ d, ls[i]? = some d ∧ d.dir = glyphsDir ∧ defaultFirst ls = .ok (d :: ls.eraseIdx i) := by
  obtain ⟨d, h1, h2⟩ := findDefault_spec ls i h
  exact ⟨d, h1, h2, by simp [defaultFirst, h, h1]⟩

/-- whatever the creator of the font in memory, what is written says norad, format 3 -/
theorem metainfo_roundtrip (f : (Font P)) (t : (Tree P)) (h : saveFont f = .ok t) :
    t.creator = some defaultCreator ∧ t.fv = 3 := by
  obtain ⟨ol, rfl⟩ := saveFont_tree f t h
  exact ⟨mkTree_creator f ol, rfl⟩

/-- two dictionaries are the same map, at every depth, whatever the key order -/
def DictEquiv (d d' : Dict) : Prop :=
  ∀ k p, ((lookupKV k d').bind (·.get p)).map PV.leaf = ((lookupKV k d).bind (·.get p)).map PV.leaf

theorem leaf_get_sortRec (o : Option PV) (p : List Seg) :
    ((o.map sortRec).bind (·.get p)).map PV.leaf = (o.bind (·.get p)).map PV.leaf := by
  cases o with
  | none => rfl
  | some v => simpa using sortRec_get_leaf p v

theorem dictEquiv_sort (d : Dict) : DictEquiv d (sortDict d) := by
  intro k p
  rw [lookup_sortDict, leaf_get_sortRec]

/-- a channel read back as k/1000 is the original to three decimals -/
def ChanEq (b k : Nat) : Prop := ∃ q, decode b = some q ∧ |q * 1000 - (k : ℚ)| ≤ 1 / 2

def ColEquiv : ColV → ColV → Prop
  | .bits r g b a, .milli r' g' b' a' => ChanEq r r' ∧ ChanEq g g' ∧ ChanEq b b' ∧ ChanEq a a'
  | .milli r g b a, .milli r' g' b' a' => r = r' ∧ g = g' ∧ b = b' ∧ a = a'
  | _, _ => False

def OptRel {α β : Type} (R : α → β → Prop) : Option α → Option β → Prop
  | none, none => True
  | some a, some b => R a b
  | _, _ => False

def GuideEquiv (g g' : Guide) : Prop := g'.id = g.id ∧ g'.rest = g.rest ∧ OptRel DictEquiv g.lib g'.lib

/-- a glyph after the round trip: same name, same file, and the glyph the parser returns for the
    written one (`normGlyph`: the identity for opaque tokens; C02's `normG` for norad's glif codec) -/
def GlyphEquiv (g g' : (GlyphE P)) : Prop := g'.name = g.name ∧ g'.file = g.file ∧ g'.tok = L.normGlyph g.tok

def LayerEquiv (l l' : (Layer P)) : Prop :=
  l'.name = l.name ∧ l'.dir = l.dir ∧ OptRel ColEquiv l.color l'.color ∧ DictEquiv l.lib l'.lib ∧
  List.Forall₂ (GlyphEquiv L) l.glyphs l'.glyphs

def NumEntryEquiv (a b : String × NumV) : Prop :=
  b.1 = a.1 ∧ (if isLenKey a.1 = true then b.2 = a.2 else CloseV b.2 a.2)

/-- "the same font": what C01 demands of `load(save(f))`.  Layers in the same order; numbers within
    1e-9 relative; colours to three decimals; dictionaries as maps; feature text up to CR LF; the
    un-modelled parts (glyph tokens, other font-info fields, store entries) identical -/
structure FontEquiv (f f' : (Font P)) : Prop where
  creator : f'.creator = some defaultCreator
  fv : f'.fv = 3
  nums : List.Forall₂ NumEntryEquiv f.info.nums f'.info.nums
  upm : OptRel (fun a b => CloseV b a) f.info.upm f'.info.upm
  guides : OptRel (List.Forall₂ GuideEquiv) f.info.guides f'.info.guides
  rest : f'.info.rest = f.info.rest
  lib : DictEquiv f.lib f'.lib
  groups : f'.groups = f.groups
  kerning : List.Forall₂ (fun a b => b.1 = a.1 ∧ List.Forall₂ (fun p q => q.1 = p.1 ∧ CloseV q.2 p.2) a.2 b.2)
    f.kerning f'.kerning
  features : lfNorm f'.features = lfNorm f.features
  layers : List.Forall₂ (LayerEquiv L) f.layers f'.layers
  data : f'.data = f.data
  images : f'.images = f.images

/-- a colour built through `Color::new` (finite channels ≥ 0), or one that was loaded -/
def ColOK : ColV → Prop
  | .bits r g b a => ∀ x ∈ [r, g, b, a], ∃ q, decode x = some q ∧ 0 ≤ q
  | .milli _ _ _ _ => True

/-- the number guards of `font_roundtrip` (the recorded finding lives outside them) -/
structure NumbersOK (f : (Font P)) : Prop where
  info : ∀ e ∈ f.info.nums, isLenKey e.1 = false → NumOK e.2
  upm : ∀ v, f.info.upm = some v → NumOK v ∧ ∀ q, v.val? = some q → 0 ≤ q
  kerning : ∀ e ∈ f.kerning, ∀ p ∈ e.2, NumOK p.2
  colours : ∀ l ∈ f.layers, ∀ c, l.color = some c → ColOK c

theorem forall₂_map_self {α β : Type} (R : α → β → Prop) (g : α → β) (l : List α) (h : ∀ a ∈ l, R a (g a)) :
    List.Forall₂ R l (l.map g) :=
  List.forall₂_map_right_iff.2 (List.forall₂_same.2 h)

theorem optRel_map_self {α β : Type} (R : α → β → Prop) (g : α → β) (o : Option α) (h : ∀ a, o = some a → R a (g a)) :
    OptRel R o (o.map g) := by
  cases o with
  | none => trivial
  | some a => exact h a rfl

theorem milliOf_close (q : ℚ) (h : 0 ≤ q) : |q * 1000 - ((milliOf q : ℕ) : ℚ)| ≤ 1 / 2 := by
  have hf0 : 0 ≤ ⌊q * 1000⌋ := Int.floor_nonneg.2 (mul_nonneg h (by norm_num))
  have h1 := Int.floor_le (q * 1000)
  have h2 := Int.lt_floor_add_one (q * 1000)
  -- the rounded value is the floor (remainder at most 1/2) or the floor plus one (remainder at least 1/2)
  have key : ∀ k : ℤ, (k = ⌊q * 1000⌋ ∧ q * 1000 - ⌊q * 1000⌋ ≤ 1 / 2) ∨
      (k = ⌊q * 1000⌋ + 1 ∧ 1 / 2 ≤ q * 1000 - ⌊q * 1000⌋) → |q * 1000 - ((k.toNat : ℕ) : ℚ)| ≤ 1 / 2 := by
    rintro k (⟨rfl, hr⟩ | ⟨rfl, hr⟩)
    · rw [← Int.cast_natCast, Int.toNat_of_nonneg hf0, abs_le]
      exact ⟨le_trans (by norm_num) (sub_nonneg.2 h1), hr⟩
    · rw [← Int.cast_natCast, Int.toNat_of_nonneg (Int.add_nonneg hf0 Int.one_nonneg), abs_le, Int.cast_add, Int.cast_one]
      refine ⟨?_, (sub_neg.2 h2).le.trans (by norm_num)⟩
      rw [sub_add_eq_sub_sub, le_sub_iff_add_le]
      exact le_trans (by norm_num) hr
  unfold milliOf
  simp only [floor_eq]
  -- `milliOf` tests the remainder `< 1/2`, `> 1/2`, then the parity of the floor (half to even): the `simp only`s below
  -- evaluate these three `if`s
  by_cases a : q * 1000 - ⌊q * 1000⌋ < 1 / 2
  · exact key _ (.inl ⟨by simp only [a, ↓reduceIte], a.le⟩)
  · by_cases b : 1 / 2 < q * 1000 - ⌊q * 1000⌋
    · exact key _ (.inr ⟨by simp only [a, b, ↓reduceIte], b.le⟩)
    · by_cases c : ⌊q * 1000⌋ % 2 = 0
      · exact key _ (.inl ⟨by simp only [a, b, c, ↓reduceIte], not_lt.1 b⟩)
      · exact key _ (.inr ⟨by simp only [a, b, c, ↓reduceIte], not_lt.1 a⟩)

theorem chanEq_milli (x : Nat) (h : ∃ q, decode x = some q ∧ 0 ≤ q) : ChanEq x (chanMilli x) := by
  obtain ⟨q, h1, h2⟩ := h
  exact ⟨q, h1, by simpa [chanMilli, h1] using milliOf_close q h2⟩

theorem colEquiv_milli (c : ColV) (h : ColOK c) : ColEquiv c (milliCol c) := by
  cases c with
  | bits r g b a =>
    exact ⟨chanEq_milli r (h r (by simp)), chanEq_milli g (h g (by simp)), chanEq_milli b (h b (by simp)),
      chanEq_milli a (h a (by simp))⟩
  | milli r g b a => exact ⟨rfl, rfl, rfl, rfl⟩

theorem layerinfo_roundtrip (l : Layer P) (hc : ∀ c, l.color = some c → ColOK c) :
    LayerEquiv L l (rtLayer L l) :=
  ⟨rfl, rfl, optRel_map_self _ _ _ fun c hcol => colEquiv_milli c (hc c hcol), dictEquiv_sort l.lib,
    forall₂_map_self (GlyphEquiv L) (normE L) l.glyphs fun _ _ => ⟨rfl, rfl, rfl⟩⟩

theorem dictEquiv_rtLib (f : Font P) (hk : lookupKV objectLibsKey f.lib = none) : DictEquiv f.lib (rtLib f) := by
  unfold rtLib
  split
  · exact dictEquiv_sort f.lib
  · intro k p
    by_cases hkk : k = objectLibsKey
    · subst hkk; rw [lookupKV_erase_self, hk]
    · simp only [lookupKV_erase_ne _ _ _ hkk, lookup_sortDict, lookupKV_is.append, lookupKV, if_neg (Ne.symm hkk),
        Option.or_none]
      exact leaf_get_sortRec _ p

/-- the kerning half of the groups / kerning part (groups are written and read as they are) -/
theorem kerning_roundtrip (k : List (String × List (String × NumV))) (h : ∀ e ∈ k, ∀ p ∈ e.2, NumOK p.2) :
    List.Forall₂ (fun a b => b.1 = a.1 ∧ List.Forall₂ (fun p q => q.1 = p.1 ∧ CloseV q.2 p.2) a.2 b.2)
      k (loadKerning (saveKerning k)) := by
  rw [loadKerning_saveKerning]
  exact forall₂_map_self _ _ _ fun e he =>
    ⟨rfl, forall₂_map_self _ _ _ fun p hp => ⟨rfl, kerning_value_roundtrip p.2 (h e he p hp)⟩⟩

theorem guides_roundtrip (gs : List Guide) : List.Forall₂ GuideEquiv gs (gs.map sortGuide) :=
  forall₂_map_self _ _ _ fun _ _ => ⟨rfl, rfl, optRel_map_self _ _ _ fun l _ => dictEquiv_sort l⟩

/-- **C01, model level.**  Every valid font whose numbers are inside the guard is saved without error, the saved tree
    loads without error, and the loaded font is the same font (`FontEquiv`).  The write options do not occur: the
    abstract file values do not depend on them (indentation and quoting are below this model; the correspondence runs
    every case under varying options). -/
theorem font_roundtrip (f : (Font P)) (hv : ValidFont L f) (hn : NumbersOK f) :
    ∃ t f', saveFont f = .ok t ∧ loadFont t = .ok f' ∧ FontEquiv L f f' := by
  obtain ⟨t, h1, h2⟩ := save_load_eq L f hv
  refine ⟨t, rtFont L f, h1, h2, ?_⟩
  refine { creator := rfl, fv := rfl, nums := ?_, upm := ?_, guides := ?_, rest := rfl,
           lib := dictEquiv_rtLib f hv.noKey, groups := rfl, kerning := kerning_roundtrip _ hn.kerning,
           features := features_roundtrip _, layers := ?_, data := rfl, images := rfl }
  · show List.Forall₂ NumEntryEquiv f.info.nums (loadNums (saveNums f.info.nums))
    rw [loadNums_saveNums]
    refine forall₂_map_self _ _ _ fun e he => ⟨rfl, ?_⟩
    by_cases hl : isLenKey e.1 = true
    · simp only [hl, if_true]
    · simp only [hl]
      exact fontinfo_value_roundtrip e.2 (hn.info e he (by simpa using hl))
  · rw [show (rtFont L f).info.upm = f.info.upm.map (readNum ∘ writeWith upmWrite) from Option.map_map ..]
    exact optRel_map_self _ _ _ fun v hu =>
      closeV_roundtrip upmWrite v fun q hq => upm_close q ((hn.upm v hu).2 q hq) ((hn.upm v hu).1 q hq)
  · exact optRel_map_self _ _ _ fun gs _ => guides_roundtrip gs
  · exact forall₂_map_self _ _ _ fun l hl => layerinfo_roundtrip L l (hn.colours l hl)

/-- non-vacuity of `ValidFont`; every quantified field is empty on this font -/
def emptyFont : Font tokenParts where
  creator := none
  fv := 3
  minor := 0
  info := {}
  lib := []
  groups := []
  kerning := []
  features := []
  layers := [{ name := "public.default", dir := "glyphs" }]
  data := []
  images := []

example : ValidFont tokenLaws emptyFont where
  fv := rfl
  noKey := rfl
  ids := rfl
  libIds := by intro g hg; cases hg
  dirs := by decide
  defFirst := ⟨_, _, rfl, rfl⟩
  files := by intro l hl; simp [emptyFont] at hl; subst hl; rfl
  glyphsOK := by intro l hl g hg; simp [emptyFont] at hl; subst hl; cases hg
  restValid := rfl

/-! ## source-level tie (DESIGN 11.8): what `tools/extract_roundtrip.py` read from the Rust of THIS run

`Generated.RoundTrip` is regenerated from `src/glyph/serialize.rs`, `src/glyph/parse.rs`, `src/glyph/mod.rs`,
`src/font.rs`, `src/layer.rs`, `src/fontinfo.rs`, `src/kerning.rs` before the build.  The writer omits a value
under a gate; the reader assumes a value when it is absent; the two must be the same value. -/

namespace Source
open Generated.RoundTrip

def readerDefault (e a : String) : Option String :=
  (glifReaderDefaults.find? (fun r => r.elem == e && r.attr == a)).map (·.dflt)

/-- an attribute that is always written needs no default; one that is omitted at `v` must be read as `v` -/
def attrRowOk (w : WRow) : Bool :=
  w.omitted == "-" || readerDefault w.elem w.attr == some w.omitted

/-- the glyph fields an element fills, and which reader default (of `Glyph::new_impl`) an omitted element leaves; an element
    the table does not know fills `"?"`, a field without reader default, so that its row fails `elementRowOk` -/
def elementFields : String → List String
  | "advance" => ["width", "height"]
  | "image" => ["image"]
  | "lib" => ["lib"]
  | "note" => ["note"]
  | "outline" => ["contours", "components"]
  | "contour" => ["contours"]
  | "component" => ["components"]
  | "anchor" => ["anchors"]
  | "guideline" => ["guidelines"]
  | "unicode" => ["codepoints"]
  | _ => ["?"]

/-- gate of a whole element vs the default of the fields it fills (`neither-normal` vs `0`: the advance is
    dropped for 0/0 — and for subnormal, infinite and NaN values, the recorded C02 finding) -/
def elementGateOk (gate dflt : String) : Bool :=
  (gate == "none" && dflt == "none") || (gate == "empty" && dflt == "empty") ||
  (gate == "both-empty" && dflt == "empty") || (gate == "each" && dflt == "empty") ||
  (gate == "neither-normal" && dflt == "0")

def elementRowOk (r : String × String) : Bool :=
  (elementFields r.1).all fun f => match readerDefault "glyph" f with
    | some d => elementGateOk r.2 d
    | none => false

/-- an optional file / key: the condition under which it is not written vs what load gives without it -/
def fileGateOk (gate read : String) : Bool :=
  (gate == "empty" && read == "empty") || (gate == "none" && read == "none") ||
  (gate == "color-none-and-lib-empty" && read == "none+empty")

def fileRowOk (r : String × String) : Bool :=
  match absentReads.find? (fun a => a.1 == r.1) with
  | some a => fileGateOk r.2 a.2
  | none => false

/-- the optional parts this model gates, with the gate the model uses (`mkTree`, `saveLayerInfo`) -/
def modelFileGates : List (String × String) :=
  [("data", "empty"), ("features.fea", "empty"), ("fontinfo.plist", "empty"), ("groups.plist", "empty"),
   ("images", "empty"), ("kerning.plist", "empty"), ("layerinfo.plist", "color-none-and-lib-empty"),
   ("layerinfo.plist:color", "none"), ("layerinfo.plist:lib", "empty"), ("lib.plist", "empty")]

/-- the three writers of the model: function under the test, comparison, threshold, bounds, what is cast
    (`kernWrite`, `infoWrite`, `upmWrite`) -/
def modelNumberWriters : List NRow :=
  [⟨"kerning", "round", "lt", "f64::EPSILON", "ge i32::MIN", "le i32::MAX", "rounded"⟩,
   ⟨"fontinfo", "fract", "le", "f64::EPSILON", "ge i32::MIN", "le i32::MAX", "raw"⟩,
   ⟨"unitsPerEm", "fract", "lt", "f64::EPSILON", "-", "le i32::MAX", "raw"⟩]

end Source

open Generated.RoundTrip Source in
/-- **every attribute the glif writer omits under a gate is omitted exactly at the value the glif parser
    assumes when the attribute is absent** (smooth / false, type / offcurve, the six transform coefficients at
    the identity, advance width and height / 0, every optional name, colour, identifier / none) -/
theorem source_gates_match_defaults : glifWriter.all attrRowOk = true := by decide +kernel

open Generated.RoundTrip Source in
/-- every element the glif writer leaves out is left out exactly when the glyph field it fills has the value
    `Glyph::new_impl` starts from -/
theorem source_element_gates_match_defaults : glifElementGates.all elementRowOk = true := by decide +kernel

open Generated.RoundTrip Source in
/-- **every file (and layerinfo key) that is written only when non-empty reads back as the empty value when it
    is absent**, and `FontInfo::is_empty` is equality with the default value the loader uses -/
theorem source_absent_files_read_as_empty :
    fileGates.all fileRowOk = true ∧ fontinfoEmptyIsDefault = true := by decide +kernel

open Generated.RoundTrip Source in
/-- the gates of the optional files in the source are the gates of the model (`mkTree`, `saveLayerInfo`) … -/
theorem source_file_gates_match_model : fileGates = modelFileGates := by decide +kernel

/-- … and these ARE the model's gates: `mkTree` writes nothing optional for the empty font and writes each optional
    part as soon as it is not empty; `saveLayerInfo` likewise for colour and lib (the reader side is
    `model_absent_files_read_as_empty` in Props/C04) -/
theorem model_file_gates (ol : Dict) :
    (mkTree emptyFont []).fontinfo.isNone ∧ (mkTree emptyFont []).lib.isNone ∧ (mkTree emptyFont []).groups.isNone ∧
    (mkTree emptyFont []).kerning.isNone ∧ (mkTree emptyFont []).features.isNone ∧
    (mkTree { emptyFont with lib := [("k", PV.bool true)] } ol).lib.isSome ∧
    (mkTree { emptyFont with groups := [("g", [])] } ol).groups.isSome ∧
    (mkTree { emptyFont with kerning := [("a", [])] } ol).kerning.isSome ∧
    (mkTree { emptyFont with features := ['x'] } ol).features.isSome ∧
    (mkTree { emptyFont with info := { rest := some "r" } } ol).fontinfo.isSome ∧
    (saveLayerInfo ({ name := "n", dir := "d" } : Layer tokenParts)).isNone ∧
    (saveLayerInfo ({ name := "n", dir := "d", lib := [("k", PV.bool true)] } : Layer tokenParts)).isSome ∧
    (saveLayerInfo ({ name := "n", dir := "d", color := some (ColV.milli 0 0 0 0) } : Layer tokenParts)).isSome := by
  refine ⟨rfl, rfl, rfl, rfl, rfl, ?_, rfl, rfl, rfl, rfl, rfl, rfl, rfl⟩
  cases ol <;> rfl

open Generated.RoundTrip Source in
/-- **the constants and tests of the three int-or-float writers in the source are those of the model**:
    `f64::EPSILON` = `eps`, the i32 bounds, strict / non-strict comparison, what is cast; the colour string has
    as many decimals as the model's thousandths -/
theorem source_number_writers_match_model :
    numberWriters = modelNumberWriters ∧ eps = 1 / (epsilonDen : ℚ) ∧ RT.i32Max = Generated.RoundTrip.i32Max ∧
    RT.i32Min = Generated.RoundTrip.i32Min ∧ 10 ^ colorDecimals = 1000 := by
  refine ⟨by decide +kernel, ?_, rfl, rfl, by decide⟩
  unfold eps epsilonDen; norm_num

/-- the descriptor `modelNumberWriters` describes the model: strictness at distance exactly ε, the cast of the
    rounded (kerning) or the raw truncated value (font info, unitsPerEm), the upper bound inclusive -/
theorem model_number_writers :
    kernWrite (1 - eps) = .real (1 - eps) ∧ kernWrite (1 - eps / 2) = .int 1 ∧
    infoWrite (1 + eps) = .int 1 ∧ infoWrite (-1 - eps) = .int (-1) ∧ infoWrite (1 - eps / 2) = .real (1 - eps / 2) ∧
    upmWrite (1 + eps) = .real (1 + eps) ∧ upmWrite (1 + eps / 2) = .int 1 ∧
    kernWrite 2147483647 = .int 2147483647 ∧ kernWrite 2147483648 = .real 2147483648 ∧
    infoWrite (-2147483648) = .int (-2147483648) ∧ upmWrite 2147483647 = .int 2147483647 := by
  refine ⟨?_, ?_, ?_, ?_, ?_, ?_, ?_, ?_, ?_, ?_, ?_⟩ <;> decide +kernel

/-! ## serde of the font-info fields, of the metainfo and of guideline geometry: one table-driven round trip

The field tables are the REGENERATED ones (`Generated.Vocab`, from `src/fontinfo.rs`, `src/font.rs`, `src/guideline.rs` of the
run): the font-info fields with their plist keys and Rust types, the record types resolved recursively.  The shape part
(keys pairwise different in every struct at every depth, all leaf types among `knownLeaves`) is decided on the table;
the value part is `FT.roundtrip`, structural.  What stays assumed is `FT.LeafLaw`: the primitive leaves (strings,
integers, booleans, enumerations, the int-or-float numbers — for those see `int_or_float_within_1e9` —, the custom
sequences `Os2Panose` / `Os2FamilyClass` / `Bitlist`) through serde's primitive impls and the `plist` crate. -/

open Generated.Vocab FT in
/-- the shape of `FontInfo`, read from the source -/
def fontinfoTy : FT.Ty := structOf recordFields fontinfoFields

open Generated.Vocab FT in
def metainfoTy : FT.Ty := structOf recordFields metainfoFields

open Generated.Vocab FT in
/-- `RawGuideline`: six optional leaves under the keys the writer uses; each leaf's type is named by its key, so `FT.keysOK` of
    this shape says exactly that the six keys are pairwise different -/
def guidelineTy : FT.Ty := .struct (guidelineWriterKeys.map fun k => (k, true, FT.Ty.leaf k))

/-- the leaf types that occur in the tables -/
def knownLeaves : List String :=
  ["f64", "IntegerOrFloat", "String", "Guideline", "Integer", "NonNegativeInteger", "GaspBehavior", "Bitlist",
   "Os2FamilyClass", "Os2Panose", "Os2WidthClass", "Float", "bool", "PostscriptWindowsCharacterSet", "StyleMapStyle",
   "NonNegativeIntegerOrFloat", "WoffAttributeDirection", "FormatVersion", "u32"]

/-- **shape part, decided on the regenerated tables**: in the font info, in every record type nested in it, in the
    metainfo and in the guideline no two fields share a plist key (otherwise one would overwrite the other on write or
    shadow it on read), every record type a field names is in the table (nothing unresolved is left among the leaves),
    and the guideline writer and reader use the same keys.  The count 108 is the number of fields of `FontInfo` in
    `Generated.Vocab` (from `src/fontinfo.rs`): the other clauses hold of a shorter table too, so a truncated extraction
    fails here. -/
theorem source_field_tables_shape :
    FT.keysOK fontinfoTy = true ∧ FT.keysOK metainfoTy = true ∧ FT.keysOK guidelineTy = true ∧
    (FT.leaves fontinfoTy ++ FT.leaves metainfoTy).all (knownLeaves.contains ·) = true ∧
    Generated.Vocab.fontinfoFields.length = 108 ∧
    Generated.Vocab.guidelineWriterKeys = Generated.Vocab.guidelineParserKeys := by
  have h : (FT.fieldsOK (FT.shapeOK Generated.Vocab.recordFields knownLeaves 6) Generated.Vocab.fontinfoFields &&
      FT.fieldsOK (FT.shapeOK Generated.Vocab.recordFields knownLeaves 6) Generated.Vocab.metainfoFields) = true := by
    decide +kernel
  rw [Bool.and_eq_true] at h
  have hf := FT.structOf_shaped _ _ _ h.1
  have hm := FT.structOf_shaped _ _ _ h.2
  refine ⟨hf.1, hm.1, by decide +kernel, ?_, by decide +kernel, by decide +kernel⟩
  rw [List.all_append, Bool.and_eq_true]
  exact ⟨hf.2, hm.2⟩

/-- **`read (write v) = v` for every value of the font-info table** (all 108 fields, nested records and vectors
    included), for every leaf codec satisfying the leaf law -/
theorem fontinfo_fieldtable_roundtrip {L : Type} (C : FT.LeafCodec L) (hL : FT.LeafLaw C) (v : FT.Val L) (p : PV)
    (h : FT.enc C fontinfoTy v = some p) : FT.dec C fontinfoTy p = some v :=
  have ⟨fontinfoKeys, _⟩ := source_field_tables_shape
  FT.roundtrip C hL fontinfoTy v p fontinfoKeys h

theorem metainfo_fieldtable_roundtrip {L : Type} (C : FT.LeafCodec L) (hL : FT.LeafLaw C) (v : FT.Val L) (p : PV)
    (h : FT.enc C metainfoTy v = some p) : FT.dec C metainfoTy p = some v :=
  have ⟨_, metainfoKeys, _⟩ := source_field_tables_shape
  FT.roundtrip C hL metainfoTy v p metainfoKeys h

/-- guideline geometry, name, colour and identifier: the six keys of `RawGuideline` -/
theorem guideline_fieldtable_roundtrip {L : Type} (C : FT.LeafCodec L) (hL : FT.LeafLaw C) (v : FT.Val L) (p : PV)
    (h : FT.enc C guidelineTy v = some p) : FT.dec C guidelineTy p = some v :=
  have ⟨_, _, guidelineKeys, _⟩ := source_field_tables_shape
  FT.roundtrip C hL guidelineTy v p guidelineKeys h

/-- non-vacuity of `FT.enc`: a struct with an absent optional field and a vector field is written (as a one-key
    dictionary) -/
example : ∃ p, FT.enc ⟨fun _ (x : String) => some (PV.str x), fun _ p => match p with | .str s => some s | _ => none⟩
    (.struct [("a", true, .leaf "String"), ("b", false, .vec (.leaf "String"))])
    (.struct [none, some (.list [.leaf "x"])]) = some p := ⟨_, rfl⟩

end RT
