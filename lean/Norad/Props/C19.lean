import Norad.Lemmas.Par
import Norad.Spec.ParSource
/-!
# C19 — parallel loading and saving give exactly the sequential results

Property theorems about `Model/Par.lean` (transcription of `names.rs`, the glyph loop of
`Layer::load_impl` and of `Layer::save_with_options`).  The property, clause by clause:

* "sharing interned names between threads never changes, loses or mixes up a name"
  — `intern_returns_equal_name`, `interning_never_mixes`, `par_set_wellformed`, `par_load_items`
* "for every thread count and every interleaving, loading yields the same font as the sequential build"
  — `par_load_eq_seq`, `par_load_eq_seq_sorted`, `par_load_fails_iff_seq_fails`, `par_font_eq_seq`
* "saving yields the same bytes" — `par_save_eq_seq` under the guard *the files named in `contents` are
  pairwise distinct*; without the guard the statement is false: `par_save_eq_seq_counterexample`
  (a `contents.plist` that maps two glyphs to one file loads without complaint; recorded finding).

All theorems hold for both variants of what `get` returns after taking the write lock (`retStored`):
the requested `Arc` (the code as it is) or the stored one.

What is **not** a theorem here (see docs/notes/C19.md): the schedules are those of the model — atomic
lock sections interleaved in any order, any assignment of files to any number of workers — not the
machine's; that `RwLock`/`HashSet`/rayon implement these atomic steps is rustc's and the libraries'
guarantee; which error a failing parallel load reports depends on the schedule and is outside the statement.
-/
namespace Par

/-- **whatever the set holds when the request reads it and whatever it holds when the write lands, the
    name handed out has the text that was asked for** -/
theorem intern_returns_equal_name (b : Bool) (sRead sWrite : NameSet) (req : NameObj) :
    (getSplit b sRead sWrite req).str = req.str := by
  unfold getSplit
  split
  · rename_i e h; exact lookup_str h
  · exact writeStep_str b sWrite req

/-- **two requests for different texts never receive the same name**, whatever the four states of the set
    they see -/
theorem interning_never_mixes (b : Bool) (sR₁ sW₁ sR₂ sW₂ : NameSet) (r₁ r₂ : NameObj)
    (h : r₁.str ≠ r₂.str) : getSplit b sR₁ sW₁ r₁ ≠ getSplit b sR₂ sW₂ r₂ := by
  intro e
  apply h
  rw [← intern_returns_equal_name b sR₁ sW₁ r₁, ← intern_returns_equal_name b sR₂ sW₂ r₂, e]

/-- the write step never puts a second element with the same text into the set and never removes one -/
theorem write_keeps_set_wellformed (b : Bool) (s : NameSet) (req : NameObj) (h : SetOK s) :
    SetOK (writeStep b s req).1 ∧ (∀ e ∈ s, e ∈ (writeStep b s req).1) ∧
      (∀ e ∈ (writeStep b s req).1, e ∈ s ∨ e = req) :=
  ⟨insertIfAbsent_ok h req, fun _ he => insertIfAbsent_sub he, fun _ he => insertIfAbsent_mem he⟩

/-- **the shared name list under ANY schedule** (complete or not, any pool): it never holds two names with
    the same text, and no name that was in it is ever lost or replaced -/
theorem par_set_wellformed (b : Bool) (sched : List Nat) (st : St) (h : SetOK st.sh.set) :
    SetOK (run b sched st).sh.set ∧ ∀ e ∈ st.sh.set, e ∈ (run b sched st).sh.set :=
  ⟨run_set_invariant SetOK (fun _ req hs => insertIfAbsent_ok hs req) b sched st h,
   run_set_invariant (fun s => ∀ e ∈ st.sh.set, e ∈ s) (fun _ _ hs e he => insertIfAbsent_sub (hs e he))
     b sched st (fun _ he => he)⟩

/-- **no name is changed, lost or mixed up**: after ANY schedule under which every worker finishes, for
    any assignment of the files to any number of workers and any initial name list, the collector holds
    exactly one item per file (in some order), and it is the glyph named by the file's `contents` key
    with the file's component bases in order — or the failure of that file.  In particular `stuck` is
    never handed over. -/
theorem par_load_items (b : Bool) (s0 : NameSet) (n0 : Nat) (assign : List (List File)) (sched : List Nat)
    (hd : (run b sched (St.init s0 n0 assign)).allDone = true) :
    ((run b sched (St.init s0 n0 assign)).sh.out.map Item.view).Perm (assign.flatten.map File.expect) := by
  -- the ledger (handed over ++ still owed) is the same up to order after every step; at the end nothing is owed
  have h2 := (run_inv b sched _ (init_ok s0 n0 assign)).2
  rwa [init_ledger, St.ledger, owed_done hd, List.append_nil] at h2

theorem seq_load_closed (b : Bool) (s0 : NameSet) (n0 : Nat) (files : List File) :
    seqLoad b s0 n0 files = layerOf (files.map File.expect) := by
  rw [seqLoad, seqItems_views]

/-- what `layerOf_perm` / `sortedLayerOf_perm` need of a complete run -/
theorem out_perm_expect (b : Bool) (s0 : NameSet) (n0 : Nat) (files : List File)
    (assign : List (List File)) (sched : List Nat)
    (hassign : assign.flatten.Perm files) (hkeys : (files.map File.key).Nodup)
    (hd : (run b sched (St.init s0 n0 assign)).allDone = true) :
    (files.map File.expect).Perm ((run b sched (St.init s0 n0 assign)).sh.out.map Item.view) ∧
      (((files.map File.expect).filterMap IView.glyph?).map View.name).Nodup :=
  ⟨((par_load_items b s0 n0 assign sched hd).trans (hassign.map File.expect)).symm,
    (expect_names_sublist files).nodup hkeys⟩

/-- **every complete schedule yields the sequential layer map** (and fails iff the sequential build
    fails): for every `retStored`, every initial name list and allocator state — also different ones on the
    two sides —, every number of workers, every assignment of the files of `contents` to them, every
    interleaving of their atomic steps.  `contents` is a map, so its keys are pairwise distinct. -/
theorem par_load_eq_seq (b : Bool) (s0 s0' : NameSet) (n0 n0' : Nat) (files : List File)
    (assign : List (List File)) (sched : List Nat)
    (hassign : assign.flatten.Perm files) (hkeys : (files.map File.key).Nodup)
    (hd : (run b sched (St.init s0 n0 assign)).allDone = true) :
    parLoad b s0 n0 assign sched = seqLoad b s0' n0' files := by
  obtain ⟨hp, nd⟩ := out_perm_expect b s0 n0 files assign sched hassign hkeys hd
  rw [seq_load_closed, parLoad, layerOf_perm hp nd]

/-- the same with the layer kept as `BTreeMap` shows it — a list sorted by glyph name: for every strict
    total order `lt` on names, every complete schedule yields the sequential list, entry for entry -/
theorem par_load_eq_seq_sorted (lt : Str → Str → Bool) (hlt : StrictTotal lt) (b : Bool) (s0 s0' : NameSet)
    (n0 n0' : Nat) (files : List File) (assign : List (List File)) (sched : List Nat)
    (hassign : assign.flatten.Perm files) (hkeys : (files.map File.key).Nodup)
    (hd : (run b sched (St.init s0 n0 assign)).allDone = true) :
    sortedLayerOf lt ((run b sched (St.init s0 n0 assign)).sh.out.map Item.view) =
      sortedLayerOf lt ((seqItems b s0' n0' files).2.2.map Item.view) := by
  obtain ⟨hp, nd⟩ := out_perm_expect b s0 n0 files assign sched hassign hkeys hd
  rw [seqItems_views, sortedLayerOf_perm hlt hp nd]

/-- … in particular for the order `BTreeMap<Name, _>` uses (non-vacuity of the hypothesis `StrictTotal`) -/
theorem par_load_eq_seq_btree (b : Bool) (s0 s0' : NameSet)
    (n0 n0' : Nat) (files : List File) (assign : List (List File)) (sched : List Nat)
    (hassign : assign.flatten.Perm files) (hkeys : (files.map File.key).Nodup)
    (hd : (run b sched (St.init s0 n0 assign)).allDone = true) :
    sortedLayerOf lexLt ((run b sched (St.init s0 n0 assign)).sh.out.map Item.view) =
      sortedLayerOf lexLt ((seqItems b s0' n0' files).2.2.map Item.view) :=
  par_load_eq_seq_sorted lexLt lexLt_strictTotal b s0 s0' n0 n0' files assign sched hassign hkeys hd

/-- a parallel load fails iff some file fails iff the sequential load fails -/
theorem par_load_fails_iff_seq_fails (b : Bool) (s0 s0' : NameSet) (n0 n0' : Nat) (files : List File)
    (assign : List (List File)) (sched : List Nat)
    (hassign : assign.flatten.Perm files) (hkeys : (files.map File.key).Nodup)
    (hd : (run b sched (St.init s0 n0 assign)).allDone = true) :
    (parLoad b s0 n0 assign sched = none ↔ seqLoad b s0' n0' files = none) ∧
    (seqLoad b s0' n0' files = none ↔ ∃ f ∈ files, f.bad = true) := by
  refine ⟨by rw [par_load_eq_seq b s0 s0' n0 n0' files assign sched hassign hkeys hd], ?_⟩
  have hg : ∀ f : File, (f.expect).isGlyph = !f.bad := fun f => by
    unfold File.expect; cases f.bad <;> rfl
  rw [seq_load_closed, layerOf]
  simp [List.all_map, hg]

/-- **the whole font**: layers are loaded one after the other and share the name list; whatever the
    parallel loads of the earlier layers left in it, every layer comes out as in the sequential build -/
theorem par_font_eq_seq (b : Bool) (plans : List (LayerPlan × List File))
    (h : ∀ p ∈ plans, p.1.assign.flatten.Perm p.2 ∧ (p.2.map File.key).Nodup)
    (s0 s0' : NameSet) (n0 n0' : Nat) (r : List (Option LayerMap))
    (hr : parFont b s0 n0 (plans.map (·.1)) = some r) :
    r = seqFont b s0' n0' (plans.map (·.2)) := by
  induction plans generalizing s0 s0' n0 n0' r with
  | nil => simpa [parFont, seqFont] using hr.symm
  | cons p ps ih =>
    simp only [List.map_cons, parFont] at hr
    split at hr
    · rename_i hd
      simp only [Option.map_eq_some_iff] at hr
      obtain ⟨r', hr', rfl⟩ := hr
      obtain ⟨hp, hk⟩ := h p (by simp)
      have h1 : layerOf _ = layerOf _ := par_load_eq_seq b s0 s0' n0 n0' p.2 p.1.assign p.1.sched hp hk hd
      rw [List.map_cons, seqFont, ← h1, ← ih (fun q hq => h q (by simp [hq])) _ _ _ _ r' hr']
    · simp at hr

/-- **writes to pairwise distinct files commute**: in whatever order the file writes of a parallel save
    land, the directory ends up as after the sequential save — provided `contents` names every file once -/
theorem par_save_eq_seq (entries order : List Entry) (d : Dir) (hp : order.Perm entries)
    (hdist : (entries.map Entry.path).Nodup) : saveIn order d = saveIn entries d := by
  have nd : (order.map Entry.path).Nodup := (hp.map Entry.path).nodup_iff.mpr hdist
  exact foldl_perm_of_nodup_keys writeEntry Entry.path (fun z _ _ hne => update_comm z _ _ hne) hp nd d

/-- without the guard: `contents = {a ↦ f.glif, b ↦ f.glif}`; the sequential save leaves `b`'s data in
    `f.glif`, the schedule that writes `b` first leaves `a`'s -/
theorem par_save_eq_seq_counterexample :
    ∃ (entries order : List Entry) (d : Dir), order.Perm entries ∧ saveIn order d ≠ saveIn entries d := by
  refine ⟨[⟨['a'], ['f']⟩, ⟨['b'], ['f']⟩], [⟨['b'], ['f']⟩, ⟨['a'], ['f']⟩], fun _ => none,
    List.Perm.swap _ _ _, ?_⟩
  intro h
  have := congrFun h ['f']
  simp [saveIn, writeEntry] at this

/-- the double-checked write step is the `retStored = true` variant of the model's write step -/
theorem recheck_is_writeStep_true (s : NameSet) (req : NameObj) :
    writeStepRecheck s req = writeStep true s req := by
  unfold writeStepRecheck writeStep insertIfAbsent
  cases h : lookup s req.str with
  | some e => simp [h]
  | none => simp [lookup]

/-! ## source-level tie (DESIGN 11.8)

`Generated.ParSites` is re-extracted from `src/**/*.rs` of the tree under check on every run
(`tools/extract_par_sites.py`): every pair of items under `cfg(feature = "rayon")` / `cfg(not(feature = "rayon"))`,
token lists un-normalised.  The theorems below are about what the code says NOW; a section whose anchor is gone uses
its pinned copy (evidence: `extraction: pinned`) and the behavioural correspondence is then the only tie. -/

section source
open Generated.ParSites ParSource

/-- The two facts about token lists below are evaluated together: both normalise the bodies of the name table's
    `impl`, and the kernel remembers what it has computed only within one declaration. -/
theorem source_bodies_evaluated :
    allSites.all (fun s => norm s.par == norm s.seq ||
      (isTableImpl s && (knownTableShapes.map (·.1)).contains (shape (norm s.par)) &&
        shape (norm s.seq) == modelTableShape)) = true ∧
    (allSites.filter isTableImpl).length = 1 ∧
    (allSites.filter isTableImpl).all
      (fun s => (knownTableShapes.map (·.1)).contains (shape (norm s.par))) = true := by
  decide +kernel

/-- **every site's rayon variant is its sequential variant** once the known differences are erased (`norm`:
    `par_iter`→`iter`, `into_par_iter`→`into_iter`, `.par_bridge()`, `let mut`, `RwLock`/`RefCell` and
    lock-vs-borrow, `ParNameList`/`SeqNameList`).  Everything else a task does — the closure of the glyph loop, the
    collector, the error path, `contains` — is either the same text for both builds or compared here.  The one
    pair that may differ beyond `norm` is the `impl` of the name table: its rayon `get` may have either of the two
    known forms (`source_get_is_two_step`), the sequential one the plain form. -/
theorem source_par_bodies_equal_seq :
    allSites.all (fun s => norm s.par == norm s.seq ||
      (isTableImpl s && (knownTableShapes.map (·.1)).contains (shape (norm s.par)) &&
        shape (norm s.seq) == modelTableShape)) = true :=
  source_bodies_evaluated.1

/-- **the sites are exactly the model's parallel steps**: the pairs that introduce a parallel iteration are the
    glyph loop of `Layer::load_impl` and of `Layer::save_with_options`, both over `contents`; the other pairs are
    the four representation pairs of the name table; there is no pair anywhere else; the only rayon-only items
    are the prelude import and a constructor that makes a new empty table per `NameList`; a rayon API word occurs
    nowhere but in the import and the two steps. -/
theorem source_par_sites_complete :
    iterSites.map (fun s => (s.file, s.scope, s.iterated)) = modelParSteps.map (fun m => (m.1, m.2.1, m.2.2.1)) ∧
    nameTable.map (fun s => (s.file, s.scope, s.kind, s.name)) = modelTablePairs ∧
    (layerLoad ++ layerSave).length = modelParSteps.length ∧
    otherSites = [] ∧ oneSided = modelOneSided ∧ apiWords = modelApiWords :=
  ⟨rfl, rfl, rfl, rfl, rfl, rfl⟩

/-- **results come out in a schedule-independent order**: every parallel step gathers into an ordered map (the
    model's collector `layerOf` / `sortedLayerOf` is order-independent exactly because it is keyed: `layerOf_perm`,
    `sortedLayerOf_perm`), gathers nothing (save: the effects commute, `par_save_eq_seq`), or re-sorts -/
theorem source_results_order_restored : iterSites.all orderRestored = true := by decide +kernel

/-- **the model's assumptions about a task hold of the source**: the shared statement of each step mentions, of all
    shared state, exactly what the model gives a task (`names` = `Shared.set` on load; the glyph map, read-only, on
    save; the name table is recognised by the type `&NameList` of the parameter; no `&mut` capture, no lock, atomic, static or `path_set`); a failing task ends the step through
    `collect::<Result<..>>` / `try_for_each` (model: fails iff some task fails, `par_load_fails_iff_seq_fails`).  The third
    conjunct only restates the theorem names typed into `modelParSteps` (strings Lean does not resolve): it ties nothing -/
theorem source_shared_state_matches_model :
    iterSites.map (fun s => (s.scope, s.touches)) = modelTouches ∧
    iterSites.all (fun s => modelErrorForms.contains s.errorForm) = true ∧
    modelParSteps.map (·.2.2.2) = ["par_load_eq_seq", "par_save_eq_seq"] :=
  ⟨rfl, by decide +kernel, rfl⟩

/-- **`get` is the model's two atomic steps**: the table words of the rayon `impl`, after `norm`, are in order
    one of the two known forms.  Plain: look up under the read lock and clone; on a miss `HashSet::insert` under the
    write lock and a clone of the requested name (`getSplit` with `writeStep false`).  Double-checked: on a miss take
    the write lock, look up again, hand out the stored name if present, else insert and hand out the requested one
    (`writeStepRecheck` = `writeStep true`, `recheck_is_writeStep_true`).  `contains` = a lookup under the read
    lock.  Local names and punctuation are not compared (a renaming is not a change); all theorems of this file hold
    for both values of `retStored`. -/
theorem source_get_is_two_step :
    (allSites.filter isTableImpl).length = 1 ∧
    (allSites.filter isTableImpl).all
      (fun s => (knownTableShapes.map (·.1)).contains (shape (norm s.par))) = true :=
  source_bodies_evaluated.2

/-- `norm` erases only what it is meant to: it does not identify a hashed with an ordered collection, nor two
    different method calls (non-vacuity of `source_par_bodies_equal_seq`) -/
example : norm ["x", ".", "par_iter", "(", ")"] = ["x", ".", "iter", "(", ")"] := by decide +kernel
example : norm ["HashMap"] ≠ norm ["BTreeMap"] := by decide +kernel
example : norm [".", "insert", "(", "a", ")"] ≠ norm [".", "replace", "(", "a", ")"] := by decide +kernel
-- the two iteration pairs and the four pairs of the name table
example : allSites.length = 6 := by decide

end source

section examples

private def fA : File := ⟨['A'], ['A'], [['b']], 1, false⟩
private def fa : File := ⟨['a'], ['x'], [['b']], 2, false⟩
private def fBad : File := ⟨['z'], ['z'], [], 3, true⟩
/-- both workers intern key and attribute, then both look `b` up (both miss), then both take the write
    lock: the lost race of names.rs:50-55 -/
private def race : List Nat := [0, 0, 0, 0, 0, 1, 1, 1, 1, 1, 1, 0, 1, 0, 1]

/-- that schedule is complete, and the hypotheses of `par_load_eq_seq` are satisfiable -/
example : (run false race (St.init [] 0 [[fA], [fa]])).allDone = true := by decide +kernel

example : [[fA], [fa]].flatten.Perm [fa, fA] ∧ ([fa, fA].map File.key).Nodup :=
  ⟨List.Perm.swap _ _ _, by decide⟩

/-- the result at the key `a`: named by the contents key (not by the attribute `x`) -/
example : (parLoad false [] 0 [[fA], [fa]] race).map (· ['a']) = some (some ⟨['a'], [['b']], 2⟩) := by decide +kernel

example : seqLoad false [] 0 [fa, fBad] = none := by decide
example : parLoad false [] 0 [[fBad], [fa]] race = none := by decide +kernel

/-- what the parallel name list does **not** guarantee (and the property does not ask for): one allocation
    per text.  After the lost race the two glyphs hold different `Arc`s for the component base `b` when `get`
    returns the requested name (the code as it is), the same one when it returns the stored name. -/
example : ((run false race (St.init [] 0 [[fA], [fa]])).sh.out.map
    (fun | .glyph g => g.comps.map NameObj.tag | _ => [])) = [[2], [5]] := by decide +kernel
example : ((run true race (St.init [] 0 [[fA], [fa]])).sh.out.map
    (fun | .glyph g => g.comps.map NameObj.tag | _ => [])) = [[2], [2]] := by decide +kernel

example : (([⟨['a'], ['f']⟩, ⟨['b'], ['g']⟩] : List Entry).map Entry.path).Nodup := by decide

/-- the hypothesis of `par_set_wellformed` holds at the start of a font load (empty name list), and the set
    after the racing schedule holds `b` once although two workers inserted it -/
example : SetOK ([] : NameSet) := List.Pairwise.nil
example : ((run false race (St.init [] 0 [[fA], [fa]])).sh.set.map NameObj.str) =
    [['b'], ['x'], ['a'], ['A']] := by decide +kernel

/-- the sorted collector on the racing schedule: `A` before `a` -/
example : sortedLayerOf lexLt
    ((run false race (St.init [] 0 [[fa], [fA]])).sh.out.map Item.view) =
    some [⟨['A'], [['b']], 1⟩, ⟨['a'], [['b']], 2⟩] := by decide +kernel

end examples

end Par
