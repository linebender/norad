import Norad.Props.C08
import Norad.Lemmas.SaveFault
/-!
# C08, one fault kind: a step of the plan fails with an I/O error

What the model guarantees about the tree after a save that was NOT refused by validation and then failed at step `k`
of its plan: the TARGET may be partially written (and what stood there before is gone: the wipe has run); NOTHING
OUTSIDE the target is touched.  Guard `safePaths`, as for C09's `save_frame` (without it: C09's two
recorded escapes).  Model of the fault: `Model/SaveFault.lean`.
-/
namespace C08
open AbsFS FontSave

variable {β : Type}

/-- For every font with safe relative paths, every file system, target and every
    fault (any position, any I/O error): every path that is not at or below the target has the same node before and
    after the faulted save. -/
theorem failed_save_stays_inside_target (cfg : Cfg β) (f : AFont β) (fs : FS β) (t : APath) (ft : Fault)
    (hs : safePaths f = true) :
    ∀ q, ¬ t <+: q → lookup (saveImplFault cfg f fs t ft).2 q = lookup fs q := by
  intro q hq
  fun_cases saveImplFault cfg f fs t ft
  · rfl
  · rfl
  · rename_i d i hv fs1 hw
    obtain ⟨hd, hi⟩ := forced_safe hs hv
    rw [plan_normal cfg f d i t hs hd hi, injectFault_map]
    refine Eq.trans ?_ (wipe_frame hw q hq)
    split
    · exact planN_prefix_frame cfg f d i t hd fs1 ft.pos (.io ft.err) q hq
    · exact planN_frame cfg f d i t hd fs1 q hq

/-- a fault positioned beyond the end of the plan this save runs (the plan for the store entries the validation forced)
    changes nothing: the faulted save is the save -/
theorem fault_beyond_this_plan_is_save (cfg : Cfg β) (f : AFont β) (fs : FS β) (t : APath) (ft : Fault)
    (h : ∀ d i, validatePhase cfg f fs = .ok (d, i) → (plan cfg f d i t).length ≤ ft.pos) :
    saveImplFault cfg f fs t ft = saveImpl cfg f fs t := by
  fun_cases saveImplFault cfg f fs t ft <;> simp only [saveImpl, *]
  rw [injectFault, if_neg (Nat.not_lt.mpr (h _ _ ‹_›))]

/-- vacuous, despite the name: `h` asks for a bound on the plan for ALL `d`, `i`, and the plan has two effects per entry
    of `d`; the statement meant is `fault_beyond_this_plan_is_save` -/
theorem fault_beyond_plan_is_save (cfg : Cfg β) (f : AFont β) (fs : FS β) (t : APath) (ft : Fault)
    (h : ∀ d i, (plan cfg f d i t).length ≤ ft.pos) : saveImplFault cfg f fs t ft = saveImpl cfg f fs t :=
  fault_beyond_this_plan_is_save cfg f fs t ft fun d i _ => h d i

def okFont : AFont Nat := { angleFont with info := { body := 0, guides := [], valid := true, serialisable := true } }

/-- What the target does NOT keep: a valid font saved onto a target that holds a precious
    file, the write behind metainfo.plist failing with an I/O error - the save reports the error, the precious file is
    gone, the target holds metainfo.plist and nothing else of the font; the sibling of the target is untouched. -/
theorem failed_save_leaves_partial_target :
    let fs0 : FS Nat := precious ++ [(["s".toList], .file 7)]
    let r := saveImplFault cfgN okFont fs0 ["t".toList] { pos := 2, err := .notFound }
    r.1 = some (.io .notFound) ∧
    lookup r.2 ["t".toList, "precious".toList] = none ∧
    (lookup r.2 ["t".toList, "metainfo.plist".toList]).isSome = true ∧
    lookup r.2 ["t".toList, "layercontents.plist".toList] = none ∧
    lookup r.2 ["s".toList] = some (.file 7) := by
  decide +kernel

/-- non-vacuity of the guard: the font of the witness has safe paths -/
example : safePaths okFont = true := by decide +kernel

end C08
