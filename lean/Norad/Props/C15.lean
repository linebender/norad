import Norad.Lemmas.Kerning
import Norad.Generated.KernConsts
import Norad.Props.KernSource
/-!
# C15 — kerning groups are validated, and legacy kerning is upconverted faithfully

The property theorems, and the few helpers only they use (`upconvertWith_ok`, the two facts about `decimal`).
`validateGroups`, `upconvertWith`, `upconvertKerning` are the transcription of `groups.rs` / `upconversion.rs`
(`Model/Kerning.lean`); `KernSpec` is the independent statement (`Spec/Kerning.lean`).  The upconversion theorems hold
for **every visiting order** `ord1`, `ord2` of the two sets (any lists without repetition whose elements are groups of
the input); what the order does change (which source gets which counter) is the subject of C10.
-/
namespace Kern
open StrMap

/-- the executable oracle of the driver is the declarative predicate -/
theorem validGroupsB_iff (g : Groups) : KernSpec.validGroupsB g = true ↔ KernSpec.ValidGroups g := by
  unfold KernSpec.validGroupsB KernSpec.ValidGroups
  simp only [Bool.and_eq_true, nodupB_iff, List.all_eq_true, Bool.not_eq_true', bne_iff_ne, ne_eq,
    List.isEmpty_eq_false_iff, and_assoc]

-- the literals are read off by `toList_ofList` first, as for `pfx1_chars`
example : validateGroups [("public.kern1.A".toList, ["a".toList]), ("public.kern1.B".toList, ["a".toList])]
    = .error .overlapping := by
  repeat rw [String.toList_ofList]
  decide +kernel
example : validateGroups [("public.kern1.A".toList, ["a".toList]), ("public.kern2.A".toList, ["a".toList])]
    = .ok () := by
  repeat rw [String.toList_ofList]
  decide +kernel
example : validateGroups [("public.kern2.".toList, [])] = .error .invalidName := by decide +kernel

theorem upconvertWith_ok {sfx : Nat → Str} {ord1 ord2 : List Str} {g : Groups} {k : Kerning} {o : UpOut}
    (h : upconvertWith sfx ord1 ord2 g k = .ok o) :
    ∃ g1, renameSide sfx pfx1 mmkL ord1 g [] = .ok (g1, o.t1) ∧
      renameSide sfx pfx2 mmkR ord2 g1 [] = .ok (o.groups, o.t2) ∧
      o.kerning = rewriteKerning o.t1 o.t2 k := by
  revert h
  fun_cases upconvertWith sfx ord1 ord2 g k <;> intro h <;> cases h
  next g1 t1 h1 g2 t2 h2 => exact ⟨g1, h1, h2, rfl⟩

/-- every original group is still there with its members. -/
theorem groups_kept {sfx : Nat → Str} {ord1 ord2 : List Str} {g : Groups} {k : Kerning} {o : UpOut}
    (h : upconvertWith sfx ord1 ord2 g k = .ok o) :
    ∀ n, hasKey n g = true → lookup n o.groups = lookup n g := by
  obtain ⟨g1, h1, h2, _⟩ := upconvertWith_ok h
  exact Keeps.trans (renameSide_keeps ord1 g g1 [] o.t1 h1) (renameSide_keeps ord2 g1 o.groups [] o.t2 h2)

/-- the keys of the result are the original keys plus the generated
    names — exactly, as a list: one new key per table entry and no other. -/
theorem nothing_else_altered {sfx : Nat → Str} {ord1 ord2 : List Str} {g : Groups} {k : Kerning} {o : UpOut}
    (h : upconvertWith sfx ord1 ord2 g k = .ok o) :
    keys o.groups = o.t2.map (·.2) ++ (o.t1.map (·.2) ++ keys g) ∧
      keys o.t1 = ord1.reverse ∧ keys o.t2 = ord2.reverse := by
  obtain ⟨g1, h1, h2, _⟩ := upconvertWith_ok h
  obtain ⟨n1, a1, b1, c1⟩ := renameSide_struct ord1 g g1 [] o.t1 h1
  obtain ⟨n2, a2, b2, c2⟩ := renameSide_struct ord2 g1 o.groups [] o.t2 h2
  simp only [List.append_nil] at a1 a2
  subst a1 a2
  exact ⟨by rw [b2, b1], c1, c2⟩

/-- the generated names are pairwise distinct (across both sides) and none is a key of the input -/
theorem new_names_fresh {sfx : Nat → Str} {ord1 ord2 : List Str} {g : Groups} {k : Kerning} {o : UpOut}
    (h : upconvertWith sfx ord1 ord2 g k = .ok o) (hg : (keys g).Nodup) :
    (o.t2.map (·.2) ++ o.t1.map (·.2)).Nodup ∧
      ∀ u, u ∈ o.t1.map (·.2) ∨ u ∈ o.t2.map (·.2) → hasKey u g = false := by
  obtain ⟨g1, h1, h2, _⟩ := upconvertWith_ok h
  have hnd := renameSide_nodup ord2 g1 o.groups [] o.t2 h2 (renameSide_nodup ord1 g g1 [] o.t1 h1 hg)
  rw [(nothing_else_altered h).1, ← List.append_assoc, List.nodup_append] at hnd
  obtain ⟨newNodup, _, newNotOld⟩ := hnd
  exact ⟨newNodup, fun u hu => hasKey_false_iff.mpr fun hk => newNotOld u (List.mem_append.mpr hu.symm) u hk rfl⟩

/-- every visited first-side group `n` has exactly one new name `u` in the
    table; `u` is `public.kern1.` + `n` without `@MMK_L_` (+ a counter), was no key of the input, and
    holds the members of `n`; likewise for the second side.  Together with `nothing_else_altered` and
    `new_names_fresh`: the new keys are exactly the images of the two sets, pairwise distinct. -/
theorem new_groups_exact {sfx : Nat → Str} {ord1 ord2 : List Str} {g : Groups} {k : Kerning} {o : UpOut}
    (h : upconvertWith sfx ord1 ord2 g k = .ok o)
    (hs1 : ∀ n ∈ ord1, hasKey n g = true) (hs2 : ∀ n ∈ ord2, hasKey n g = true)
    (hn1 : ord1.Nodup) (hn2 : ord2.Nodup) :
    (∀ n ∈ ord1, ∃ u, lookup n o.t1 = some u ∧ hasKey u g = false ∧
        lookup u o.groups = lookup n g ∧ (pfx1 ++ removeAll mmkL n) <+: u) ∧
    (∀ n ∈ ord2, ∃ u, lookup n o.t2 = some u ∧ hasKey u g = false ∧
        lookup u o.groups = lookup n g ∧ (pfx2 ++ removeAll mmkR n) <+: u) := by
  obtain ⟨g1, h1, h2, _⟩ := upconvertWith_ok h
  have keep1 := renameSide_keeps ord1 g g1 [] o.t1 h1
  have keep2 := renameSide_keeps ord2 g1 o.groups [] o.t2 h2
  -- a copy made by the first loop survives the second; the second loop still finds every input group
  exact ⟨renameSide_exact h1 (fun _ _ => rfl) keep2 hs1 hn1, renameSide_exact h2 keep1 (fun _ _ => rfl) hs2 hn2⟩

/-- for every visiting order: visiting groups of the input whose names are valid, the conversion
    neither reaches an `unwrap` on `None`/`Err` nor exhausts the fuel of the uniqueness loop
    (`g.length + 1` candidates always contain a free one). -/
theorem upconvertWith_total {sfx : Nat → Str} (hinj : ∀ a b, sfx a = sfx b → a = b)
    (hsfx : ∀ c, ∀ ch ∈ sfx c, isCtl ch = false)
    {ord1 ord2 : List Str} {g : Groups} (k : Kerning)
    (hs1 : ∀ n ∈ ord1, hasKey n g = true ∧ validName n = true)
    (hs2 : ∀ n ∈ ord2, hasKey n g = true ∧ validName n = true) :
    ∃ o, upconvertWith sfx ord1 ord2 g k = .ok o := by
  obtain ⟨⟨g1, t1⟩, h1⟩ := renameSide_total (pfx := pfx1) (legacy := mmkL) hinj hsfx
    (show validName pfx1 = true by rw [pfx1_chars]; decide) ord1 g [] hs1
  have keep1 := renameSide_keeps ord1 g g1 [] t1 h1
  obtain ⟨⟨g2, t2⟩, h2⟩ := renameSide_total (pfx := pfx2) (legacy := mmkR) hinj hsfx
    (show validName pfx2 = true by rw [pfx2_chars]; decide) ord2 g1 [] fun n hn => (hs2 n hn).imp_left (Keeps.hasKey keep1)
  exact ⟨⟨g2, rewriteKerning t1 t2 k, t1, t2⟩, by simp only [upconvertWith, h1, h2]⟩

/-- the first set holds exactly the first-side sources of the statement -/
theorem sources_first (g : Groups) (k : Kerning) (S : List Str) (n : Str) :
    n ∈ sortDedup (firstSet g k S) ↔ KernSpec.isSource1 g k S n = true := by
  -- both sides unfolded say the same in another association: the two filters of `firstSet` against `hasKey n g && (legacy || referenced)`
  rw [mem_sortDedup]
  simp only [firstSet, knownFirst, referencedFirst, List.mem_append, List.mem_filter,
    KernSpec.isSource1, Bool.and_eq_true, Bool.or_eq_true, ← hasKey_iff_mem_keys]
  constructor
  · rintro (⟨a, b⟩ | ⟨a, ⟨⟨b, c⟩, d⟩⟩)
    · exact ⟨a, Or.inl b⟩
    · exact ⟨b, Or.inr ⟨⟨a, c⟩, d⟩⟩
  · rintro ⟨a, (b | ⟨⟨b, c⟩, d⟩)⟩
    · exact Or.inl ⟨a, b⟩
    · exact Or.inr ⟨b, ⟨⟨a, c⟩, d⟩⟩

theorem sources_second (g : Groups) (k : Kerning) (S : List Str) (n : Str) :
    n ∈ sortDedup (secondSet g k S) ↔ KernSpec.isSource2 g k S n = true := by
  rw [mem_sortDedup]
  simp only [secondSet, knownSecond, referencedSecond, List.mem_append, List.mem_filter,
    KernSpec.isSource2, Bool.and_eq_true, Bool.or_eq_true, ← hasKey_iff_mem_keys, List.mem_flatMap,
    List.any_eq_true, Bool.not_eq_true']
  constructor
  · rintro (⟨a, _, b⟩ | ⟨⟨e, he, hne⟩, ⟨⟨b, c⟩, d⟩⟩)
    · exact ⟨a, Or.inl b⟩
    · exact ⟨b, Or.inr ⟨⟨⟨e, he, hne⟩, c⟩, d⟩⟩
  · rintro ⟨a, (b | ⟨⟨⟨e, he, hne⟩, c⟩, d⟩)⟩
    · exact Or.inl ⟨a, mmk_not_both b, b⟩
    · exact Or.inr ⟨⟨e, he, hne⟩, ⟨⟨a, c⟩, d⟩⟩

/-- for the function as called by `Font::load`: groups with valid names
    (all a `Name` can hold) never make `upconvert_kerning` panic or loop forever. -/
theorem upconvert_no_panic {sfx : Nat → Str} (hinj : ∀ a b, sfx a = sfx b → a = b)
    (hsfx : ∀ c, ∀ ch ∈ sfx c, isCtl ch = false)
    (g : Groups) (k : Kerning) (S : List Str) (hv : ∀ n ∈ keys g, validName n = true) :
    ∃ o, upconvertKerning sfx g k S = .ok o := by
  apply upconvertWith_total hinj hsfx
  -- `isSource1/2` open with `hasKey n g &&`
  · intro n hn
    have hk : hasKey n g = true := (Bool.and_eq_true_iff.1 ((sources_first g k S n).1 hn)).1
    exact ⟨hk, hv n (hasKey_iff_mem_keys.mp hk)⟩
  · intro n hn
    have hk : hasKey n g = true := (Bool.and_eq_true_iff.1 ((sources_second g k S n).1 hn)).1
    exact ⟨hk, hv n (hasKey_iff_mem_keys.mp hk)⟩

/-- a group whose name is a glyph name and does not carry
    the legacy prefix is not a source, gets no copy, and a kerning key of that name stays as it is —
    on either side. -/
theorem glyph_named_like_group_not_renamed {sfx : Nat → Str} {g : Groups} {k : Kerning} {S : List Str}
    {o : UpOut} (h : upconvertKerning sfx g k S = .ok o) (n : Str) (hS : n ∈ S) :
    (mmkL.isPrefixOf n = false → lookup n o.t1 = none ∧ rn o.t1 n = n) ∧
    (mmkR.isPrefixOf n = false → lookup n o.t2 = none ∧ rn o.t2 n = n) := by
  obtain ⟨_, k1, k2⟩ := nothing_else_altered h
  have none_of {t : Table} {ord : List Str} (hk : keys t = ord.reverse) (hn : n ∉ ord) :
      lookup n t = none ∧ rn t n = n :=
    have := lookup_eq_none_iff.mpr (hk ▸ mt List.mem_reverse.mp hn)
    ⟨this, rn_of_none this⟩
  exact ⟨fun hp => none_of k1 (by rw [sources_first]; simp [KernSpec.isSource1, ← mmkL_eq, hp, hS]),
    fun hp => none_of k2 (by rw [sources_second]; simp [KernSpec.isSource2, ← mmkR_eq, hp, hS])⟩

/-! ## kerning values

Full statement (FALSE on the tree, kept visible):

  theorem kerning_values_preserved (h : upconvertWith sfx ord1 ord2 g k = .ok o) … :
      ∀ e ∈ k, ∀ p ∈ e.2, KernSpec.pairValue o.kerning (rn o.t1 e.1) (rn o.t2 p.1) = some p.2

A kerning key that is *not a group* may equal a freshly generated name; `BTreeMap::insert` then
overwrites (`kerning_values_preserved_counterexample`).  Recorded in known_findings.txt
(`kerning-key-equals-generated-name`); the reference algorithm does the same. -/

/-- when no kerning key that is not a group equals a generated
    name, every pair is found under its renamed keys with its value (bit pattern) unchanged. -/
theorem kerning_values_preserved_partial {sfx : Nat → Str} {ord1 ord2 : List Str} {g : Groups}
    {k : Kerning} {o : UpOut} (h : upconvertWith sfx ord1 ord2 g k = .ok o)
    (hg : (keys g).Nodup) (hk : (keys k).Nodup) (hks : ∀ e ∈ k, (keys e.2).Nodup)
    (guard1 : ∀ f ∈ keys k, hasKey f g = false → f ∉ o.t1.map (·.2))
    (guard2 : ∀ e ∈ k, ∀ s ∈ keys e.2, hasKey s g = false → s ∉ o.t2.map (·.2)) :
    ∀ e ∈ k, ∀ p ∈ e.2, KernSpec.pairValue o.kerning (rn o.t1 e.1) (rn o.t2 p.1) = some p.2 := by
  obtain ⟨_, _, _, hker⟩ := upconvertWith_ok h
  obtain ⟨hnd, hfresh⟩ := new_names_fresh h hg
  rw [List.nodup_append] at hnd
  obtain ⟨nodup2, nodup1, _⟩ := hnd
  -- a key that equals a new name would be no key of `g`, which the guards exclude
  have inj1 := rn_injOn (K := keys k) nodup1 fun b hb _ hmem => guard1 b hb (hfresh b (.inl hmem)) hmem
  intro e he p hp
  have inj2 := rn_injOn (K := keys e.2) nodup2 fun b hb _ hmem => guard2 e he b hb (hfresh b (.inr hmem)) hmem
  have l1 := foldIns_lookup (rn o.t1) (rewriteSeconds o.t2) k [] hk inj1 e he
  have l2 := foldIns_lookup (rn o.t2) id e.2 [] (hks e he) inj2 p hp
  rw [← rewriteKerning_eq, ← hker] at l1
  rw [← rewriteSeconds_eq] at l2
  simp only [KernSpec.pairValue, l1, l2, id]

/-- every entry of the rewritten kerning is an input entry under its
    renamed first key (holds unconditionally). -/
theorem kerning_nothing_invented {sfx : Nat → Str} {ord1 ord2 : List Str} {g : Groups}
    {k : Kerning} {o : UpOut} (h : upconvertWith sfx ord1 ord2 g k = .ok o)
    (f' : Str) (secs' : Seconds) (hl : lookup f' o.kerning = some secs') :
    ∃ e ∈ k, rn o.t1 e.1 = f' ∧ rewriteSeconds o.t2 e.2 = secs' ∧
      ∀ s' v, lookup s' secs' = some v → ∃ p ∈ e.2, rn o.t2 p.1 = s' ∧ p.2 = v := by
  obtain ⟨_, _, _, hker⟩ := upconvertWith_ok h
  rw [hker, rewriteKerning_eq] at hl
  rcases foldIns_origin _ _ k [] f' secs' hl with ⟨e, he, h1, h2⟩ | hn
  · refine ⟨e, he, h1, h2, ?_⟩
    intro s' v hs
    rw [← h2, rewriteSeconds_eq] at hs
    exact (foldIns_origin _ _ e.2 [] s' v hs).resolve_right nofun
  · cases hn

def cexGroups : Groups := [("@MMK_L_A".toList, ["a".toList])]
def cexKerning : Kerning :=
  [("@MMK_L_A".toList, [("b".toList, 2)]), ("public.kern1.A".toList, [("c".toList, 1)])]

/-- group `@MMK_L_A`, pairs `(@MMK_L_A, b) = 2` and a
    dangling `(public.kern1.A, c) = 1`: the converted kerning has no value for
    `(public.kern1.A, b)` — the pair is lost (corpus/C15/known.case replays it on the real crate). -/
theorem kerning_values_preserved_counterexample :
    ∃ o, upconvertKerning decimal cexGroups cexKerning [] = .ok o ∧
      KernSpec.pairValue cexKerning "@MMK_L_A".toList "b".toList = some 2 ∧
      KernSpec.pairValue o.kerning (rn o.t1 "@MMK_L_A".toList) (rn o.t2 "b".toList) = none := by
  decide +kernel

/-- non-vacuity of the guarded theorem: a run with a source on each side satisfying the guards -/
example : ∃ o, upconvertKerning decimal [("A".toList, ["a".toList]), ("@MMK_L_A".toList, ["b".toList])]
    [("A".toList, [("A".toList, 7)])] [] = .ok o ∧
    keys o.groups = ["public.kern2.A".toList, "public.kern1.A1".toList, "public.kern1.A".toList,
      "A".toList, "@MMK_L_A".toList] ∧
    KernSpec.pairValue o.kerning "public.kern1.A1".toList "public.kern2.A".toList = some 7 := by
  repeat rw [String.toList_ofList]
  decide +kernel

theorem decimal_injective : ∀ a b, decimal a = decimal b → a = b := by
  intro a b h
  apply Nat.repr_injective
  exact String.toList_inj.mp h

theorem decimal_no_ctl : ∀ c, ∀ ch ∈ decimal c, isCtl ch = false := by
  intro c ch hch
  have := isDigit_code (nat_repr_digits c ch hch)
  simp only [isCtl, Bool.or_eq_false_iff, Bool.and_eq_false_iff, decide_eq_false_iff_not, beq_eq_false_iff_ne]
  omega

/-- with the decimal counter (the code's `format!("{}{}", name, counter)`),
    no hypothesis on the rendering is left. -/
theorem upconvert_no_panic_decimal (g : Groups) (k : Kerning) (S : List Str)
    (hv : ∀ n ∈ keys g, validName n = true) : ∃ o, upconvertKerning decimal g k S = .ok o :=
  upconvert_no_panic decimal_injective decimal_no_ctl g k S hv

/-! ## source-level tie

`Generated.KernConsts` is regenerated from `src/groups.rs` / `src/upconversion.rs` of the checked tree on every
run (`tools/extract_kern_consts.py`).  The theorems below are about what the code says NOW: a changed
prefix, length test or side assignment makes them fail (a proof obligation that no longer checks),
independently of whether the sampling meets an input that shows the difference. -/

/-- the literals of the source are the literals of the model — the two
    kerning-group prefixes (in the validator, in the "already converted" tests and in the new names) and
    the two legacy markers, each on the side the model puts it. -/
theorem source_prefixes_match_model :
    Generated.KernConsts.validatorPrefixes.map (·.1) = [pfx1, pfx2] ∧
    Generated.KernConsts.skipPrefixes = [("first", pfx1), ("second", pfx2)] ∧
    Generated.KernConsts.newNames = [("first", pfx1, mmkL), ("second", pfx2, mmkR)] ∧
    Generated.KernConsts.knownLegacy = [(mmkL, "first"), (mmkR, "second")] := by
  rw [pfx1_chars, pfx2_chars, mmkL_chars, mmkR_chars]; decide +kernel

/-- the length every `starts_with(P) && len() == N` test of the
    validator compares with is the byte length of its prefix (so the test means "the name is only the
    prefix", `prefixOnly_iff`), and it is the model's 13. -/
theorem source_prefix_only_test_matches_model :
    ∀ e ∈ Generated.KernConsts.validatorPrefixes, e.2 = byteLen e.1 ∧ e.2 = 13 := by decide

/-- the validator theorem restated with the prefixes of the source -/
theorem source_validate_iff (g : Groups) :
    validateGroups g = .ok () ↔
      (∀ e ∈ g, e.1 ≠ [] ∧ ∀ p ∈ Generated.KernConsts.validatorPrefixes, e.1 ≠ p.1) ∧
      ∀ p ∈ Generated.KernConsts.validatorPrefixes, (KernSpec.sideMembers p.1 g).Nodup := by
  have hm (P : Str → Prop) :
      (∀ p ∈ Generated.KernConsts.validatorPrefixes, P p.1) ↔ P KernSpec.p1 ∧ P KernSpec.p2 := by
    rw [← List.forall_mem_map (f := Prod.fst), source_prefixes_match_model.1]; simp [pfx1_eq, pfx2_eq]
  rw [validate_iff, KernSpec.ValidGroups, hm (fun q => (KernSpec.sideMembers q g).Nodup)]
  exact and_congr_left' (forall₂_congr fun e _ => and_congr_right' (hm (e.1 ≠ ·)).symm)

/-! ## the theorems above, stated of the regenerated passes

`Kern.Gen.*` (`Norad/Generated/Upconv.lean`) is the statement-by-statement translation of `validate_groups`,
`make_unique_group_name`, `find_known_kerning_groups` and `upconvert_kerning` made by `tools/extract_upconv.py` from the
tree under check; `source_validate_eq_model` / `source_upconvert_eq_model` (`Props/KernSource.lean`) identify them with the
model, so every theorem of this file rewrites into one about the regenerated code.  The ones the property names: -/

/-- the validator of the source accepts exactly the valid maps -/
theorem source_gen_validate_iff (g : Groups) : Gen.validateGroups g = .ok () ↔ KernSpec.ValidGroups g := by
  rw [source_validate_eq_model]; exact validate_iff g

/-- the conversion of the source never panics and its `while` ends (decimal counter, valid input names) -/
theorem source_gen_upconvert_no_panic (g : Groups) (k : Kerning) (S : List Str)
    (hv : ∀ n ∈ keys g, validName n = true) : ∃ o, Gen.upconvertKerning decimal g k S = .ok o := by
  rw [source_upconvert_eq_model]; exact upconvert_no_panic_decimal g k S hv

/-- the conversion of the source keeps every original group -/
theorem source_gen_groups_kept {sfx : Nat → Str} {g : Groups} {k : Kerning} {S : List Str} {o : UpOut}
    (h : Gen.upconvertKerning sfx g k S = .ok o) :
    ∀ n, hasKey n g = true → lookup n o.groups = lookup n g := by
  rw [source_upconvert_eq_model] at h
  exact groups_kept (ord1 := sortDedup (firstSet g k S)) (ord2 := sortDedup (secondSet g k S)) h

-- non-vacuity: the regenerated passes run (and agree with the model) on colliding inputs
example : Gen.validateGroups [("public.kern1.A".toList, ["a".toList]), ("public.kern1.B".toList, ["a".toList])]
    = .error .overlapping := by
  repeat rw [String.toList_ofList]
  decide +kernel
example : Gen.validateGroups [("public.kern1.".toList, [])] = .error .invalidName := by
  repeat rw [String.toList_ofList]
  decide +kernel
example : Gen.validateGroups [("public.kern1.A".toList, ["a".toList]), ("public.kern2.A".toList, ["a".toList])]
    = .ok () := by
  repeat rw [String.toList_ofList]
  decide +kernel
example : ∃ o, Gen.upconvertKerning decimal
      [("@MMK_L_A".toList, ["a".toList]), ("A".toList, ["b".toList])] [("A".toList, [("x".toList, 1)])] [] = .ok o ∧
      lookup "public.kern1.A".toList o.groups = some ["a".toList] ∧
      lookup "public.kern1.A1".toList o.groups = some ["b".toList] ∧
      lookup "public.kern1.A1".toList o.kerning = some [("x".toList, 1)] ∧
      hasKey "@MMK_L_A".toList o.groups = true := by
  repeat rw [String.toList_ofList]
  decide +kernel

end Kern
