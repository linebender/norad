import Norad.Props.C16
/-!
# C01 / C04 — data and image files: what the identity of the tree model stands for in the store model of C16

`Model/RoundTrip.lean` carries `data` and `images` (lists of key ↦ content) through `saveFont` / `loadFont` unchanged.
Here a list of that type is EMBEDDED into a C16 store (`embStore`); the tie to the tree model is the type of the list
only (no statement below mentions `saveFont`).  The C16 theorems give what the identity stands for:

* `files_roundtrip`, for either kind of store: the store's block of the save plan runs, afterwards every entry's file holds
  exactly the entry's bytes, and a store that lists those keys lazily (what a later `Font::load` builds) returns exactly
  those bytes on the first access to every key.
* Gap, named: the step "list the written directory" (`newStore` on a `Listing`) is a C16 theorem about listings
  (`newStore_inv`, `listing_refusals`); `AbsFS.listBelow` lists a directory of the abstract file system, but nothing
  connects it to a `C16.Listing`, so the lazily listed store is GIVEN its keys here.
-/
namespace RT.Bridge
open C16 Path StoreOrder StorePlan AbsFS FontSave

/-- the embedding: keys as character lists, contents through any function into bytes, every cell loaded (a font built
    in memory) -/
def embStore (kind : C16.Kind) (β : String → C16.Bytes) (d : List (String × String)) : C16.Store :=
  ⟨kind, d.map fun e => (e.1.toList, .loaded (β e.2))⟩

def embWrites (kind : C16.Kind) (β : String → C16.Bytes) (d : List (String × String)) : List WriteFile :=
  d.map fun e => ⟨kind, e.1.toList, β e.2⟩

/-- the store a later load builds over the same keys: nothing read yet -/
def lazyStore (kind : C16.Kind) (d : List (String × String)) : C16.Store :=
  ⟨kind, d.map fun e => (e.1.toList, .notLoaded)⟩

theorem writesOf_emb (kind : C16.Kind) (β : String → C16.Bytes) (d : List (String × String)) :
    writesOf (embStore kind β d) = some (embWrites kind β d) := by
  unfold writesOf embStore embWrites
  induction d with
  | nil => rfl
  | cons e r ih => simp only [List.map_cons, writesOfItems, ih]

theorem keys_lazy (kind : C16.Kind) (β : String → C16.Bytes) (d : List (String × String)) :
    keys (lazyStore kind d) = keys (embStore kind β d) := by
  simp [keys, lazyStore, embStore, List.map_map, Function.comp_def]

/-- what a reader finds below a store directory of the file system -/
def diskOf (fs : FS StoreOrder.Bytes) (base : Loc) : Disk := fun k =>
  match node fs (destOf base k) with
  | some (.file b) => some b
  | _ => none

theorem mem_lazy (kind : C16.Kind) {d : List (String × String)} {e : String × String} (he : e ∈ d) :
    (e.1.toList, C16.Cell.notLoaded) ∈ (lazyStore kind d).items :=
  List.mem_map_of_mem he

theorem inv_lazy {kind : C16.Kind} {β : String → C16.Bytes} {d : List (String × String)}
    (hinv : Inv (embStore kind β d)) : Inv (lazyStore kind d) := by
  refine ⟨keys_lazy kind β d ▸ hinv.keysOK, fun _ e he b hb => ?_⟩
  obtain ⟨e', _, rfl⟩ := List.mem_map.1 he
  cases hb

/-- **the files of a store: written byte-identical and read back.**  The validation at the first access passes because
    a stored key fits (for images: the key is flat and the written bytes start with the PNG signature, both in the
    invariant). -/
theorem files_roundtrip {kind : C16.Kind} (β : String → C16.Bytes) (d : List (String × String))
    {t : APath} {fs : FS StoreOrder.Bytes} (h : Writable kind (embStore kind β d) t fs) :
    ∃ fs', runEffs (storePlan kind t ((embWrites kind β d).map fun w => (parse w.key, w.bytes))) fs = (none, fs') ∧
      (∀ e ∈ d, diskOf fs' (t ++ [C16.storeDirName kind]) e.1.toList = some (β e.2)) ∧
      (∀ e ∈ d, (C16.get (lazyStore kind d) (diskOf fs' (t ++ [C16.storeDirName kind])) e.1.toList).2 =
        some (Except.ok (β e.2))) := by
  obtain ⟨hmemk, hdist⟩ := writesOf_distinct h.inv (writesOf_emb kind β d)
  obtain ⟨f1, r1, hnode⟩ := plan_holds_of h _ hmemk hdist
  have hdisk : ∀ e ∈ d, diskOf f1 (t ++ [C16.storeDirName kind]) e.1.toList = some (β e.2) := by
    intro e he
    unfold diskOf
    rw [hnode ⟨kind, e.1.toList, β e.2⟩ (List.mem_map_of_mem he)]
  refine ⟨f1, r1, hdisk, fun e he => ?_⟩
  -- the key is stored, nothing is loaded yet: the first access reads the disk and validates
  have hk0 := (inv_lazy h.inv).find?_self (mem_lazy kind he)
  have hlazy := (inv_lazy h.inv).keysOK
  have hv := (validate_ok_iff (b := β e.2)).2 ⟨hlazy.fits (List.mem_map_of_mem (mem_lazy kind he)), fun hk =>
    h.inv.imagePng hk (e.1.toList, .loaded (β e.2))
      (List.mem_map_of_mem (f := fun e : String × String => (e.1.toList, C16.Cell.loaded (β e.2))) he) _ rfl⟩
  rw [get_of_lazy hk0, loadItem_loaded.2 ⟨hdisk e he, hv⟩]
  rfl

/-- `files_roundtrip` for the data store, `Writable` spelt out -/
theorem data_files_roundtrip (β : String → C16.Bytes) (d : List (String × String))
    (hinv : Inv (embStore .data β d))
    (hplain : ∀ k ∈ keys (embStore .data β d), (parse k).allNormal = true)
    (t : APath) (fs : FS StoreOrder.Bytes)
    (hT : ∀ m, m <+: t → m ≠ [] → isDir fs m = true)
    (hfresh : ∀ q, (t ++ [C16.storeDirName .data]) <+: q → node fs q = none) :
    ∃ fs', runEffs (((embWrites .data β d).map fun w => (parse w.key, w.bytes)).flatMap (planDataItem t)) fs = (none, fs') ∧
      (∀ e ∈ d, diskOf fs' (t ++ [C16.storeDirName .data]) e.1.toList = some (β e.2)) ∧
      (∀ e ∈ d, (C16.get (lazyStore .data d) (diskOf fs' (t ++ [C16.storeDirName .data])) e.1.toList).2 = some (Except.ok (β e.2))) :=
  files_roundtrip (kind := .data) β d ⟨hinv, nofun, hplain, hT, hfresh⟩

theorem image_files_roundtrip (β : String → C16.Bytes) (d : List (String × String))
    (hinv : Inv (embStore .image β d))
    (hplain : ∀ k ∈ keys (embStore .image β d), (parse k).allNormal = true)
    (t : APath) (fs : FS StoreOrder.Bytes)
    (hT : ∀ m, m <+: t → m ≠ [] → isDir fs m = true)
    (hfresh : ∀ q, (t ++ [C16.storeDirName .image]) <+: q → node fs q = none) :
    ∃ fs', runEffs (planImages t ((embWrites .image β d).map fun w => (parse w.key, w.bytes))) fs = (none, fs') ∧
      (∀ e ∈ d, diskOf fs' (t ++ [C16.storeDirName .image]) e.1.toList = some (β e.2)) ∧
      (∀ e ∈ d, (C16.get (lazyStore .image d) (diskOf fs' (t ++ [C16.storeDirName .image])) e.1.toList).2 =
        some (Except.ok (β e.2))) :=
  files_roundtrip (kind := .image) β d ⟨hinv, fun _ => rfl, hplain, hT, hfresh⟩

theorem lazy_iter_any_order (kind : C16.Kind) (β : String → C16.Bytes) (d : List (String × String))
    (hinv : Inv (embStore kind β d)) (disk : Disk) (ks : List Key) (hp : ks.Perm (keys (lazyStore kind d))) :
    (iterFrom (lazyStore kind d) disk ks).1 = (iter (lazyStore kind d) disk).1 :=
  (iter_any_hash_order (lazyStore kind d) (inv_lazy hinv) disk ks hp).1

end RT.Bridge
