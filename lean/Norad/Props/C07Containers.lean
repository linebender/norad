import Norad.Props.C07
import Norad.Props.C06
/-!
# C07, container level — assigned names are unique ignoring case under any history, and each operation on a layer
leaves the file names of the glyphs that stay alone

`Props/C06.lean` proves the container invariant for every file-name function meeting the contracts `AssignOK` /
`AssignLOK`; this file discharges the contracts for the real algorithm (`C07.glyphFileName`, `C07.layerDirName`) and
reads the container clauses of C07 off the invariant.  `path_stable_*` are statements about one operation on one
layer's index, not about histories.
-/
namespace Layers

theorem assignOK_fileName (U : Char → Bool) (lower : Str → Str) (pre suf : Str) :
    AssignOK lower fun n ps => C07.userNameToFileName U lower n pre suf fun _ s => !ps.contains s := by
  intro n ps p h
  simpa using C07.fileName_accepted_stateless (ok := fun s => !ps.contains s) h

theorem assignOK_glyphFileName (U : Char → Bool) (lower : Str → Str) :
    AssignOK lower (C07.glyphFileName U lower) :=
  assignOK_fileName U lower [] C07.glifSuffix

/-- for every name a layer directory starts with `glyphs.` or `glyphs_`: the premise `valid n` of `AssignLOK` is not needed -/
theorem assignLOK_layerDirName (U : Char → Bool) (lower : Str → Str) (valid : Str → Bool) :
    AssignLOK lower (C07.layerDirName U lower) valid :=
  ⟨assignOK_fileName U lower C07.layerPrefix [], fun n _ _ _ h hp =>
    C07.fileName_of_candidates (P := fun p => p ≠ glyphsDir) h
      (fun k hk => absurd (hk ▸ C07.layer_length U n k) (by decide)) hp⟩

section
variable (U : Char → Bool) (lower : Str → Str) (valid : Str → Bool)

/-- the state reached by any operation history with the real file-name algorithm -/
def runReal (S : LayerSet) (ops : List Op) : LayerSet :=
  run lower (C07.glyphFileName U lower) (C07.layerDirName U lower) valid S ops

variable (hv : ∀ n, valid n = true → n ≠ [])
include hv

theorem real_inv_reachable (S : LayerSet) (ops : List Op) (h : SInv lower S) :
    SInv lower (runReal U lower valid S ops) :=
  inv_reachable lower _ _ valid (assignOK_glyphFileName U lower) (assignLOK_layerDirName U lower valid) S ops h

/-- **within one layer, glif file names are pairwise distinct ignoring case** — after any history from a
    new font (`inv_init`) or from a font loaded from a well-formed tree (`inv_loaded`) -/
theorem layer_paths_distinct_mod_lower (S : LayerSet) (ops : List Op) (h : SInv lower S) :
    ∀ l ∈ (runReal U lower valid S ops).layers, (l.contents.map (fun e => lower e.2)).Nodup :=
  fun l hl => ((real_inv_reachable U lower valid hv S ops h).layersInv l hl).distinct

/-- **within one font, the directories of the non-default layers are pairwise distinct ignoring case**, and all
    directories, the default layer's `glyphs` included, are pairwise distinct (`paths_nodup`) -/
theorem layerset_paths_distinct_mod_lower (S : LayerSet) (ops : List Op) (h : SInv lower S) :
    ((runReal U lower valid S ops).layers.tail.map (fun l => lower l.path)).Nodup ∧
    ((runReal U lower valid S ops).layers.map (·.path)).Nodup :=
  ⟨(real_inv_reachable U lower valid hv S ops h).tailDistinct,
   paths_nodup lower _ (real_inv_reachable U lower valid hv S ops h)⟩

/-- **no layer behind the first lives in `glyphs`**, after any history: a created or renamed layer never got the default
    directory -/
theorem layerset_never_assigns_glyphs (S : LayerSet) (ops : List Op) (h : SInv lower S) :
    ∀ l ∈ (runReal U lower valid S ops).layers.tail, l.path ≠ glyphsDir :=
  (real_inv_reachable U lower valid hv S ops h).tailNotDefault

end

section
variable (lower : Str → Str) (assignG : Str → List Str → Option Str) (valid : Str → Bool)

/-- inserting glyph `g` leaves the file name of every other glyph, and of `g` itself if it was already
    there, unchanged -/
theorem path_stable_insert (L : Layer) (g n p : Str) (h : lookup n L.contents = some p) :
    lookup n (insertGlyph lower assignG L g).1.contents = some p := by
  fun_cases insertGlyph lower assignG L g
  · exact h
  · exact h
  next hg q _ =>
    -- the new entry has a key that was not there
    show lookup n ((g, q) :: L.contents) = some p
    rw [lookup, if_neg fun e : g = n => hg (e ▸ List.mem_map.2 ⟨(n, p), lookup_mem h, rfl⟩)]
    exact h

theorem path_stable_remove (L : Layer) (g n : Str) (hn : n ≠ g) :
    lookup n (removeGlyph lower L g).contents = lookup n L.contents :=
  lookup_is.filter_of_keep (fun _ => decide_eq_true hn) _

/-- renaming `old` leaves the file name of every glyph other than `old` unchanged (also of an existing
    `new` that is overwritten: it keeps its file) -/
theorem path_stable_rename (L : Layer) (old new n p : Str) (ow : Bool) (hn : n ≠ old)
    (h : lookup n L.contents = some p) :
    lookup n (renameGlyph lower assignG valid L old new ow).1.contents = some p := by
  rw [model_renameGlyph_guards]
  exact guarded_ind (P := fun r : Layer × Res => lookup n r.1.contents = some p) _ (fun _ => h) fun _ =>
    path_stable_insert lower assignG _ new n p ((path_stable_remove lower L old n hn).trans h)

theorem path_stable_retain (L : Layer) (keep : Str → Bool) (n p : Str) (hk : n ∈ L.glyphs ∧ keep n = true)
    (h : lookup n L.contents = some p) : lookup n (retainGlyphs lower L keep).contents = some p :=
  (lookup_is.filter_of_keep (fun _ => decide_eq_true (List.mem_filter.2 hk)) _).trans h

end

end Layers
