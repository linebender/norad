import Norad.Lemmas.JudgeDoc
/-!
# C12 — the link to `Spec.judge`: concrete documents, the converse family by family and without a given position

First that the theorems of `Lemmas/Judge*.lean` apply to concrete documents; then, family by family, that a document whose
items up to a GIVEN position are `judge`-clean and whose next item is refused for a GIVEN reason is rejected.  Last the
position and the reason are derived from `judge`'s own output: `judge_rejects_flagged` — a shaped document for which
`judge` reports at least one rule, none of them a rule for which the theorem is known not to hold (`excludedDocRules`: the
recorded findings, `dup-note`, the object-lib rules), and nothing unspecified, is rejected by the parser (not covered: an
excluded rule reported next to others).
-/
namespace Glif

/-- the reader of the examples: `ReadsNumerals` is satisfiable -/
def R1 : Str → Option Nat := fun _ => some 0
theorem law_R1 : ReadsNumerals R1 := fun _ _ => ⟨0, rfl⟩

example : ReadsNumerals (fun _ => some 0) := law_R1

-- a clean element exists, and `clean_element_step` applies to it
example :
    stepContinues (step (fun _ => some 0) { g := { name := ['a'] }, ver := 2 }
      (.empty sAnchor (some [(['y'], ['2']), ("name".toList, ['t']), (['x'], ['1'])]))) = true :=
  (clean_element_step (rd := R1) law_R1
    (s := { g := { name := ['a'] }, ver := 2 })
    (e := { name := sAnchor, attrs := some [(['y'], ['2']), ("name".toList, ['t']), (['x'], ['1'])] })
    (by decide +kernel) (by intro as v _ _ h; cases h)).2.2.1 rfl rfl

def jd0 : Spec.Doc :=
  { prolog := [.decl, .comment],
    gattrs := some [("format".toList, ['2']), ("name".toList, ['a'])],
    items := [.comment,
      .elem { name := sAnchor, attrs := some [(['y'], ['2']), (sIdentifier, ['i']), (['x'], ['1'])] },
      .outline (some []) false [.comment,
        .contour (some [(sIdentifier, ['c'])]) false
          [.elem { name := sPoint, attrs := some [(['x'], ['0']), ("type".toList, "line".toList), (['y'], ['0'])] }, .comment],
        .contour (some []) true [],
        .elem { name := sComponent, attrs := some [("base".toList, ['b'])] }],
      .elem { name := sAdvance, attrs := some [("width".toList, "500".toList)] },
      .lib (some []) (.dict [(['k'], .atom "b1")]) [.other],
      .note (some []) [.text (some ['n']), .comment]] }

def jd1 : Spec.Doc :=
  { prolog := [], gattrs := some [("name".toList, ['a']), ("format".toList, ['1'])],
    items := [.outline (some []) false
      [.contour (some []) false
        [.elem { name := sPoint, attrs := some [(['x'], ['0']), ("type".toList, "move".toList), (['y'], ['0']), ("name".toList, ['t'])] }]]] }

theorem jd0_clean : Spec.judge (fun _ => some 0) jd0 = ([], false) := by decide +kernel
theorem jd1_clean : Spec.judge (fun _ => some 0) jd1 = ([], false) := by decide +kernel

/-! `Shaped` is decidable: for a concrete document it is evaluated -/

instance (a : Option (List Attr)) : Decidable (NodupAttrs a) :=
  match a with
  | none => isTrue (fun _ h => nomatch h)
  | some as => decidable_of_iff ((as.map (·.1)).Nodup) ⟨fun h _ e => Option.some.inj e ▸ h, fun h => h as rfl⟩

instance : DecidablePred CShaped := fun k => by cases k <;> unfold CShaped <;> infer_instance
instance : DecidablePred OShaped := fun k => by cases k <;> unfold OShaped <;> infer_instance
instance : DecidablePred NShaped := fun k => by
  cases k with
  | text t => cases t <;> unfold NShaped <;> infer_instance
  | _ => unfold NShaped; infer_instance
instance : DecidablePred IShaped := fun k => by cases k <;> unfold IShaped <;> infer_instance
instance (d : Spec.Doc) : Decidable (Shaped d) :=
  decidable_of_iff _ ⟨fun h : _ ∧ _ ∧ _ ∧ _ => ⟨h.1, h.2.1, h.2.2.1, h.2.2.2⟩, fun h => ⟨h.1, h.2, h.3, h.4⟩⟩

theorem jd0_shaped : Shaped jd0 := by decide +kernel

example : ∃ g, parseGlif (fun _ => some 0) (Spec.flatten jd0) = .ok g :=
  judge_clean_accepted law_R1 jd0_clean jd0_shaped

-- format 1 (the single named `move` point becomes an anchor)
example : ∃ g, parseGlif (fun _ => some 0) (Spec.flatten jd1) = .ok g :=
  judge_clean_accepted law_R1 jd1_clean (by decide +kernel)

section
open Spec
variable {rd : Str → Option Nat}

/-! Every theorem below is `judge_bad_item_rejected` (the exact state after the clean prefix, `CleanState`) applied to one
constructor of `BodyBad`. -/

/-- what the corollaries share -/
structure CleanPrefix (rd : Str → Option Nat) (d : Doc) (pre : List Item) (bad : Item) (post : List Item) (ver : Nat) : Prop where
  items : d.items = pre ++ bad :: post
  clean : Spec.judge rd { d with items := pre } = ([], false)
  shaped : Shaped { d with items := pre }
  ver : (docVersion d).1 = some ver

theorem rejected_of_bodyBad (law : ReadsNumerals rd) {d : Doc} {pre post : List Item} {bad : Item} {ver : Nat}
    (h : CleanPrefix rd d pre bad post ver) (hb : BodyBad rd ver pre bad) :
    accepted (parseGlif rd (Spec.flatten d)) = false :=
  judge_bad_item_rejected law h.items h.clean h.shaped h.ver hb

/-- **a second advance, outline, lib or image** (`dup-advance`, `dup-outline`, `dup-lib`, `dup-image`) is rejected -/
theorem duplicate_once_only_rejected (law : ReadsNumerals rd) {d : Doc} {pre post : List Item} {bad : Item} {ver : Nat}
    (h : CleanPrefix rd d pre bad post ver) {n : Str} (hn : itemName bad = some n)
    (hcase : n = sAdvance ∨ n = sOutline ∨ n = sLib ∨ n = sImage) (hc : 0 < cnt pre n) :
    accepted (parseGlif rd (Spec.flatten d)) = false :=
  rejected_of_bodyBad law h (.dupOnce bad n hn hcase hc)

/-- **a second note** (`dup-note`) is rejected when an earlier note has text — when the earlier note is empty norad accepts
    the second one: recorded finding `repeated-note-after-empty-note` -/
theorem duplicate_note_rejected (law : ReadsNumerals rd) {d : Doc} {pre post : List Item} {bad : Item} {ver : Nat}
    (h : CleanPrefix rd d pre bad post ver) (hn : itemName bad = some sNote) (hex : ∃ x, x ∈ pre ∧ noteWithText x) :
    accepted (parseGlif rd (Spec.flatten d)) = false :=
  rejected_of_bodyBad law h (.dupNote bad hn hex)

/-- **every rule `Spec.elemCheck` reports for an advance, unicode, anchor, guideline or image** — a missing required attribute
    (`required`), a malformed number (`number`), an angle out of range (`angle`), an invalid name (`name`), colour (`color`),
    code point (`hex`), identifier (`ident-invalid`, `v1-attr`), image file name (`image-name`), an unknown attribute
    (`unknown-attr`), a guideline that has none of the three shapes (`guideline-shape`) — makes the parser reject the
    document; excluded are exactly the two value findings (`ident-empty`, `hex-plus`: norad accepts) and `v1-element` (see
    `judge_hard_error_rejected`) -/
theorem element_rule_rejected (law : ReadsNumerals rd) (lawT : ReadsTrimmed rd) {d : Doc} {pre post : List Item} {ver : Nat}
    {e : Elem} {as : List Attr} (h : CleanPrefix rd d pre (.elem e) post ver)
    (hb : bodyNames.contains e.name = true) (ha : e.attrs = some as) (hnd : (as.map (·.1)).Nodup)
    {r : String} (hr : r ∈ (elemCheck rd ver e).1) (hnf : r ∉ findingValueRules) (hv1 : r ≠ "v1-element") :
    accepted (parseGlif rd (Spec.flatten d)) = false := by
  exact rejected_of_bodyBad law h (.elem e as hb ha
    (elemBad_of_rule lawT (List.mem_append_left _ (List.contains_iff_mem.1 hb)) ha hnd hr hnf hv1))

/-- **an identifier used before** (`ident-dup`), on an anchor or a guideline, is rejected -/
theorem duplicate_identifier_rejected (law : ReadsNumerals rd) {d : Doc} {pre post : List Item} {ver : Nat}
    {e : Elem} {as : List Attr} {i : Str} (h : CleanPrefix rd d pre (.elem e) post ver)
    (hn : e.name = sAnchor ∨ e.name = sGuideline) (ha : e.attrs = some as) (hi : (sIdentifier, i) ∈ as)
    (hseen : i ∈ pre.flatMap itemIdents) :
    accepted (parseGlif rd (Spec.flatten d)) = false := by
  have hb : bodyNames.contains e.name = true :=
    List.contains_iff_mem.2 (by rcases hn with h | h <;> rw [h] <;> simp [bodyNames])
  exact rejected_of_bodyBad law h (.elem e as hb ha (.attr (sIdentifier, i) hi
    (attrBad_ident_seen (by rcases hn with h | h <;> simp [h]) hseen)))

/-- **inside the outline**: clean children, then one the parser refuses (`OBad`) -/
theorem outline_child_rejected (law : ReadsNumerals rd) {d : Doc} {pre post : List Item} {ver : Nat}
    {a : Option (List Attr)} {kpre kpost : List OItem} {kbad : OItem}
    (h : CleanPrefix rd d pre (.outline a false (kpre ++ kbad :: kpost)) post ver)
    (hk : OKidsClean rd ver (pre.flatMap itemIdents) kpre)
    (hb : OBad rd ver (pre.flatMap itemIdents ++ kpre.flatMap oitemIdents) kbad) :
    accepted (parseGlif rd (Spec.flatten d)) = false :=
  rejected_of_bodyBad law h (.outlineChild a kpre kbad kpost hk hb)

/-- **an element inside the outline that is neither `contour` nor `component`** (`unknown-element`) is rejected -/
theorem unknown_in_outline_rejected (law : ReadsNumerals rd) {d : Doc} {pre post : List Item} {ver : Nat}
    {a : Option (List Attr)} {kpre kpost : List OItem} {e : Elem}
    (h : CleanPrefix rd d pre (.outline a false (kpre ++ .elem e :: kpost)) post ver)
    (hk : OKidsClean rd ver (pre.flatMap itemIdents) kpre) (h1 : e.name ≠ sComponent) (h2 : e.name ≠ sContour) :
    accepted (parseGlif rd (Spec.flatten d)) = false :=
  outline_child_rejected law h hk (.unknown e h1 h2)

/-- **every rule `Spec.elemCheck` reports for a component** (missing `base`, malformed transform number, invalid base name,
    invalid / repeated / format-1 identifier, unknown attribute) is rejected -/
theorem component_rule_rejected (law : ReadsNumerals rd) (lawT : ReadsTrimmed rd) {d : Doc} {pre post : List Item} {ver : Nat}
    {a : Option (List Attr)} {kpre kpost : List OItem} {e : Elem} {as : List Attr}
    (h : CleanPrefix rd d pre (.outline a false (kpre ++ .elem e :: kpost)) post ver)
    (hk : OKidsClean rd ver (pre.flatMap itemIdents) kpre) (hn : e.name = sComponent) (ha : e.attrs = some as)
    (hnd : (as.map (·.1)).Nodup) {r : String} (hr : r ∈ (elemCheck rd ver e).1) (hnf : r ∉ findingValueRules)
    (hv1 : r ≠ "v1-element") :
    accepted (parseGlif rd (Spec.flatten d)) = false := by
  exact outline_child_rejected law h hk (.component e as hn ha
    (hn ▸ elemBad_of_rule lawT (by simp [hn]) ha hnd hr hnf hv1))

/-- **an illegal point sequence** (`contour`: the contour rule of C11 is broken, `¬ C11.Legal`) is rejected at `</contour>`,
    after clean siblings, a clean start tag and clean points -/
theorem illegal_contour_rejected (law : ReadsNumerals rd) {d : Doc} {pre post : List Item} {ver : Nat}
    {a : Option (List Attr)} {kpre kpost : List OItem} {as : List Attr} {kids : List CItem}
    (h : CleanPrefix rd d pre (.outline a false (kpre ++ .contour (some as) false kids :: kpost)) post ver)
    (hk : OKidsClean rd ver (pre.flatMap itemIdents) kpre)
    (hst : CtStartClean ver (pre.flatMap itemIdents ++ kpre.flatMap oitemIdents) as)
    (hkids : CKidsClean rd ver (pre.flatMap itemIdents ++ kpre.flatMap oitemIdents ++ (Spec.get as "identifier").toList) kids)
    (hill : ¬ C11.Legal ((contourElems kids).map ptOfElem)) :
    accepted (parseGlif rd (Spec.flatten d)) = false := by
  refine outline_child_rejected law h hk (.contourIllegal as kids hst hkids ?_)
  cases hl : C11.legalB ((contourElems kids).map ptOfElem) with
  | false => rfl
  | true => exact absurd ((C11.legalB_iff_legal _).1 hl) hill

/-- **every rule `Spec.elemCheck` reports for a point** (missing `x`/`y`, malformed number, invalid name, unknown `type`,
    invalid / repeated / format-1 identifier, unknown attribute), after clean siblings and clean earlier points -/
theorem point_rule_rejected (law : ReadsNumerals rd) (lawT : ReadsTrimmed rd) {d : Doc} {pre post : List Item} {ver : Nat}
    {a : Option (List Attr)} {kpre kpost : List OItem} {cas : List Attr} {cpre cpost : List CItem} {e : Elem} {as : List Attr}
    (h : CleanPrefix rd d pre (.outline a false (kpre ++ .contour (some cas) false (cpre ++ .elem e :: cpost) :: kpost)) post ver)
    (hk : OKidsClean rd ver (pre.flatMap itemIdents) kpre)
    (hst : CtStartClean ver (pre.flatMap itemIdents ++ kpre.flatMap oitemIdents) cas)
    (hkids : CKidsClean rd ver (pre.flatMap itemIdents ++ kpre.flatMap oitemIdents ++ (Spec.get cas "identifier").toList) cpre)
    (hn : e.name = sPoint) (ha : e.attrs = some as) (hnd : (as.map (·.1)).Nodup)
    {r : String} (hr : r ∈ (elemCheck rd ver e).1) (hnf : r ∉ findingValueRules) (hv1 : r ≠ "v1-element") :
    accepted (parseGlif rd (Spec.flatten d)) = false := by
  exact outline_child_rejected law h hk (.contourChild cas cpre (.elem e) cpost hst hkids (.point e as hn ha
    (hn ▸ elemBad_of_rule lawT (by simp [hn]) ha hnd hr hnf hv1)))

/-- **an element inside a contour that is not a `point`** (`unknown-element`) is rejected -/
theorem unknown_in_contour_rejected (law : ReadsNumerals rd) {d : Doc} {pre post : List Item} {ver : Nat}
    {a : Option (List Attr)} {kpre kpost : List OItem} {cas : List Attr} {cpre cpost : List CItem} {e : Elem}
    (h : CleanPrefix rd d pre (.outline a false (kpre ++ .contour (some cas) false (cpre ++ .elem e :: cpost) :: kpost)) post ver)
    (hk : OKidsClean rd ver (pre.flatMap itemIdents) kpre)
    (hst : CtStartClean ver (pre.flatMap itemIdents ++ kpre.flatMap oitemIdents) cas)
    (hkids : CKidsClean rd ver (pre.flatMap itemIdents ++ kpre.flatMap oitemIdents ++ (Spec.get cas "identifier").toList) cpre)
    (hn : e.name ≠ sPoint) :
    accepted (parseGlif rd (Spec.flatten d)) = false :=
  outline_child_rejected law h hk (.contourChild cas cpre (.elem e) cpost hst hkids (.unknown e hn))

/-- **every rule `Spec.itemCheck` reports for a body item that is not an outline, other than a finding rule, makes the parser
    reject the document** (first such item after a clean prefix): `unknown-element`, `v1-element`, `lib`, `attr-syntax` and
    all the element rules of `element_rule_rejected` -/
theorem body_item_rule_rejected (law : ReadsNumerals rd) (lawT : ReadsTrimmed rd) {d : Doc} {pre post : List Item} {bad : Item}
    {ver : Nat} (h : CleanPrefix rd d pre bad post ver) (hsh : IShaped bad)
    (hno : ∀ a sc kids, bad ≠ .outline a sc kids) (hne : ∀ e, bad = .elem e → e.name ≠ sOutline)
    {r : String} (hr : r ∈ (itemCheck rd ver bad).1) (hnf : r ∉ findingItemRules) :
    accepted (parseGlif rd (Spec.flatten d)) = false :=
  rejected_of_bodyBad law h (bodyBad_of_rule lawT pre hsh hno hne hr hnf)

def adv1 : Item := .elem { name := sAdvance, attrs := some [("width".toList, "500".toList)] }
def anc1 : Item := .elem { name := sAnchor, attrs := some [(['x'], ['1']), (['y'], ['2']), (sIdentifier, ['i'])] }
/-- two advances -/
def jdDup : Spec.Doc := { prolog := [.decl], gattrs := some [("name".toList, ['a']), ("format".toList, ['2'])], items := [adv1, .comment, adv1] }
/-- the identifier `i` on two anchors -/
def jdId : Spec.Doc := { prolog := [.decl], gattrs := some [("name".toList, ['a']), ("format".toList, ['2'])], items := [anc1, anc1] }
/-- a contour that consists of one off-curve point followed by a `move`: not a legal contour -/
def jdIll : Spec.Doc :=
  { prolog := [], gattrs := some [("name".toList, ['a']), ("format".toList, ['2'])],
    items := [adv1, .outline (some []) false [.comment, .contour (some []) false
      [.elem { name := sPoint, attrs := some [(['x'], ['0']), (['y'], ['0'])] },
       .elem { name := sPoint, attrs := some [(['x'], ['0']), (['y'], ['0']), ("type".toList, "move".toList)] }]]] }

theorem shaped_adv1 (d : Spec.Doc) (hp : ∀ e, e ∈ d.prolog → isProlog e = true) (hg : NodupAttrs d.gattrs)
    (ho : d.gSelfClosed = false) : Shaped { d with items := [adv1] } :=
  ⟨hp, hg, ho, show ∀ it, it ∈ [adv1] → IShaped it by decide +kernel⟩

theorem CleanPrefix.of_eval {d : Doc} {pre post : List Item} {bad : Item} {ver : Nat} (hi : d.items = pre ++ bad :: post)
    (h : Spec.judge rd { d with items := pre } = ([], false) ∧ Shaped { d with items := pre } ∧ (docVersion d).1 = some ver) :
    CleanPrefix rd d pre bad post ver :=
  ⟨hi, h.1, h.2.1, h.2.2⟩

example : accepted (parseGlif R1 (Spec.flatten jdDup)) = false :=
  duplicate_once_only_rejected (pre := [adv1, .comment]) (post := []) (ver := 2) law_R1
    (.of_eval rfl (by decide +kernel)) (n := sAdvance) rfl (Or.inl rfl) (by decide +kernel)

example : accepted (parseGlif R1 (Spec.flatten jdId)) = false :=
  duplicate_identifier_rejected (pre := [anc1]) (post := []) (ver := 2) (i := ['i']) law_R1
    (.of_eval rfl (by decide +kernel)) (Or.inl rfl) rfl (by decide +kernel) (by decide +kernel)

example : accepted (parseGlif R1 (Spec.flatten jdIll)) = false :=
  illegal_contour_rejected (pre := [adv1]) (post := []) (ver := 2) (kpre := [.comment]) (kpost := []) law_R1
    (.of_eval rfl (by decide +kernel))
    ⟨by decide, by decide +kernel, by decide, by decide⟩
    ⟨by decide, by decide, by intro i hi; cases hi⟩
    ⟨by decide +kernel,
     by
       intro e he
       simp only [List.mem_cons, CItem.elem.injEq, List.not_mem_nil, or_false] at he
       rcases he with rfl | rfl <;> exact ⟨rfl, by decide +kernel⟩,
     by decide +kernel, by decide +kernel⟩
    (by rw [← C11.legalB_iff_legal]; decide +kernel)

/-- the rules of `judge` about which `judge_rejects_flagged` says nothing: the recorded findings `container-attrs`,
    `ident-empty`, `hex-plus`, `objlib-entry` (norad accepts what `judge` flags); `dup-note`, a finding when the earlier note
    has no text (`duplicate_note_rejected` is the other case); `objlibs`, which the parser detects at `</glyph>` only, so that
    the state after a prefix containing such a lib is not the state of a clean prefix -/
def excludedDocRules : List String := ["container-attrs", "ident-empty", "hex-plus", "dup-note", "objlib-entry", "objlibs"]

/-- what the shape reader guarantees beyond `Shaped`: `outline` in the body and `contour` in the outline are never delivered
    as plain elements (they are the constructors `Item.outline` / `OItem.contour`) -/
structure NoAlias (d : Doc) : Prop where
  body : ∀ e, Item.elem e ∈ d.items → e.name ≠ sOutline
  outline : ∀ a sc kids, Item.outline a sc kids ∈ d.items → ∀ e, OItem.elem e ∈ kids → e.name ≠ sContour

/-- `excludedDocRules` begins with `findingItemRules` -/
theorem not_finding_of_not_excluded {r : String} (h : r ∉ excludedDocRules) : r ∉ findingItemRules :=
  fun hm => h (List.mem_append_left ["dup-note", "objlib-entry", "objlibs"] hm)

/-- **the position-free converse**: a document of the shape the tokeniser and the shape reader deliver for which `judge`
    reports at least one rule, only rules outside `excludedDocRules`, and nothing unspecified, is rejected by the parser: at
    the `glyph` start tag (a rule of `glyphAttrCheck`, or `version`), or at the first item behind the longest clean prefix —
    a second once-only element, an item with a rule of `itemCheck` broken, an identifier used before (in an earlier item, or
    earlier inside the same outline or contour), the first refused child of the outline or of a contour, an illegal contour:
    that item is `BodyBad`, for if it fitted, the prefix extended by it would be clean as well. -/
theorem judge_rejects_flagged (law : ReadsNumerals rd) (lawT : ReadsTrimmed rd) {d : Doc} (hs : Shaped d) (hal : NoAlias d)
    (hu : (judge rd d).2 = false) (hne : (judge rd d).1 ≠ [])
    (hnf : ∀ r, r ∈ (judge rd d).1 → r ∉ excludedDocRules) :
    accepted (parseGlif rd (Spec.flatten d)) = false := by
  rcases hdv : docVersion d with ⟨_ | ver, odd⟩
  · refine glyph_start_version_rejected hs ?_
    rw [judge, hdv] at hu
    rw [hdv, show odd = false from hu]
  have hver : (docVersion d).1 = some ver := by rw [hdv]
  by_cases hg : glyphAttrCheck d = []
  case neg => exact glyph_start_rule_rejected hs hg
  rw [judge_eq hver] at hu
  simp only [Bool.or_eq_false_iff] at hu
  obtain ⟨hper2, htr⟩ := hu
  have htrailer : d.trailer = [] := by simpa using htr
  have hobj : objectLibsCheck d = [] := List.eq_nil_iff_forall_not_mem.2 fun r hr => by
    have := hnf r (judge_objlib_rule hver hr)
    rcases objectLibsCheck_rules hr with e | e <;> subst e <;> exact this (by simp [excludedDocRules])
  have hnote : cnt d.items sNote ≤ 1 := Nat.le_of_not_lt fun hc =>
    hnf "dup-note" (judge_dup_rule hver (n := "note") (by simp [onceOnly]) hc) (by simp [excludedDocRules])
  obtain ⟨mid, bad, post, hitems, hPmid, hPbad⟩ := first_failure (fun pre => judge rd { d with items := pre } = ([], false))
    d.items [] (judge_of_clean (ver := ver)
      ⟨hver, hg, nofun, fun _ _ => Nat.zero_le 1, List.nodup_nil, rfl, htrailer⟩)
    (fun h => hne (by rw [show judge rd d = ([], false) from h]))
  simp only [List.nil_append] at hPmid hPbad
  have hbmem : bad ∈ d.items := by rw [hitems]; exact List.mem_append_right _ List.mem_cons_self
  obtain ⟨ver', hc⟩ := judge_clean hPmid
  obtain rfl : ver = ver' := Option.some.inj (hver.symm.trans hc.version)
  rcases item_decide lawT mid (hs.items bad hbmem) (fun e he => hal.body e (he ▸ hbmem))
      (fun a sc kids he => hal.outline a sc kids (he ▸ hbmem))
      (merge_snd_false hper2 (List.mem_map.2 ⟨bad, hbmem, rfl⟩))
      (fun r hr => not_finding_of_not_excluded (hnf r (judge_item_rule hver hbmem hr))) with
    hbad | hfit
  · exact judge_bad_item_rejected law hitems hPmid
      ⟨hs.prolog, hs.gattrs, hs.glyphOpen, fun it hit => hs.items it (by rw [hitems]; exact List.mem_append_left _ hit)⟩
      hver hbad
  · refine absurd (judge_of_clean (hc.snoc hfit (fun hname => ?_) ?_)) hPbad
    · -- a second note is the one excluded rule that speaks of the prefix
      have h1 : cnt d.items sNote = cnt mid sNote + cnt (bad :: post) sNote := by rw [hitems, cnt_append]
      rw [cnt_cons, if_pos hname] at h1
      omega
    · exact List.flatMap_eq_nil_iff.2 fun it hit =>
        List.flatMap_eq_nil_iff.1 hobj it (List.mem_singleton.1 hit ▸ hbmem)

/-- `judge_rejects_flagged` for a document whose start tag is known to be clean -/
theorem judge_flagged_rejected (law : ReadsNumerals rd) (lawT : ReadsTrimmed rd) {d : Doc} {ver : Nat}
    (hs : Shaped d) (hal : NoAlias d) (hver : (docVersion d).1 = some ver) (hg : glyphAttrCheck d = [])
    (hu : (judge rd d).2 = false) (hne : (judge rd d).1 ≠ [])
    (hnf : ∀ r, r ∈ (judge rd d).1 → r ∉ excludedDocRules) :
    accepted (parseGlif rd (Spec.flatten d)) = false :=
  judge_rejects_flagged law lawT hs hal hu hne hnf

def jdMinor1 : Spec.Doc :=
  { prolog := [.decl], gattrs := some [("name".toList, ['a']), ("format".toList, ['2']), ("formatMinor".toList, ['1'])], items := [adv1] }
def jdMinor00 : Spec.Doc :=
  { prolog := [.decl], gattrs := some [("name".toList, ['a']), ("format".toList, ['2']), ("formatMinor".toList, ['0', '0'])], items := [adv1] }

/-- `formatMinor="1"`: `version`, rejected -/
example : accepted (parseGlif R1 (Spec.flatten jdMinor1)) = false :=
  glyph_start_version_rejected (by decide +kernel) (by decide +kernel)

/-- `formatMinor="00"`: unspecified, no `version` (the parser reads 0 and accepts) -/
example : Spec.judge R1 jdMinor00 = ([], true) := by decide +kernel

/-- a glyph without a name -/
example : accepted (parseGlif R1 (Spec.flatten { prolog := [.decl], gattrs := some [("format".toList, ['2'])], items := [adv1] })) = false :=
  glyph_start_rule_rejected (by decide +kernel) (by decide +kernel)

/-! The two laws hold together for `readsPlain` (the reader of exactly the plain numerals, `Lemmas/JudgeSpec.lean`); the
hypotheses of `judge_flagged_rejected` hold for concrete documents: the position is not given, `judge`'s output is. -/

/-- the identifier `p` on two points of the same contour (nothing else is wrong) -/
def jdPts : Spec.Doc :=
  { prolog := [.decl], gattrs := some [("name".toList, ['a']), ("format".toList, ['2'])],
    items := [adv1, .outline (some []) false [.comment, .contour (some []) false
      [.elem { name := sPoint, attrs := some [(['x'], ['0']), (['y'], ['0']), ("type".toList, "line".toList), (sIdentifier, ['p'])] },
       .comment,
       .elem { name := sPoint, attrs := some [(['x'], ['1']), (['y'], ['1']), ("type".toList, "line".toList), (sIdentifier, ['p'])] }]]] }

theorem jdPts_judge : Spec.judge readsPlain jdPts = (["ident-dup"], false) := by decide +kernel
theorem jdDup_judge : Spec.judge readsPlain jdDup = (["dup-advance"], false) := by decide +kernel

theorem jdDup_shaped : Shaped jdDup := by decide +kernel
theorem jdPts_shaped : Shaped jdPts := by decide +kernel

theorem jdDup_noAlias : NoAlias jdDup := by
  refine ⟨?_, ?_⟩
  · intro e he
    simp only [jdDup, adv1, List.mem_cons, List.not_mem_nil, or_false, Item.elem.injEq, reduceCtorEq, false_or] at he
    rcases he with rfl | rfl <;> decide
  · intro a sc kids h
    simp [jdDup, adv1] at h

theorem jdPts_noAlias : NoAlias jdPts := by
  refine ⟨?_, ?_⟩
  · intro e he
    simp only [jdPts, adv1, List.mem_cons, List.not_mem_nil, or_false, Item.elem.injEq, reduceCtorEq] at he
    subst he; decide
  · intro a sc kids h e he
    simp only [jdPts, adv1, List.mem_cons, List.not_mem_nil, or_false, reduceCtorEq, false_or, Item.outline.injEq] at h
    obtain ⟨_, _, rfl⟩ := h
    simp at he

/-- two advances: `judge` says `dup-advance`, and only that -/
example : accepted (parseGlif readsPlain (Spec.flatten jdDup)) = false :=
  judge_flagged_rejected (ver := 2) readsPlain_numerals readsPlain_trimmed jdDup_shaped jdDup_noAlias (by decide +kernel)
    (by decide +kernel) (by rw [jdDup_judge]) (by rw [jdDup_judge]; simp) (by rw [jdDup_judge]; decide)

/-- one identifier on two points of one contour: `judge` says `ident-dup`, and only that; the theorem finds the second point -/
example : accepted (parseGlif readsPlain (Spec.flatten jdPts)) = false :=
  judge_flagged_rejected (ver := 2) readsPlain_numerals readsPlain_trimmed jdPts_shaped jdPts_noAlias (by decide +kernel)
    (by decide +kernel) (by rw [jdPts_judge]) (by rw [jdPts_judge]; simp) (by rw [jdPts_judge]; decide)
end
end Glif
