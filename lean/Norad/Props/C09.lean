import Norad.Model.FontSave
import Norad.Lemmas.FontSave
import Norad.Lemmas.SafePlan
import Norad.Lemmas.Determined
import Norad.Lemmas.LayerDir
import Norad.Lemmas.PlanRuns
import Norad.Lemmas.SaveTable
import Norad.Lemmas.LayerTable
/-!
# C09 — a saved tree depends only on the font and stays inside the target

Model: `FontSave.saveImpl`; relative paths taken from data (`Layer.path`, `contents` values, store keys) are
joined onto the target without normalisation, as in the code, and resolved by the abstract file system the
way the kernel does.  Specification side: `FontSave.safePaths`, `FontSave.expectedPaths`.
-/
namespace C09
open AbsFS FontSave FontLoad

variable {β : Type}

def NoLazy (s : Store β) : Prop := ∀ kc ∈ s.items, ∃ b, kc.2 = .loaded b

theorem forceList_indep (cfg : Cfg β) (kind : StoreKind) (fs₁ fs₂ : FS β) (root : APath) (keys : List Path.P) :
    ∀ (items : List (Path.P × Cell β)), (∀ kc ∈ items, ∃ b, kc.2 = .loaded b) →
    forceList cfg kind fs₁ root keys items = forceList cfg kind fs₂ root keys items := by
  intro items
  induction items with
  | nil => intro _; rfl
  | cons e r ih =>
    intro h
    obtain ⟨k, c⟩ := e
    obtain ⟨b, hb⟩ := h (k, c) (List.mem_cons_self ..)
    subst hb
    unfold forceList
    simp only [forceCell]
    rw [ih (fun kc hkc => h kc (List.mem_cons_of_mem _ hkc))]

/-- For a font without lazy cells the outcome of validation (steps 1–5: the refusal, or the forced contents of the two
    stores) does not depend on the file system the save starts from.  That the effects then run are the same too is
    not part of the statement: it is read off the signature of `plan`, which has no file-system argument. -/
theorem save_effects_depend_only_on_font (cfg : Cfg β) (f : AFont β) (fs₁ fs₂ : FS β)
    (hd : NoLazy f.data) (hi : NoLazy f.images) :
    validatePhase cfg f fs₁ = validatePhase cfg f fs₂ := by
  unfold validatePhase forceStore
  rw [forceList_indep cfg .data fs₁ fs₂ _ _ _ hd, forceList_indep cfg .images fs₁ fs₂ _ _ _ hi]

/-- The emptiness gates of the plan functions: `planOpt`, `planFontinfo`, `planImages` contribute no effect exactly when
    the part is the empty default (each is the `if` of its definition).  What this means for the files on disk is
    `exactly_the_determined_files`. -/
theorem optional_part_planned_iff_nonempty (t : APath) (name : String) (tok : Nat) (b : β) :
    planOpt t name tok b = [] ↔ tok = 0 := by
  unfold planOpt
  by_cases h : tok = 0 <;> simp [h]

theorem fontinfo_planned_iff_nonempty (cfg : Cfg β) (t : APath) (i : AInfo) :
    planFontinfo cfg t i = [] ↔ i.isEmpty = true := by
  unfold planFontinfo
  by_cases h : i.isEmpty = true
  · simp [h]
  · by_cases hs : i.serialisable = true <;> simp [h, hs]

theorem images_planned_iff_nonempty (t : APath) (items : List (Path.P × β)) :
    planImages t items = [] ↔ items = [] := by
  unfold planImages
  cases items <;> simp

/-- Guard `safePaths` (without it: the two counterexamples below).  Whatever the outcome of the
    save — success, refusal, or a failure half-way — every path that is not at or below the target has the same
    node before and after. -/
theorem save_frame (cfg : Cfg β) (f : AFont β) (fs : FS β) (t : APath) (hs : safePaths f = true) :
    ∀ q, ¬ t <+: q → lookup (saveImpl cfg f fs t).2 q = lookup fs q := by
  intro q hq
  fun_cases saveImpl cfg f fs t
  · rfl
  · rfl
  · rename_i d i hv fs1 hw
    obtain ⟨hd, hi⟩ := forced_safe hs hv
    rw [plan_normal cfg f d i t hs hd hi]
    exact (planN_frame cfg f d i t hd fs1 q hq).trans (wipe_frame hw q hq)

/-- Two successful saves of the same font (safe paths,
    nothing lazy) onto the same target path in two arbitrary well-formed file systems produce the same sub-tree
    at and below the target — paths, kinds and bytes.  Hence no remains of whatever was there before, and the
    result equals a save into a fresh path. -/
theorem save_tree_depends_only_on_font (cfg : Cfg β) (f : AFont β) (fsA fsB fsA' fsB' : FS β) (t : APath)
    (hs : safePaths f = true) (hd : NoLazy f.data) (hi : NoLazy f.images) (hwA : WF fsA) (hwB : WF fsB)
    (hA : saveImpl cfg f fsA t = (none, fsA')) (hB : saveImpl cfg f fsB t = (none, fsB')) :
    ∀ q, t <+: q → lookup fsA' q = lookup fsB' q := by
  obtain ⟨dA, iA, fs1A, hvA, hwipeA, hrunA⟩ := saveImpl_ok hA
  obtain ⟨dB, iB, fs1B, hvB, hwipeB, hrunB⟩ := saveImpl_ok hB
  have hveq := save_effects_depend_only_on_font cfg f fsA fsB hd hi
  rw [hvA, hvB] at hveq
  cases hveq
  obtain ⟨hsd, hsi⟩ := forced_safe hs hvA
  rw [plan_normal cfg f dA iA t hs hsd hsi] at hrunA hrunB
  obtain ⟨a, hmA, hrestA⟩ := runN_cons_ok.mp hrunA
  obtain ⟨b, hmB, hrestB⟩ := runN_cons_ok.mp hrunB
  have cA := wipe_mkdir_clean hwA hwipeA (runEff_eq_ok.mp hmA)
  have cB := wipe_mkdir_clean hwB hwipeB (runEff_eq_ok.mp hmB)
  intro q hq
  have hq0 : q ≠ [] := fun e => (mkdir_normal.mp (runEff_eq_ok.mp hmA)).1 (List.prefix_nil.mp (e ▸ hq))
  have := runN_agree _ q hrestA hrestB (by rw [node_of_ne_nil _ hq0, node_of_ne_nil _ hq0, cA q hq, cB q hq])
  rwa [node_of_ne_nil _ hq0, node_of_ne_nil _ hq0] at this

theorem clean_kinds {fs fs1 g2 : FS β} {t : APath} (hwf : WF fs) (hwipe : wipe fs t = .ok fs1)
    (hmk : mkdir fs1 (tC t) = .ok g2) {q : APath} (k : Bool) (hq : t <+: q) :
    kindAt g2 q = some k ↔ (q, k) = (t, false) := by
  have hq0 : q ≠ [] := fun e => (mkdir_normal.mp hmk).1 (List.prefix_nil.mp (e ▸ hq))
  rw [kindAt, node_of_ne_nil _ hq0, wipe_mkdir_clean hwf hwipe hmk q hq]
  by_cases e : t = q
  · subst e; simp [kindOf]
  · simp [e, Ne.symm e]

/-- After a successful save of a font with safe paths onto `t` in a
    well-formed file system, a path at or below `t` exists with kind `k` (`false` = directory, `true` = plain file)
    **iff** `(path, k)` is in `expectedPaths f t` — a list computed from the font alone.  So: no remains of whatever
    was there, `metainfo.plist` / `layercontents.plist` / every `contents.plist` always, each optional file exactly
    when its content is not the empty default, `data/` and `images/` exactly when non-empty. -/
theorem exactly_the_determined_files (cfg : Cfg β) (f : AFont β) (fs fs' : FS β) (t : APath)
    (hs : safePaths f = true) (hwf : WF fs) (h : saveImpl cfg f fs t = (none, fs')) :
    ∀ q k, t <+: q → (kindAt fs' q = some k ↔ (q, k) ∈ expectedPaths f t) := by
  intro q k htq
  obtain ⟨d, i, fs1, hv, hwipe, hrun⟩ := saveImpl_ok h
  obtain ⟨hsd, hsi⟩ := forced_safe hs hv
  obtain ⟨_, _, _, _, hfd, hfi⟩ := validatePhase_eq_ok.mp hv
  rw [plan_normal cfg f d i t hs hsd hsi] at hrun
  obtain ⟨g2, hm, hrest⟩ := runN_cons_ok.mp hrun
  have hk := runEff_eq_ok.mp hm
  exact (runN_kinds _ hrest q k).trans <| (or_congr (clean_kinds hwf hwipe hk k htq) Iff.rfl).trans <|
    plan_makes_expectedPaths cfg f d i t (forceList_keys hfd) (forceList_keys hfi) hsd (runN_no_fail _ hrest) q k htq

/-! The oracle rule `exact-files` checks the statement of `exactly_the_determined_files` on the implementation's own
output. -/

/-- reading off one optional file: `fontinfo.plist` is listed by `expectedPaths` when the font info is not the empty
    default (the converse fails only if a crafted layer directory or glif carries that very name) -/
theorem fontinfo_listed_of_nonempty (f : AFont β) (t : APath) (h : f.info.isEmpty = false) :
    (t ++ ["fontinfo.plist".toList], true) ∈ expectedPaths f t := by
  simp only [expectedPaths, h, expTop, Bool.false_eq_true, if_false, List.mem_append, List.mem_singleton, true_or,
    or_true]

/-- The guard clause by clause (`safePaths_iff`, right to left).  That the container API assigns such names (C07: single
    normal components) is not part of the statement. -/
theorem api_built_fonts_safe (f : AFont β)
    (hl : ∀ l ∈ f.layers, safeRel (Path.parse l.dir) = true ∧ ∀ e ∈ l.entries, safeRel (Path.parse e.file) = true)
    (hd : ∀ kc ∈ f.data.items, safeRel kc.1 = true) (hi : ∀ kc ∈ f.images.items, safeRel kc.1 = true) :
    safePaths f = true :=
  safePaths_iff.mpr ⟨hl, hd, hi⟩

theorem wipe_and_mkdir_succeed (fs : FS β) (t : APath) (ht : t ≠ []) (hparent : Dirs fs t.dropLast)
    (htnf : ∀ b, node fs t ≠ some (.file b)) :
    ∃ fs1 g2, wipe fs t = .ok fs1 ∧ mkdir fs1 (tC t) = .ok g2 := by
  have hex : existsAt fs (tC t) = (node fs t).isSome := by
    cases hs : (node fs t).isSome
    · exact Bool.eq_false_iff.mpr fun h => by rw [((existsAt_normal ht).mp h).2] at hs; cases hs
    · exact (existsAt_normal ht).mpr ⟨hparent, hs⟩
  rw [wipe, hex]
  cases hn : node fs t with
  | none =>
    exact ⟨fs, _, rfl, mkdir_normal.mpr ⟨ht, hparent, hn, rfl⟩⟩
  | some nd =>
    cases nd with
    | file b => exact absurd hn (htnf b)
    | dir =>
      have hkeep : Dirs (removeAll fs t) t.dropLast := dirs_removeAll hparent fun hp => by
        have := hp.length_le
        have := List.length_pos_iff.mpr ht
        rw [List.length_dropLast] at *
        omega
      refine ⟨removeAll fs t, _, removeDirAll_normal.mpr ⟨ht, hparent, hn, rfl⟩,
        mkdir_normal.mpr ⟨ht, hkeep, ?_, rfl⟩⟩
      rw [node_of_ne_nil _ ht, lookup_removeAll, if_pos (by simp)]

/-- For a well-planned font with safe paths, from ANY well-formed file system in which
    the validators pass (steps 1–5), the target's parent chain exists and the target is not a plain file, the whole
    save — wipe, `create_dir`, metainfo … layers, data, images — runs to completion: no effect fails. -/
theorem plan_runs_to_completion (cfg : Cfg β) (f : AFont β) (fs : FS β) (t : APath)
    (hw : WellPlanned f) (hs : safePaths f = true) (d i : List (Path.P × β))
    (hv : validatePhase cfg f fs = .ok (d, i))
    (ht : t ≠ []) (hparent : ∀ m, m <+: t.dropLast → m ≠ [] → isDir fs m = true)
    (htnf : ∀ b, node fs t ≠ some (.file b)) (hwf : WF fs) :
    ∃ fs', saveImpl cfg f fs t = (none, fs') := by
  obtain ⟨fs1, g2, hwipe, hmk⟩ := wipe_and_mkdir_succeed fs t ht hparent htnf
  obtain ⟨hsd, hsi⟩ := forced_safe hs hv
  obtain ⟨_, _, _, _, hfd, hfi⟩ := validatePhase_eq_ok.mp hv
  have H1 : ∀ m, m <+: t → m ≠ [] → kOf g2 m false := fun m hm hne => kindAt_dir (mkdir_normal_dirs hmk m hm hne)
  have H2 : ∀ q k, kOf g2 q k → t <+: q → q = t := fun q k hk hq =>
    (Prod.mk.inj ((clean_kinds hwf hwipe hmk k hq).mp hk)).1
  have H3 : ∀ m, m <+: t → ¬ kOf g2 m true := by
    intro m hm hk
    by_cases h0 : m = []
    · subst h0; cases hk
    · rw [kOf, H1 m hm h0] at hk; cases hk
  obtain ⟨g', hg'⟩ := runs_sound _ g2 (kOf g2) (fun _ _ => Iff.rfl)
    (planRestN_runs cfg f d i t hw (forceList_keys hfd) (forceList_keys hfi) (kOf g2) H1 H2 H3)
  refine ⟨g', ?_⟩
  rw [saveImpl, hv]
  dsimp only
  rw [hwipe, plan_normal cfg f d i t hs hsd hsi]
  exact runN_cons_ok.mpr ⟨g2, runEff_eq_ok.mpr hmk, hg'⟩

/-- For a well-planned font with safe paths and nothing lazy, saving onto `t` in
    two arbitrary well-formed file systems (validators pass, parent chain of the target present, target not a plain
    file) SUCCEEDS in both, leaves the same sub-tree at and below `t` — paths, kinds, bytes — and that sub-tree has
    exactly the paths `expectedPaths f t`. -/
theorem saved_tree_determined_by_font (cfg : Cfg β) (f : AFont β) (fsA fsB : FS β) (t : APath)
    (hw : WellPlanned f) (hs : safePaths f = true) (hd : NoLazy f.data) (hi : NoLazy f.images)
    (d i : List (Path.P × β)) (hv : validatePhase cfg f fsA = .ok (d, i)) (ht : t ≠ [])
    (hpA : ∀ m, m <+: t.dropLast → m ≠ [] → isDir fsA m = true) (hfA : ∀ b, node fsA t ≠ some (.file b)) (hwA : WF fsA)
    (hpB : ∀ m, m <+: t.dropLast → m ≠ [] → isDir fsB m = true) (hfB : ∀ b, node fsB t ≠ some (.file b)) (hwB : WF fsB) :
    ∃ fsA' fsB', saveImpl cfg f fsA t = (none, fsA') ∧ saveImpl cfg f fsB t = (none, fsB') ∧
      (∀ q, t <+: q → lookup fsA' q = lookup fsB' q) ∧
      ∀ q k, t <+: q → (kindAt fsA' q = some k ↔ (q, k) ∈ expectedPaths f t) := by
  have hvB : validatePhase cfg f fsB = .ok (d, i) := by
    rw [← save_effects_depend_only_on_font cfg f fsA fsB hd hi]; exact hv
  obtain ⟨fsA', hA⟩ := plan_runs_to_completion cfg f fsA t hw hs d i hv ht hpA hfA hwA
  obtain ⟨fsB', hB⟩ := plan_runs_to_completion cfg f fsB t hw hs d i hvB ht hpB hfB hwB
  exact ⟨fsA', fsB', hA, hB, save_tree_depends_only_on_font cfg f fsA fsB fsA' fsB' t hs hd hi hwA hwB hA hB,
    exactly_the_determined_files cfg f fsA fsA' t hs hwA hA⟩

/-- **Every layer of a font returned by `loadImpl` has a directory that is one normal component** (the `file_name()` of
    layer.rs:376, or `glyphs` for the placeholder): read back as a path it is exactly `[normal dir]` — whatever
    `layercontents.plist` said (`../sketches.glyphs`, `a/b`, an absolute path), for every request.  `goodName` on the
    names of the load path says that they are path components (no separator, not `.`/`..`). -/
theorem loaded_layer_dirs_single_component (P : Parser β) (fs0 : FS β) (t0 : APath) (r : Request) (f : AFont β)
    (h : loadImpl P fs0 t0 r = .ok f) (ht : ∀ n ∈ t0, goodName n = true) :
    ∀ l ∈ f.layers, Path.parse l.dir = ⟨false, [.normal l.dir]⟩ :=
  fun l hl => parse_goodName (loadImpl_layer_dirs_good h ht l hl)

/-- the store keys of a loaded font are non-empty lists of normal components (they come from a directory listing) -/
theorem loaded_store_keys_safe (P : Parser β) (fs0 : FS β) (t0 : APath) (r : Request) (f : AFont β)
    (h : loadImpl P fs0 t0 r = .ok f) :
    (∀ kc ∈ f.data.items, safeRel kc.1 = true) ∧ (∀ kc ∈ f.images.items, safeRel kc.1 = true) := by
  obtain ⟨_, _, _, hd, hi, _⟩ := loadImpl_ok h
  exact ⟨loadStore_keys_safe hd, loadStore_keys_safe hi⟩

/-- hence `safePaths` of a loaded font reduces to its glif paths (the `contents.plist` values, kept verbatim) -/
theorem loaded_font_safePaths (P : Parser β) (fs0 : FS β) (t0 : APath) (r : Request) (f : AFont β)
    (h : loadImpl P fs0 t0 r = .ok f) (ht : ∀ n ∈ t0, goodName n = true)
    (hglif : ∀ l ∈ f.layers, ∀ e ∈ l.entries, safeRel (Path.parse e.file) = true) :
    safePaths f = true := by
  obtain ⟨hd, hi⟩ := loaded_store_keys_safe P fs0 t0 r f h
  exact safePaths_iff.mpr
    ⟨fun l hl => ⟨safeRel_goodName (loadImpl_layer_dirs_good h ht l hl), hglif l hl⟩, hd, hi⟩

/-- **`save_frame` for loaded fonts**: the guard is needed for glif paths only -/
theorem save_frame_loaded (P : Parser β) (cfg : Cfg β) (fs0 : FS β) (t0 : APath) (r : Request) (f : AFont β)
    (h : loadImpl P fs0 t0 r = .ok f) (ht : ∀ n ∈ t0, goodName n = true)
    (hglif : ∀ l ∈ f.layers, ∀ e ∈ l.entries, safeRel (Path.parse e.file) = true)
    (fs : FS β) (t : APath) :
    ∀ q, ¬ t <+: q → lookup (saveImpl cfg f fs t).2 q = lookup fs q :=
  save_frame cfg f fs t (loaded_font_safePaths P fs0 t0 r f h ht hglif)

/-- non-vacuity: a `layercontents.plist` naming the sibling directory `../sk.glyphs` loads, and the layer keeps `sk.glyphs` -/
def siblingParser : Parser Nat where
  metainfo _ := some (3, 1)
  lib _ := none
  fontinfo _ := none
  groups _ := none
  kerning _ := none
  features _ := none
  layercontents _ := some [("public.default".toList, "glyphs".toList), ("sk".toList, "../sk.glyphs".toList)]
  contents _ := some []
  layerinfo _ := none
  glif _ := none

def siblingTree : FS Nat :=
  [(["o".toList], .dir), (["o".toList, "t".toList], .dir), (["o".toList, "t".toList, "metainfo.plist".toList], .file 0),
   (["o".toList, "t".toList, "layercontents.plist".toList], .file 0),
   (["o".toList, "t".toList, "glyphs".toList], .dir),
   (["o".toList, "t".toList, "glyphs".toList, "contents.plist".toList], .file 0),
   (["o".toList, "sk.glyphs".toList], .dir), (["o".toList, "sk.glyphs".toList, "contents.plist".toList], .file 0)]

example : ∃ f, loadImpl siblingParser siblingTree ["o".toList, "t".toList] Request.everything = .ok f ∧
    f.layers.map (·.dir) = ["glyphs".toList, "sk.glyphs".toList] ∧ safePaths f = true :=
  Except.exists_ok (by decide +kernel)

/-! ### `save_frame` is false without the guard (recorded findings) -/

def cfgN : Cfg Nat := { render := fun _ => 0, entryOk := fun _ _ _ _ => true }

def baseFont : AFont Nat :=
  { version := 3, metaTok := 1, info := { body := 0, guides := [], valid := true, serialisable := true },
    lib := [], groups := 0, groupsValid := true, kerning := 0, features := 0,
    layers := [{ name := "public.default".toList, dir := "glyphs".toList, info := 0, entries := [] }],
    data := { root := [], items := [] }, images := { root := [], items := [] } }

def outer : FS Nat := [(["o".toList], .dir)]
def target : APath := ["o".toList, "t".toList]

/-- a store key `../../x` (accepted by `Store::insert`) is written beside the target -/
def keyFont : AFont Nat :=
  { baseFont with data := { root := [], items := [(Path.parse "../../x".toList, .loaded 9)] } }

theorem save_frame_counterexample_store_key :
    (saveImpl cfgN keyFont outer target).1 = none ∧
    lookup outer ["o".toList, "x".toList] = none ∧
    lookup (saveImpl cfgN keyFont outer target).2 ["o".toList, "x".toList] = some (.file 9) := by
  decide +kernel

/-- a `contents.plist` value `../../x.glif` (kept verbatim by the load) is written beside the target -/
def escGlyph : AGlyph := { tok := 5, encodable := true }
def escEntry : AEntry := { name := "a".toList, file := "../../x.glif".toList, glyph := some escGlyph }
def escLayer : ALayer := { name := "public.default".toList, dir := "glyphs".toList, info := 0, entries := [escEntry] }
def glifFont : AFont Nat := { baseFont with layers := [escLayer] }

theorem save_frame_counterexample_contents_value :
    (saveImpl cfgN glifFont outer target).1 = none ∧
    lookup outer ["o".toList, "x.glif".toList] = none ∧
    (lookup (saveImpl cfgN glifFont outer target).2 ["o".toList, "x.glif".toList]).isSome = true := by
  decide +kernel

/-- both counterexample fonts are rejected by the guard, the base font is not (the guard is not vacuous) -/
theorem guard_separates :
    safePaths keyFont = false ∧ safePaths glifFont = false ∧ safePaths baseFont = true := by decide +kernel

/-- the guard of `plan_runs_to_completion` is satisfiable: the base font is well-planned -/
example : WellPlanned baseFont where
  infoOk := Or.inl rfl
  objLibs := rfl
  layerDir := by
    intro l hl
    obtain rfl := List.mem_singleton.mp hl
    unfold lname reservedNames topNames dataN imagesN'
    simp only [List.map_cons, List.map_nil]
    repeat rw [String.toList_ofList]
    decide +kernel
  layersDistinct := List.pairwise_singleton _ _
  glyphs := by
    intro l hl
    obtain rfl := List.mem_singleton.mp hl
    intro e he; cases he
  dataKeys := ⟨List.Pairwise.nil, by intro k hk; cases hk⟩
  imageKeys := by intro k hk; cases hk

/-- the saved tree of the base font, as the model computes it, has as many entries as `expectedPaths` lists, and one
    more: the directory `o` above the target, which was there before -/
example : (saveImpl cfgN baseFont outer target).1 = none ∧
    ((saveImpl cfgN baseFont outer target).2.map (·.1)).length = (expectedPaths baseFont target).length + 1 := by
  decide +kernel

open C08.Source Generated.SaveOrder in
/-- **The model's `plan` is exactly the regenerated table behind the wipe**: the rows of `fn save_impl` that follow the
    `remove_dir_all` row, each executed iff all its guard atoms hold (`!self.font_info.is_empty()`, `!lib.is_empty()` on
    the local lib with the dumped object libs inserted, `!self.groups.is_empty()`, ... `!self.images.is_empty()`), produce
    the effect list `plan` - so the emptiness gates, "no layerinfo / images when empty" and the order of the theorems
    above are statements about the gates the source has now. -/
theorem source_plan_is_save_table {β : Type} (cfg : Cfg β) (f : AFont β) (d i : List (Path.P × β)) (t : APath)
    (creator cr : Bool) :
    (parseTable saveTable).map (fun rows =>
      planRows { cfg, f, d, i, t, creator, cr } ((rows.dropWhile (!isWipe ·)).drop 1) { lib := none, fol := none })
    = some (plan cfg f d i t) := by
  rw [saveTable_parses]
  exact congrArg some (planRows_model { cfg, f, d, i, t, creator, cr })

open C08.Source Generated.SaveOrder in
/-- every optional part has a gate in the source, and it is the emptiness test of that part: the guard atoms of the
    rows that write the optional files, read off the regenerated table -/
theorem source_optional_gates :
    (parseTable saveTable).map (fun rows => rows.filterMap fun r =>
      if r.2 = .writeFontinfo ∨ r.2 = .writeLib ∨ r.2 = .writeGroups ∨ r.2 = .writeKerning ∨ r.2 = .writeFeatures ∨
         r.2 = .writeData ∨ r.2 = .createImages ∨ r.2 = .writeImages then some (r.1.head?, r.2) else none) =
    some [(some .infoNonEmpty, .writeFontinfo), (some .libNonEmpty, .writeLib), (some .groupsNonEmpty, .writeGroups),
          (some .kerningNonEmpty, .writeKerning), (some .featuresNonEmpty, .writeFeatures),
          (some .featuresNonEmpty, .writeFeatures), (some .dataNonEmpty, .writeData),
          (some .imagesNonEmpty, .createImages), (some .imagesNonEmpty, .writeImages)] := by
  rw [saveTable_parses]; decide +kernel

open C08.Source Generated.SaveOrder in
/-- **The model's `planLayer` is exactly the regenerated table of `Layer::save_with_options`** (`src/layer.rs`, the
    layer-info helper inlined): `create_dir`, contents.plist, layerinfo.plist under the gate
    `!(self.color.is_none() && self.lib.is_empty())` - the model's `info ≠ 0` -, then one glif per `contents` entry; for
    every layer and target, and for both values of the two facts inside the model's one layer-info token (is there a
    colour; is the lib non-empty). -/
theorem source_layer_plan_is_layer_table {β : Type} (cfg : Cfg β) (t : APath) (l : ALayer) (color libne : Bool) :
    (parseLayerTable layerTable).map (fun rows => layerRowsPlan cfg t l color libne rows) = some (planLayer cfg t l) := by
  rw [layerTable_parses]
  exact congrArg some (layerRows_model cfg t l color libne)

open C08.Source in
/-- non-vacuity: the interpreter writes layerinfo.plist for a layer with info and not for one without -/
example :
    (layerRowsPlan cfgN ["t".toList] { name := "a".toList, dir := "glyphs".toList, info := 1, entries := [] } true false
      modelLayerRows).length = 3 ∧
    (layerRowsPlan cfgN ["t".toList] { name := "a".toList, dir := "glyphs".toList, info := 0, entries := [] } false false
      modelLayerRows).length = 2 := by decide +kernel

end C09
