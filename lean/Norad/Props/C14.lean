import Norad.Lemmas.RobofabTie
import Norad.Generated.RobofabConv
import Norad.Spec.FontInfoUp
import Norad.Props.C13
import Norad.Lemmas.StrCode
/-!
# C14 — format 1 and 2 font info is converted to format 3 as the spec prescribes

Property theorems.  `Gen.*` are the tables regenerated from the Rust source by `tools/extract.py`
(`Generated.RobofabConv.*` by `tools/extract_robofab_conv.py`),
`Spec.*` the conversion tables typed in independently; `load` is the transcription of the legacy
path of `Font::load` (`Model/FontInfoUp.lean`).  The table equalities are re-checked by the kernel
against whatever the code says on every run.

-/
namespace C14
open FI StrCode

/-- correspondence between the conversion shapes found in the code and the specification's -/
def sconv : Conv → Spec.SConv
  | .id => .same | .roundI32 => .toInt | .roundAbsU32 => .toNonNegInt | .absNum => .nonNegNum
  | .absU32 => .absInt | .panoseAbs => .absEach | .weight => .weight | .enumWidth => .width
  | .enumCharSet => .charSet | .enumFontStyle => .fontStyle

def asSpec (t : List (String × String × Conv)) : List (String × String × Spec.SConv) :=
  t.map fun (a, b, c) => (a, b, sconv c)

def setEq {α} (a b : List α) : Prop := (∀ x ∈ a, x ∈ b) ∧ (∀ x ∈ b, x ∈ a)
instance {α} [DecidableEq α] (a b : List α) : Decidable (setEq a b) := by unfold setEq; infer_instance

theorem setEq.iff {α} {a b : List α} (h : setEq a b) (r : α) : r ∈ a ↔ r ∈ b := ⟨h.1 r, h.2 r⟩

def rowKey {γ} : String × String × γ → Nat × Nat × γ := Prod.map code (Prod.map code id)

theorem rowKey_injective {γ} : Function.Injective (rowKey (γ := γ)) :=
  prodMap_injective (fun _ _ => code_inj) (prodMap_injective (fun _ _ => code_inj) Function.injective_id)

/-- the three table theorems below in one evaluation: the kernel encodes an attribute name once per evaluation, and that
    is the greater part of the work -/
theorem tables_checked :
    (keysIn ((asSpec Gen.v2Table).map rowKey) (Spec.tableV2.map rowKey) = true ∧
      keysIn (Spec.tableV2.map rowKey) ((asSpec Gen.v2Table).map rowKey) = true) ∧
    (keysIn ((asSpec Gen.v1Table).map rowKey) (Spec.tableV1.map rowKey) = true ∧
      keysIn (Spec.tableV1.map rowKey) ((asSpec Gen.v1Table).map rowKey) = true) ∧
    distinct ((Gen.v2Table.map (·.2.1)).map code) = true ∧ distinct ((Gen.v1Table.map (·.2.1)).map code) = true ∧
    distinct ((Gen.v2Table.map (·.1)).map code) = true ∧ distinct ((Gen.v1Table.map (·.1)).map code) = true := by
  -- the string tests inside `Spec.convV2` become tests on codes before the kernel evaluates them
  simp only [Spec.tableV2, Spec.convV2, code_eq_iff, contains_eq_codes]
  decide +kernel

/-- the format-2 table in the code is the specification's table, as sets of rows (legacy attribute, format-3 attribute,
    conversion shape named through `sconv`; what a shape computes is compared by the driver, not here) -/
theorem v2_table_eq_spec :
    (∀ r ∈ asSpec Gen.v2Table, r ∈ Spec.tableV2) ∧ (∀ r ∈ Spec.tableV2, r ∈ asSpec Gen.v2Table) :=
  have ⟨⟨sub, sup⟩, _⟩ := tables_checked
  ⟨subset_of_keysIn rowKey_injective sub, subset_of_keysIn rowKey_injective sup⟩

theorem v1_table_eq_spec :
    (∀ r ∈ asSpec Gen.v1Table, r ∈ Spec.tableV1) ∧ (∀ r ∈ Spec.tableV1, r ∈ asSpec Gen.v1Table) :=
  have ⟨_, ⟨sub, sup⟩, _⟩ := tables_checked
  ⟨subset_of_keysIn rowKey_injective sub, subset_of_keysIn rowKey_injective sup⟩

/-- no two legacy attributes land on one format-3 attribute, and no legacy attribute has two rows -/
theorem tables_injective :
    (Gen.v2Table.map (·.2.1)).Nodup ∧ (Gen.v1Table.map (·.2.1)).Nodup ∧
    (Gen.v2Table.map (·.1)).Nodup ∧ (Gen.v1Table.map (·.1)).Nodup :=
  have ⟨_, _, v2targets, v1targets, v2keys, v1keys⟩ := tables_checked
  ⟨nodup_of_distinct_codes v2targets, nodup_of_distinct_codes v1targets, nodup_of_distinct_codes v2keys,
    nodup_of_distinct_codes v1keys⟩

/-- the three enumeration tables are the specification's (plus the accepted extensions) -/
theorem enum_tables_eq_spec :
    (∀ r, r ∈ Gen.fontStyleCodes ↔ r ∈ Spec.fontStyle ++ Spec.fontStyleExt) ∧
    (∀ r, r ∈ Gen.charSetCodes ↔ r ∈ Spec.charSet) ∧
    (∀ r, r ∈ Gen.widthNames ↔ r ∈ Spec.width ++ Spec.widthExt) ∧
    (Gen.fontStyleCodes.map (·.1)).Nodup ∧ (Gen.charSetCodes.map (·.1)).Nodup ∧
    (Gen.widthNames.map (·.1)).Nodup := by
  -- the three tables are read once: as sets, and (what `_` stands for) for the distinctness of their keys
  suffices h : (setEq Gen.fontStyleCodes (Spec.fontStyle ++ Spec.fontStyleExt) ∧ setEq Gen.charSetCodes Spec.charSet ∧
      setEq Gen.widthNames (Spec.width ++ Spec.widthExt)) ∧ _ from
    have ⟨⟨style, charSet, width⟩, keys⟩ := h
    ⟨style.iff, charSet.iff, width.iff, keys⟩
  decide +kernel

/-- a code or name outside the table is an error, whatever it is -/
theorem enum_unknown_is_error (t : Tables) :
    (∀ z, lookup t.fontStyle z = none → applyConv t .enumFontStyle (.int z) = .error .unknownFontStyle) ∧
    (∀ z, lookup t.charSet z = none → applyConv t .enumCharSet (.int z) = .error .unknownCharSet) ∧
    (∀ s, lookup t.width s = none → applyConv t .enumWidth (.str s) = .error .unknownWidth) := by
  refine ⟨?_, ?_, ?_⟩ <;> intro z h <;> simp [applyConv, h]

/-- **unknown enumeration values are reported as errors**: a format-1 font info holding a font style
    code outside the table cannot be loaded (for the other two enumerations only the per-value fact
    `enum_unknown_is_error` is proved) -/
theorem unknown_font_style_refuses_load (attrs : List (String × Val)) (z : Int)
    (hmem : ("fontStyle", Val.int z) ∈ attrs) (hz : lookup Gen.fontStyleCodes z = none) :
    ∃ e, fromFile 1 attrs = .error e := by
  obtain ⟨k3, hl⟩ : ∃ k3, lookup Gen.v1Table "fontStyle" = some (k3, .enumFontStyle) := by
    have h : (lookup Gen.v1Table "fontStyle").map (·.2) = some .enumFontStyle := by decide +kernel
    cases hr : lookup Gen.v1Table "fontStyle" with
    | none => rw [hr] at h; cases h
    | some p => obtain ⟨k3, c⟩ := p; rw [hr] at h; cases h; exact ⟨k3, rfl⟩
  obtain ⟨e', he'⟩ := convertAll_error_of_mem tables Gen.v1Table hl ((enum_unknown_is_error tables).1 z hz) attrs hmem
  unfold fromFile
  split
  · exact ⟨_, rfl⟩
  · rw [show tableOf 1 = Gen.v1Table from rfl, he']
    exact ⟨_, rfl⟩

theorem weight_minus_one_dropped :
    applyConv tables .weight (.int (-1)) = .ok none ∧
    ∀ z : Int, z ≠ -1 → applyConv tables .weight (.int z) = .ok (some (.int (Int.ofNat z.natAbs))) := by
  refine ⟨by rfl, ?_⟩
  intro z hz
  have : tables.weightDropped = [-1] := rfl
  simp [applyConv, this, hz]

/-- where format 3 wants an unsigned number the result is non-negative (for `absNum`, a double given by its bit pattern:
    the sign bit, 2⁶³, is clear) -/
theorem conv_abs_nonneg (t : Tables) :
    (∀ b w, applyConv t .roundAbsU32 (.num b) = .ok (some (.int w)) → 0 ≤ w) ∧
    (∀ z w, applyConv t .absU32 (.int z) = .ok (some (.int w)) → 0 ≤ w) ∧
    (∀ z w, applyConv t .weight (.int z) = .ok (some (.int w)) → 0 ≤ w) ∧
    (∀ l l', applyConv t .panoseAbs (.ints l) = .ok (some (.ints l')) → ∀ w ∈ l', 0 ≤ w) ∧
    (∀ b b', applyConv t .absNum (.num b) = .ok (some (.num b')) → b' < 2 ^ 63) := by
  refine ⟨fun b w h => ?_, fun z w h => ?_, fun z w h => ?_, fun l l' h w hw => ?_, fun b b' h => ?_⟩
  · cases h; exact Int.natCast_nonneg _
  · cases h; exact Int.natCast_nonneg _
  · rw [applyConv] at h
    split at h <;> cases h
    exact Int.natCast_nonneg _
  · cases h
    obtain ⟨z, _, rfl⟩ := List.mem_map.1 hw
    exact Int.natCast_nonneg _
  · cases h; exact Nat.mod_lt _ (by decide)

/-- **rounding**: where format 3 wants an integer, the converted value is an integer within ½ of the
    legacy value (for every finite double below the saturation guard) -/
theorem conv_round_within_half (neg : Bool) (m up down : Nat)
    (hg : Dbl.num m up < 2147483647 * Dbl.den down) :
    Spec.withinHalf neg (Dbl.num m up) (Dbl.den down) (roundI32 (.fin neg m up down)) = true := by
  have hd : 0 < Dbl.den down := Nat.pow_pos (by decide)
  simp only [roundI32]
  generalize Dbl.num m up = n at *
  generalize Dbl.den down = d at *
  obtain ⟨h1, h2⟩ := roundMag_bounds n d hd
  have hr : roundMag n d ≤ 2147483647 := Nat.le_of_lt_succ (Nat.lt_of_mul_lt_mul_right (a := d) (by omega))
  -- `omega` is linear: the product `roundMag n d * d` goes in as one unknown `p`
  generalize hp : roundMag n d * d = p at h1 h2
  have e : ((roundMag n d : Nat) : Int) * d = p := by rw [← hp, Int.natCast_mul]
  have sat : ∀ z : Int, z.natAbs = roundMag n d → satI32 z = z := fun z hz => by
    unfold satI32 i32Max i32Min
    split
    · omega
    · split <;> omega
  rw [sat _ (by cases neg <;> simp)]
  unfold Spec.withinHalf
  cases neg <;> simp only [Bool.false_eq_true, if_false, if_true, decide_eq_true_eq, Int.ofNat_eq_natCast,
    Int.mul_assoc, Int.neg_mul, e] <;> omega

/-- **a successful legacy load reports format 3, passes validation and is not refused by save**
    (composition with C13: `saveInfo` is the font-info part of `Font::save`) -/
theorem upconverted_reports_v3_validates_and_saves (i : Input) (o : Output) (h : load i = .ok o) :
    o.formatVersion = 3 ∧ C13.validate (project o.info) = .ok ∧ C13.saveInfo (project o.info) = .ok ∧
    C13.Rules (project o.info) := by
  obtain ⟨info', hc, rfl⟩ := load_ok h
  obtain ⟨_, _, _, hv⟩ := convertedInfo_ok hc
  have hr := (C13.validate_iff_rules _).1 hv
  exact ⟨rfl, hv, (C13.saveInfo_ok_iff _).2 hr, hr⟩

/-- **the four robofab keys are gone from the lib of a converted format-1 font, every other key stays** -/
theorem robofab_removed_from_lib (i : Input) (o : Output) (h1 : i.fmt = 1) (hl : i.hasLib = true)
    (h : load i = .ok o) :
    (∀ k ∈ o.libKeys, k ∉ Spec.robofabKeys) ∧
    (i.reqLib = true → ∀ k ∈ i.libKeys, k ∉ Spec.robofabKeys → k ∈ o.libKeys) := by
  -- set-wise: the order of the `lib.remove` statements is not part of the statement
  have hset : setEq Gen.robofabRemoved Spec.robofabKeys := by decide +kernel
  obtain ⟨info, _, rfl⟩ := load_ok h
  have hlib : (assemble i info).libKeys =
      (if i.reqLib then i.libKeys else []).filter (fun k => !Gen.robofabRemoved.contains k) := by
    simp only [assemble, h1, hl, decide_true, Bool.and_self, if_true]
  simp only [hlib, List.mem_filter, Bool.not_eq_eq_eq_not, Bool.not_true, List.contains_eq_mem,
    decide_eq_false_iff_not]
  exact ⟨fun k hk hs => hk.2 (hset.2 k hs), fun hq k hk hs => ⟨by rw [hq]; exact hk, fun hg => hs (hset.1 k hg)⟩⟩

/-- the feature text is the classes followed, when a features dictionary exists, by a newline and
    the blocks the order list names (unknown names skipped) -/
theorem feature_text_with_order (cls : Option String) (order : List String) (fs : List (String × String)) :
    featureText { classes := cls, order := some order, feats := some fs } =
      cls.getD "" ++ "\n" ++ String.join (order.filterMap fun k => lookup fs k) := rfl

theorem feature_text_without_features (cls : Option String) (order : Option (List String)) :
    featureText { classes := cls, order := order, feats := none } = cls.getD "" := rfl

/-- **the PostScript hinting data kept in the format-1 lib is moved to font info**: after a successful
    load of a format-1 font whose lib holds hint data `h`, every entry of `h` sits under its font-info
    attribute (zone lists flattened), and an entry that is absent leaves the unconditional attributes unset -/
theorem hint_data_moved (i : Input) (o : Output) (h : List (String × Val)) (h1 : i.fmt = 1)
    (hl : i.hasLib = true) (hh : i.robofab.hint = some h) (hload : load i = .ok o) :
    ∀ row ∈ Gen.hintRows,
      (∀ v, lookup h row.1 = some v → getKey o.info row.2 = some (flatten v)) ∧
      (lookup h row.1 = none → hintConditional.contains row.1 = false → getKey o.info row.2 = none) := by
  obtain ⟨info', hc, rfl⟩ := load_ok hload
  obtain ⟨info, _, rfl, _⟩ := convertedInfo_ok hc
  rw [hinted_eq h1 hl hh]
  have hd : distinct ((Gen.hintRows.map (·.2)).map code) = true := by decide +kernel
  exact applyHints_row h Gen.hintRows (nodup_of_distinct_codes hd) info

def converted (o : Output) : List (String × Val) × Nat := (o.info, o.formatVersion)

/-- **the data request does not change the conversion**: whichever files the caller asked for, a format-1 or
    format-2 font yields the same font info (hint data included) and reports the same format; with the lib
    switch alone also the same feature text -/
theorem conversion_independent_of_request (i : Input) (l f : Bool) :
    (load { i with reqLib := l, reqFeatures := f }).toOption.map converted = (load i).toOption.map converted ∧
    (load { i with reqLib := l }).toOption.map (·.features) = (load i).toOption.map (·.features) := by
  simp only [load_eq]
  constructor
  · show ((convertedInfo i).map _).toOption.map converted = _
    cases convertedInfo i <;> rfl
  · show ((convertedInfo i).map _).toOption.map Output.features = _
    cases convertedInfo i <;> rfl

/-- **what else is in the tree does not decide**: whether a legacy font info is accepted depends on the font
    info (and, for format 1, the hint data) alone — not on a `features.fea` being present, empty or not, on the
    other lib keys, or on the data request -/
theorem acceptance_independent_of_other_files (i : Input) (f : Option String) (ks : List String) (l ft : Bool) :
    (load { i with feaFile := f, libKeys := ks, reqLib := l, reqFeatures := ft }).toOption.isSome =
      (load i).toOption.isSome := by
  simp only [load_eq]
  show ((convertedInfo i).map _).toOption.isSome = _
  cases convertedInfo i <;> rfl

/-! ### source-level tie of `upconvert_ufov1_robofab_data` (tools/extract_robofab_conv.py)

`Generated.RobofabConv.*` is the statement sequence of the function, regenerated on every run: per statement the
robofab entry, the target and the conversion.  `applyConvRows_model` (Lemmas/RobofabTie.lean, stable) says that
folding the model's table by the conversions of its rows is the model's `applyHints`. -/

/-- the table translated from the source IS the model's table (rows, targets, conversions, in source order), the
    feature statements are the model's, `validate` follows the last assignment, the keys removed from the lib are
    the model's, an empty text is reported as absent -/
theorem source_robofab_table_eq_model :
    Generated.RobofabConv.hintTable = modelHintTable ∧
    Generated.RobofabConv.featureTable = modelFeatureTable ∧
    Generated.RobofabConv.hintValidateAfter = some Generated.RobofabConv.hintTable.length ∧
    setEq Generated.RobofabConv.removed Gen.robofabRemoved ∧
    Generated.RobofabConv.featuresNoneWhenEmpty = true ∧
    (Generated.RobofabConv.hintTable.map (·.2.1)).Nodup := by decide +kernel

/-- hence the fold `load` performs is the fold of the translated statements by their conversions, for every hint
    dictionary and every font info -/
theorem source_robofab_statements_are_applyHints (hint info : List (String × Val)) :
    applyConvRows Generated.RobofabConv.hintTable hint info = applyHints Gen.hintRows hint info := by
  rw [source_robofab_table_eq_model.1]
  exact applyConvRows_model hint info

/-- a successful format-1 load with hint data returns the font info the translated statements produce -/
theorem source_robofab_load_runs_table (i : Input) (o : Output) (h : List (String × Val)) (h1 : i.fmt = 1)
    (hl : i.hasLib = true) (hh : i.robofab.hint = some h) (hload : load i = .ok o) :
    ∃ info, fromFile 1 i.attrs = .ok info ∧
      o.info = applyConvRows Generated.RobofabConv.hintTable h info := by
  obtain ⟨info', hc, rfl⟩ := load_ok hload
  obtain ⟨info, hf, rfl, _⟩ := convertedInfo_ok hc
  rw [hinted_eq h1 hl hh]
  exact ⟨info, h1 ▸ hf, (source_robofab_statements_are_applyHints h info).symm⟩

def specKindOfConv : RConv → Option Spec.HintKind
  | .direct => some .copied
  | .copyIfPresent => some .copied
  | .flattenIfPresent => some .zonesFlattened
  | _ => none

/-- the role numbers of `Spec.featureKeyRoles`: 0 = the classes text, 1 = the feature blocks, 2 = the order of the blocks -/
def featureRoleOfConv : RConv → Option Nat
  | .appendText => some 0
  | .newlineThenBlocks => some 1
  | .blockOrder => some 2
  | _ => none

/-- every translated row converts as the specification's table prescribes: the entry goes to the attribute
    `Spec.hintAttrs` names, zone lists (and only they) are flattened, everything else is copied; every entry of the
    specification has its statement; the entry types are the specification's; the three feature keys play the
    specification's roles; the lib keys read are exactly the robofab keys, and they are the keys removed -/
theorem source_robofab_conversions_are_spec :
    (∀ row ∈ Generated.RobofabConv.hintTable,
      lookup Spec.hintAttrs row.1 = some row.2.1 ∧ specKindOfConv row.2.2 = some (Spec.hintKindOf row.1)) ∧
    (∀ p ∈ Spec.hintAttrs, ∃ row ∈ Generated.RobofabConv.hintTable, row.1 = p.1 ∧ row.2.1 = p.2) ∧
    setEq (Generated.RobofabConv.hintTypes.map fun t => (t.1, t.2.2)) Spec.hintEntryTypes ∧
    setEq (Generated.RobofabConv.featureTable.filterMap fun r => (featureRoleOfConv r.2.2).map fun n => (r.1, n))
      Spec.featureKeyRoles ∧
    (∀ row ∈ Generated.RobofabConv.featureTable, row.2.1 = "features") ∧
    Generated.RobofabConv.featureFallbackOrder ∈ Spec.fallbackOrders ∧
    setEq (Generated.RobofabConv.libKeys.map (·.1)) Spec.robofabKeys ∧
    setEq Generated.RobofabConv.removed Spec.robofabKeys ∧
    Generated.RobofabConv.hintLibKey = "org.robofab.postScriptHintData" := by decide +kernel

/-- semantically: a present, well-shaped entry (zones for a zone list, anything but zones otherwise) leaves in its
    attribute exactly the value the specification prescribes, whatever the other entries are -/
theorem source_robofab_row_value_is_spec (hint acc : List (String × Val)) (v : Val) :
    ∀ row ∈ Generated.RobofabConv.hintTable, lookup hint row.1 = some v →
      ((Spec.hintKindOf row.1 = .zonesFlattened) ↔ (∃ l, v = .numss l)) →
      getKey (convStep hint acc row) row.2.1 = some (Spec.hintValue (Spec.hintKindOf row.1) v) := by
  intro row hrow hv hshape
  have hk := (source_robofab_conversions_are_spec.1 row hrow).2
  rw [convStep_present hint acc row v hv]
  generalize Spec.hintKindOf row.1 = kind at hk hshape ⊢
  -- the conversion of the row fixes its kind, the kind the shape of `v`
  cases hc : row.2.2 <;> rw [hc] at hk <;> cases hk
  case direct => cases v <;> first | rfl | exact absurd (hshape.2 ⟨_, rfl⟩) nofun
  case flattenIfPresent => obtain ⟨l, rfl⟩ := hshape.1 rfl; rfl
  case copyIfPresent => cases v <;> rfl

/-- **the feature statements, interpreted**: for every robofab lib - any blocks, classes or none, an order list that
    is complete, incomplete, with repeated or unknown tags, or none at all - the text assembled by folding the
    statements translated from the source (`String::new()`, then each statement by its conversion) is the model's
    `featureText`; without an order list the source's fallback (`sorted`) reads as the order list of the sorted tags -/
theorem source_robofab_features_eq_model (r : Robofab) :
    featureTextOf Generated.RobofabConv.featureTable Generated.RobofabConv.featureFallbackOrder r =
      featureText (withFallback Generated.RobofabConv.featureFallbackOrder r) := by
  rw [source_robofab_table_eq_model.2.1]
  exact featureTextOf_model _ r

/-- C10's determinism clause for the converted feature text: two block maps holding the same blocks (the same
    hash map iterated in two orders) give the same text, with or without an order list -/
theorem source_robofab_features_deterministic (r : Robofab) (fs fs' : List (String × String))
    (hp : fs'.Perm fs) (hn : (fs.map (·.1)).Nodup) :
    featureTextOf Generated.RobofabConv.featureTable Generated.RobofabConv.featureFallbackOrder
        { r with feats := some fs' } =
      featureTextOf Generated.RobofabConv.featureTable Generated.RobofabConv.featureFallbackOrder
        { r with feats := some fs } := by
  -- through the table equality: the text at the regenerated rows is the model's
  rw [source_robofab_features_eq_model, source_robofab_features_eq_model]
  exact featureText_perm _ r hp hn (by decide)

/-- the same on the model's side: under the source's fallback the model's text does not depend on the order in
    which the block map is handed to it -/
theorem source_robofab_model_text_deterministic (r : Robofab) (fs fs' : List (String × String))
    (hp : fs'.Perm fs) (hn : (fs.map (·.1)).Nodup) :
    featureText (withFallback Generated.RobofabConv.featureFallbackOrder { r with feats := some fs' }) =
      featureText (withFallback Generated.RobofabConv.featureFallbackOrder { r with feats := some fs }) :=
  featureText_perm _ r hp hn (by decide)

-- non-vacuity: an incomplete order list with a repeated and an unknown tag; no order list (sorted); no blocks
example : featureTextOf Generated.RobofabConv.featureTable Generated.RobofabConv.featureFallbackOrder
    { classes := some "c", order := some ["b", "x", "b"], feats := some [("a", "A"), ("b", "B")] } = "c\nBB" := by
  decide +kernel
example : featureText (withFallback Generated.RobofabConv.featureFallbackOrder
    { classes := some "c", order := some ["b", "x", "b"], feats := some [("a", "A"), ("b", "B")] }) = "c\nBB" := by
  decide +kernel
example : featureTextOf Generated.RobofabConv.featureTable Generated.RobofabConv.featureFallbackOrder
    { order := some ["a"], feats := some [("b", "B"), ("a", "A")] } = "\nA" := by decide +kernel
example : featureTextOf Generated.RobofabConv.featureTable Generated.RobofabConv.featureFallbackOrder
    { classes := some "c", order := some ["a"] } = "c" := by decide +kernel
example : [("b", "B"), ("a", "A")].Perm [("a", "A"), ("b", "B")] := List.Perm.swap _ _ _

-- non-vacuity: a zone list is flattened, a scalar is copied, an absent unconditional entry clears the attribute
example : getKey (convStep [("blueValues", .numss [[1, 2], [3, 4]])] [] ("blueValues", "postscriptBlueValues", .flattenIfPresent))
    "postscriptBlueValues" = some (.nums [1, 2, 3, 4]) := by decide +kernel
example : ("blueValues", "postscriptBlueValues", RConv.flattenIfPresent) ∈ Generated.RobofabConv.hintTable := by
  decide +kernel
example : Spec.hintKindOf "blueValues" = .zonesFlattened ∧ Spec.hintKindOf "hStems" = .copied := by decide
example : applyConvRows Generated.RobofabConv.hintTable [("forceBold", .bool true)]
    [("postscriptBlueFuzz", .int 1), ("postscriptBlueValues", .nums [1, 2])] =
    [("postscriptBlueValues", .nums [1, 2]), ("postscriptForceBold", .bool true)] := by decide +kernel

example : (fromFile 2 [("openTypeHheaAscender", .num 0x4029000000000000)]).toOption =
    some [("openTypeHheaAscender", .int 13)] := by decide +kernel          -- 12.5 ↦ 13
example : (fromFile 2 [("openTypeOS2WinDescent", .num 0xc029000000000000)]).toOption =
    some [("openTypeOS2WinDescent", .int 13)] := by decide +kernel         -- -12.5 ↦ 13
example : (fromFile 1 [("fontStyle", .int 64), ("msCharSet", .int 77), ("widthName", .str "Condensed"),
      ("weightValue", .int (-1)), ("designer", .str "d")]).toOption =
    some [("styleMapStyleName", .str "regular"), ("postscriptWindowsCharacterSet", .int 4),
      ("openTypeOS2WidthClass", .int 3), ("openTypeNameDesigner", .str "d")] := by decide +kernel
example : (fromFile 1 [("fontStyle", .int 2)]).toOption = none := by decide +kernel
example : (fromFile 2 [("postscriptBlueValues", .nums (List.replicate 15 0))]).toOption = none := by
  decide +kernel
example : (fromFile 2 [("postscriptBlueValues", .nums (List.replicate 14 0))]).toOption.isSome = true := by
  decide +kernel

def sampleRobofab : Robofab :=
  { classes := some "c", order := some ["b", "x", "a"], feats := some [("a", "A"), ("b", "B")] }

def sampleInput : Input :=
  { fmt := 1, attrs := [], hasLib := true, robofab := sampleRobofab,
    libKeys := ["keep", "org.robofab.opentype.classes"] }

def featAndLib (o : Output) : String × List String := (o.features, o.libKeys)

example : (load sampleInput).toOption.map featAndLib = some ("c\nBA", ["keep"]) := by decide +kernel

end C14
