import Norad.Props.C03
import Norad.Props.C16
import Norad.Generated.PanicSites

/-!
# C03 — inventory of the panic-capable sites of norad's own source

`tools/extract_panic_sites.py` lists, from the Rust source of the tree under check, every place where norad's OWN
non-test code can panic (`unwrap`, `expect`, `panic!`, `unreachable!`, `assert!`, a call of a crate-internal panicking
constructor `new_raw`, slicing by a range, indexing), one row per (file, function, kind) with the number of such sites
(`Generated.PanicSites.sites`).  The table below is the hand-written CLASSIFICATION: for every row why the site cannot
fire, is a panic the documentation announces, or is a recorded finding.

A new site OF A KIND A FUNCTION ALREADY HAS in a classified function is an obligation: `source_panic_sites_all_classified`
fails until the site is classified.  A (file, function, kind) the classification has never seen — a new helper function, a
first site of a new kind — is not: it is listed in `Generated.PanicSites.unreviewed` and in the evidence, and is covered by
sampling only.

How strong each class is:
* `thm`: a kernel-checked theorem, named in `ref` (its existence is checked at the end of this file), is the reason the
  site cannot fire.  Where the model has the site as an explicit outcome (`rename_layer`'s `position(..).unwrap()`, the
  `expect`s of `save_impl`, `end_path`, the kerning `unwrap`s) the theorem says that outcome is unreachable; for the other
  `thm` rows (`default_layer(_mut)` and the `layers[..]` of `rename_layer`: a list the invariant keeps non-empty, an index
  `position` just returned; `rename_glyph`: `remove_glyph(old)` behind the guard that `old` is present) the site itself is
  not an outcome of the model, and the theorem supplies the fact that the few lines around the site need.
* `guard` / `constr` / `const`: justified by reading the few lines around the site (a length test just above, a value
  produced by an operation whose result always satisfies the callee, a literal argument).  NOT a proof; each is also
  exercised by the C03 mutation streams and by every correspondence run under `catch_unwind`.
* `documented`: the panics the property exempts.
* `finding`: the site CAN fire; recorded in `known_findings.txt` under the id in `ref` and reproduced on every run.
-/

namespace Norad.C03Sites
open Norad.Generated

inductive Why
  | thm | guard | constr | const | documented | finding
  deriving DecidableEq, Repr

structure Row where
  file : String
  fn : String
  kind : String
  count : Nat
  why : Why
  ref : String
  note : String

def table : List Row := [
  ⟨"datastore.rs", "get", "unreach", 1, .guard, "C16.lazy_get_is_disk_at_first_access",
    "the `if let NotLoaded` block directly above replaces the cell by Loaded or Error before the match"⟩,
  ⟨"datastore.rs", "iter", "unwrap", 1, .constr, "C16.iter_results_from_final_store",
    "`get(k)` for a key just taken from `self.items.keys()` is `Some`"⟩,
  ⟨"datastore.rs", "try_list_contents", "unwrap", 2, .constr, "",
    "`strip_prefix(source_root)` of a path produced by `read_dir` below `source_root` (std contract)"⟩,
  ⟨"font.rs", "save_impl", "expect", 2, .thm, "C16.save_never_panics",
    "every entry was forced and found Ok by the pre-write loop (source_force_loop_covers_both_stores)"⟩,
  ⟨"font.rs", "save_impl", "unwrap", 1, .thm, "C16.store_destination_has_parent",
    "`data_dir.join(key).parent()` for a non-empty relative key"⟩,
  ⟨"fontinfo.rs", "deserialize", "index", 22, .guard, "",
    "`values.len() != 2` / `!= 10` returns an error just above; constant indices below the tested length"⟩,
  ⟨"fontinfo.rs", "dump_object_libs", "unwrap", 1, .constr, "",
    "a guideline lib is only ever attached together with an identifier (`replace_lib` creates one, `load_object_libs` matches by identifier)"⟩,
  ⟨"fontinfo.rs", "from_file", "unwrap", 2, .constr, "",
    "`NonNegativeIntegerOrFloat::new(v.abs())`: `abs` clears the sign bit (NaN included), `new` tests `is_sign_positive`"⟩,
  ⟨"fontinfo.rs", "validate", "slice", 11, .guard, "C13.validate_never_panics",
    "`v.len() == 19` and every char ASCII (digit, blank, `/`, `:`) are tested first: every range lies inside and on a char boundary"⟩,
  ⟨"fontinfo.rs", "validate", "unwrap", 1, .guard, "C13.validate_never_panics", "inside `if v.len() > 1`"⟩,
  ⟨"glyph/builder.rs", "end_path", "unreach", 1, .thm, "C11.end_path_unreachable_arm",
    "a `move` point after the first is refused by `add_point`, so the wrap-around loop never meets one"⟩,
  ⟨"glyph/mod.rs", "dump_object_libs", "unwrap", 1, .constr, "",
    "an object lib is only ever attached together with an identifier (`replace_lib`, `load_object_libs`)"⟩,
  ⟨"glyph/mod.rs", "from", "index", 6, .const, "",
    "constant indices 0..5 into the `[f64; 6]` of `Affine::as_coeffs` (checked by the compiler)"⟩,
  ⟨"glyph/mod.rs", "new", "newraw", 1, .documented, "",
    "`Glyph::new` panics on an invalid name, as its documentation says"⟩,
  ⟨"glyph/parse.rs", "parse_advance", "unreach", 1, .guard, "",
    "inner match on the key the enclosing arm `b\"width\" | b\"height\"` just matched"⟩,
  ⟨"glyph/parse.rs", "parse_lib", "slice", 1, .constr, "",
    "byte slice between two `buffer_position()`s of one reader over `raw_xml`: monotone and within the buffer (quick-xml contract)"⟩,
  ⟨"glyph/parse.rs", "parse_outline", "index", 2, .guard, "C11.v1_single_named_move_becomes_anchor",
    "`c.points.len() == 1 &&` precedes both `points[0]`"⟩,
  ⟨"glyph/serialize.rs", "to_event", "expect", 1, .finding, "image-non-utf8-name-panics",
    "`Image::new` accepts a file name that is not UTF-8; `to_str().expect` then panics"⟩,
  ⟨"glyph/serialize.rs", "write_lib_section", "expect", 1, .constr, "",
    "the plist XML writer emits UTF-8 (third party)"⟩,
  ⟨"glyph/serialize.rs", "write_lib_section", "slice", 1, .constr, "",
    "both indices come from `find` of ASCII markers; the header precedes the footer in every plist document (text is escaped, so `</plist>` cannot occur inside)"⟩,
  ⟨"identifier.rs", "from_uuidv4", "unwrap", 1, .constr, "",
    "a hyphenated UUID is 36 printable ASCII characters: a valid identifier"⟩,
  ⟨"layer.rs", "default", "newraw", 1, .const, "", "the literal `public.default` is a valid name"⟩,
  ⟨"layer.rs", "default_layer", "index", 2, .thm, "Layers.exactly_one_default_first",
    "the layer list is never empty: the default layer cannot be removed (invariant of every reachable state)"⟩,
  ⟨"layer.rs", "default_layer_mut", "index", 2, .thm, "Layers.exactly_one_default_first", "as `default_layer`"⟩,
  ⟨"layer.rs", "get_or_create_layer", "index", 1, .guard, "", "index returned by `position` on the same list"⟩,
  ⟨"layer.rs", "load", "newraw", 1, .const, "", "the literal `public.default` is a valid name"⟩,
  ⟨"layer.rs", "load_impl", "unwrap", 1, .finding, "layer-dir-dotdot-panics",
    "`path.file_name().unwrap()` for a layer directory `..`"⟩,
  ⟨"layer.rs", "new_layer", "unwrap", 1, .guard, "Layers.layer_ops_no_panic", "`last_mut()` directly after `push`"⟩,
  ⟨"layer.rs", "rename_glyph", "unwrap", 1, .thm, "Layers.layer_ops_no_panic",
    "`remove_glyph(old)` after the guard chain established that `old` is present"⟩,
  ⟨"layer.rs", "rename_layer", "index", 6, .thm, "Layers.layer_ops_no_panic",
    "`layers[0]` (never empty) and `layers[layer_pos]` with the position just found"⟩,
  ⟨"layer.rs", "rename_layer", "unwrap", 1, .thm, "Layers.layer_ops_no_panic",
    "`position(old)` after the guard chain established that `old` is present and was not removed by the overwrite"⟩,
  ⟨"layer.rs", "save_with_options", "expect", 1, .finding, "entry-remove-save-panics",
    "unreachable while glyph map and contents index are in step (Layers.save_no_panic_partial); the raw `entry` API can break that"⟩,
  ⟨"name.rs", "new_raw", "assert", 1, .documented, "",
    "the crate-internal panicking constructor itself; every CALL of it is a row of kind `newraw`"⟩,
  ⟨"names.rs", "contains", "unwrap", 1, .constr, "",
    "lock poisoning only: no code inside the critical sections can panic"⟩,
  ⟨"names.rs", "get", "unwrap", 2, .constr, "", "lock poisoning only, as `contains`"⟩,
  ⟨"serde_xml_plist.rs", "serialize", "unreach", 1, .guard, "C18.glue_never_panics",
    "booleans are written by the caller as empty elements and never reach the inner helper"⟩,
  ⟨"upconversion.rs", "make_unique_group_name", "unwrap", 1, .thm, "Kern.upconvert_no_panic_decimal",
    "a valid name followed by decimal digits is a valid name"⟩,
  ⟨"upconversion.rs", "upconvert_kerning", "unwrap", 4, .thm, "Kern.upconvert_no_panic_decimal",
    "prefix + non-control text is a valid name; the groups looked up were collected from the group table itself"⟩,
  ⟨"util.rs", "user_name_to_file_name", "panic", 1, .documented, "C07.fileName_none_iff_100_rejections",
    "more than 99 file-name clashes, announced"⟩,
  ⟨"util.rs", "user_name_to_file_name", "unwrap", 1, .constr, "", "`write!` into a `String` cannot fail"⟩,
  ⟨"write.rs", "indent", "assert", 1, .documented, "", "invalid indent settings, announced"⟩,
  ⟨"write.rs", "whitespace", "assert", 1, .documented, "", "invalid indent settings, announced"⟩,
  ⟨"write.rs", "whitespace", "expect", 1, .documented, "", "invalid indent settings (empty whitespace string), announced"⟩
]

def covers (t : List Row) (s : String × String × String × Nat) : Bool :=
  t.any fun r => r.file == s.1 && r.fn == s.2.1 && r.kind == s.2.2.1 && decide (s.2.2.2 ≤ r.count)

/-- what a failing run prints -/
def unclassified : List (String × String × String × Nat) := PanicSites.sites.filter fun s => !covers table s

/-- the three facts below in one evaluation: the kernel encodes a literal once per declaration -/
theorem table_checked :
    PanicSites.sites.all (covers table) = true ∧ (table.map fun r => (r.file, r.fn, r.kind)).Nodup ∧
    table.all (fun r => (r.why != .thm && r.why != .finding) || r.ref != "") = true := by decide +kernel

/-- **Every extracted row — every panic-capable site under a (file, function, kind) the classification knows — is
    classified.**  Fails as soon as a classified function gains a site of a kind it has. -/
theorem source_panic_sites_all_classified : PanicSites.sites.all (covers table) = true := table_checked.1

theorem source_panic_sites_none_unclassified : unclassified = [] :=
  List.filter_eq_nil_iff.2 fun s hs => by
    rw [List.all_eq_true.1 source_panic_sites_all_classified s hs]; decide

theorem table_keys_nodup : (table.map fun r => (r.file, r.fn, r.kind)).Nodup := table_checked.2.1

theorem table_refs_present : table.all (fun r => (r.why != .thm && r.why != .finding) || r.ref != "") = true :=
  table_checked.2.2

/-- the classification is not vacuous: the extracted table is not empty and the sites that CAN fire are visible in it
    (30: a floor well below the rows the source yields, so that a truncated extraction is seen) -/
example : PanicSites.sites.length ≥ 30 ∨ PanicSites.extraction = "pinned" := by decide +kernel
example : (table.filter (·.why == .finding)).length = 3 := by decide +kernel

/-! the theorems the `thm` rows cite exist (elaboration fails if one is renamed away) -/
example := @C16.save_never_panics
example := @C16.store_destination_has_parent
example := @C11.end_path_unreachable_arm
example := @Layers.exactly_one_default_first
example := @Layers.layer_ops_no_panic
example := @Layers.save_no_panic_partial
example := @Kern.upconvert_no_panic_decimal
example := @C13.validate_never_panics
example := @C07.fileName_none_iff_100_rejections
example := @C18.glue_never_panics

end Norad.C03Sites
