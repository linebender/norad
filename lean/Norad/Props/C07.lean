import Norad.Lemmas.C07
import Norad.Generated.FileNameConsts
import Norad.Generated.FileNameFn
/-!
# C07, function level — an assigned file name is portable and was accepted by the caller's closure

`userNameToFileName` is the transcription of `norad::user_name_to_file_name` (`Model/C07.lean`), the predicates are the
independent statements of `Spec/C07.lean`; uniqueness ignoring case and stability follow from the acceptance in
`Props/C07Containers.lean`.  `U` (`char::is_uppercase`) and `lower` (`str::to_lowercase`) are parameters: every theorem
holds for **every** function `lower`, and for every `U` (the reserved-word theorem needs `U` to be true on ASCII `A`–`Z`,
the exact affix guard needs it to be false on period and space; `char::is_uppercase` is both).  `accept k s` is the
answer of the caller's closure at its `k`-th call.
-/
namespace C07
open Spec

/-- the result is the **first** accepted one of the 100 candidates `candidate 0 … candidate 99`, and this
    determines it -/
theorem fileName_eq_some_iff {U : Char → Bool} {lower : Str → Str} {name pre suf p : Str}
    {accept : Nat → Str → Bool} :
    userNameToFileName U lower name pre suf accept = some p ↔
      ∃ k, k ≤ 99 ∧ p = candidate U name pre suf k ∧ accept k (lower p) = true ∧
        ∀ j, j < k → accept j (lower (candidate U name pre suf j)) = false := by
  simp only [fileName_eq_find, Option.map_eq_some_iff, List.find?_range'_eq_some, List.mem_range'_1,
    Bool.not_eq_true', Nat.zero_le, true_and, forall_const, Nat.zero_add, Nat.lt_succ_iff]
  exact ⟨fun ⟨k, ⟨ha, hk, hrej⟩, hp⟩ => ⟨k, hk, hp.symm, hp ▸ ha, hrej⟩,
    fun ⟨k, hk, hp, ha, hrej⟩ => ⟨k, ⟨hp ▸ ha, hk, hrej⟩, hp.symm⟩⟩

theorem fileName_of_candidates {U : Char → Bool} {lower : Str → Str} {name pre suf p : Str}
    {accept : Nat → Str → Bool} {P : Str → Prop}
    (h : userNameToFileName U lower name pre suf accept = some p) (hP : ∀ k, P (candidate U name pre suf k)) :
    P p := by
  obtain ⟨k, _, rfl, _⟩ := fileName_eq_some_iff.1 h
  exact hP k

theorem fileName_first_accepted {U : Char → Bool} {lower : Str → Str} {name pre suf p : Str}
    {accept : Nat → Str → Bool}
    (h : userNameToFileName U lower name pre suf accept = some p) :
    ∃ k, k ≤ 99 ∧ p = candidate U name pre suf k ∧ accept k (lower p) = true ∧
      ∀ j, j < k → accept j (lower (candidate U name pre suf j)) = false :=
  fileName_eq_some_iff.1 h

/-- **the `AssignOK` contract**: a returned name was offered to the caller's closure, lower-cased, at
    some call `k ≤ 99`, and that call accepted it. -/
theorem fileName_accepted {U : Char → Bool} {lower : Str → Str} {name pre suf p : Str}
    {accept : Nat → Str → Bool}
    (h : userNameToFileName U lower name pre suf accept = some p) :
    ∃ k, k ≤ 99 ∧ accept k (lower p) = true := by
  obtain ⟨k, hk, _, ha, _⟩ := fileName_eq_some_iff.1 h
  exact ⟨k, hk, ha⟩

/-- the same for a stateless closure (the form used by the containers: `accept = fun _ s => s ∉ taken`) -/
theorem fileName_accepted_stateless {U : Char → Bool} {lower : Str → Str} {name pre suf p : Str}
    {ok : Str → Bool}
    (h : userNameToFileName U lower name pre suf (fun _ => ok) = some p) : ok (lower p) = true := by
  obtain ⟨k, _, ha⟩ := fileName_accepted h
  exact ha

/-- the only panic is the documented one: `none` exactly when all 100 candidates were rejected
    (in particular the two `String::truncate` calls never hit the inside of a character). -/
theorem fileName_none_iff_100_rejections {U : Char → Bool} {lower : Str → Str} {name pre suf : Str}
    {accept : Nat → Str → Bool} :
    userNameToFileName U lower name pre suf accept = none ↔
      ∀ k, k ≤ 99 → accept k (lower (candidate U name pre suf k)) = false := by
  simp only [fileName_eq_find, Option.map_eq_none_iff, List.find?_range'_eq_none, Bool.not_eq_true', Nat.zero_le,
    forall_const, Nat.zero_add, Nat.lt_succ_iff]

/-- one path component: non-empty, not `.`/`..`, none of the 14 banned characters (so neither `/` nor
    `\`), no control character — for both affix pairs norad uses and every valid name -/
theorem fileName_single_component {U : Char → Bool} {lower : Str → Str} {name pre suf p : Str}
    {accept : Nat → Str → Bool} (hw : Wrapper pre suf) (hv : ValidName name)
    (h : userNameToFileName U lower name pre suf accept = some p) : SingleComponent p := by
  refine fileName_of_candidates h fun k => ?_
  have hl := candidate_wrapper_length U name hw k
  exact ⟨fun e => absurd (e ▸ hl) (by decide), fun e => absurd (e ▸ hl) (by decide),
    fun e => absurd (e ▸ hl) (by decide), candidate_good hv.2 (wrapper_good hw).1 (wrapper_good hw).2⟩

/-- the result never starts with a period (glif files; for layer directories it starts with `g`) -/
theorem fileName_no_leading_period {U : Char → Bool} {lower : Str → Str} {name pre suf p : Str}
    {accept : Nat → Str → Bool} (hw : Wrapper pre suf) (hv : ValidName name)
    (h : userNameToFileName U lower name pre suf accept = some p) : NoLeadingPeriod p := by
  refine fileName_of_candidates h fun k => ?_
  rcases hw with ⟨rfl, rfl⟩ | ⟨rfl, rfl⟩
  · obtain ⟨x, hx, hx'⟩ := glif_head U hv.1 k
    rw [NoLeadingPeriod, hx]
    exact fun he => hx' (Option.some.inj he)
  · obtain ⟨t, ht⟩ := layer_glyphs U name k
    rw [NoLeadingPeriod, ← ht]
    nofun

/-- the result never ends with a period or a space — for **every** prefix, every name and every suffix
    that does not itself end so (norad's suffixes are `.glif` and the empty string) -/
theorem fileName_no_trailing_period_or_space {U : Char → Bool} {lower : Str → Str}
    {name pre suf p : Str} {accept : Nat → Str → Bool}
    (hs : ∀ x, suf.getLast? = some x → x ≠ '.' ∧ x ≠ ' ')
    (h : userNameToFileName U lower name pre suf accept = some p) : NoTrailingPeriodOrSpace p := by
  refine fileName_of_candidates h fun k => ?_
  have := candidate_last U name pre k fun x hx => isDotSp_eq_false.2 (hs x hx)
  exact ⟨fun he => (isDotSp_eq_false.1 (this _ he)).1 rfl, fun he => (isDotSp_eq_false.1 (this _ he)).2 rfl⟩

theorem fileName_suffix {U : Char → Bool} {lower : Str → Str} {name pre suf p : Str}
    {accept : Nat → Str → Bool}
    (h : userNameToFileName U lower name pre suf accept = some p) : suf <:+ p :=
  fileName_of_candidates h (candidate_suffix U name pre suf)

/- `fileName_affixes` (FULL STATEMENT, FALSE on the tree for the layer wrapper — recorded finding
   `layer-prefix-eaten`): ∀ valid name, Wrapper pre suf → … = some p → HasAffixes pre suf p.
   The trailing-run replacement (util.rs:128-138) does not stop at the prefix. -/

/-- glif files carry `.glif`; layer directories carry `glyphs.` whenever the layer name does not
    start with a period or a space -/
theorem fileName_affixes_partial {U : Char → Bool} {lower : Str → Str} {name pre suf p : Str}
    {accept : Nat → Str → Bool} (hw : Wrapper pre suf)
    (hguard : pre = [] ∨ ∃ c cs, name = c :: cs ∧ c ≠ '.' ∧ c ≠ ' ')
    (h : userNameToFileName U lower name pre suf accept = some p) : HasAffixes pre suf p := by
  refine ⟨?_, fileName_suffix h⟩
  rcases hguard with rfl | ⟨c, cs, rfl, hc⟩
  · exact List.nil_prefix
  · rcases hw with ⟨rfl, rfl⟩ | ⟨rfl, rfl⟩
    · exact List.nil_prefix
    · exact fileName_of_candidates h (layer_prefix_kept (isDotSp_eq_false.2 hc))

/-- **the exact guard** (for every `U` that is false on period and space, as `char::is_uppercase` is):
    a layer directory carries `glyphs.` iff the longest character prefix of the layer name within 248
    **bytes** contains something else than periods and spaces.  (Bytes, not characters: 247 periods
    followed by a 4-byte character lose the prefix, the character is clipped away.) -/
theorem fileName_affixes_layer_iff {U : Char → Bool} {lower : Str → Str} {name p : Str}
    {accept : Nat → Str → Bool} (hU : U '.' = false ∧ U ' ' = false)
    (h : userNameToFileName U lower name layerPrefix [] accept = some p) :
    HasAffixes layerPrefix [] p ↔ (takeBytes 248 name).all isDotSp = false := by
  obtain ⟨k, _, rfl, _⟩ := fileName_eq_some_iff.1 h
  rw [← layer_prefix_iff hU k]
  exact ⟨fun h => h.1, fun h => ⟨h, List.nil_suffix⟩⟩

/-- …and even then the six letters `glyphs` are there -/
theorem fileName_layer_glyphs {U : Char → Bool} {lower : Str → Str} {name p : Str}
    {accept : Nat → Str → Bool}
    (h : userNameToFileName U lower name layerPrefix [] accept = some p) :
    ['g', 'l', 'y', 'p', 'h', 's'] <+: p :=
  fileName_of_candidates h (layer_glyphs U name)

/-- layer name `" "` (valid) gets the directory `glyphs__` -/
theorem fileName_affixes_layer_counterexample :
    ∃ p, layerDirName (fun _ => false) id [' '] [] = some p ∧ ValidName [' '] ∧
      ¬ HasAffixes layerPrefix [] p := by
  refine ⟨['g', 'l', 'y', 'p', 'h', 's', '_', '_'], ?_, ?_, ?_⟩ <;> decide +kernel

/-- the part before the first period, ASCII-lower-cased, is none of the 22 device names — for every
    `U` that is true on ASCII `A`–`Z`, both affix pairs, every name (valid or not), every clash count -/
theorem fileName_not_reserved {U : Char → Bool} {lower : Str → Str} {name pre suf p : Str}
    {accept : Nat → Str → Bool} (hw : Wrapper pre suf)
    (hU : ∀ c : Char, 'A'.toNat ≤ c.toNat ∧ c.toNat ≤ 'Z'.toNat → U c = true)
    (h : userNameToFileName U lower name pre suf accept = some p) : NotReserved p := by
  refine fileName_of_candidates h fun k => ?_
  rcases hw with ⟨rfl, rfl⟩ | ⟨rfl, rfl⟩
  · exact glif_not_reserved hU k
  · exact layer_not_reserved k

/-- `while !is_char_boundary(b) { b -= 1 }` started inside the string stops after at most 3 steps
    (and never underflows: the model's recursion is structural on `b`). -/
theorem backoff_steps_le_3 {s : Str} {n : Nat} (h : n ≤ usize s) :
    backoff s n ≤ n ∧ n ≤ backoff s n + 3 := by
  rw [backoff_eq]
  refine ⟨usize_takeBytes_le n s, ?_⟩
  by_cases hn : n < usize s
  · have := takeBytes_gap hn; omega
  · rw [takeBytes_of_le (by omega)]; omega

/-- the clipped string is the longest character prefix that fits: `truncate` never panics -/
theorem truncate_after_backoff (s : Str) (n : Nat) :
    truncateAt s (backoff s n) = some (takeBytes n s) ∧ takeBytes n s <+: s ∧
      usize (takeBytes n s) ≤ n :=
  ⟨truncateAt_backoff s n, takeBytes_prefix n s, usize_takeBytes_le n s⟩

/- `fileName_len_255` (FULL STATEMENT, FALSE on the tree — recorded finding `clash-counter-257`):
   ∀ valid name, userNameToFileName … name [] ".glif" accept = some p → Len255 p.
   util.rs:151 compares `len - suffix_len + 2` with 255, which never fires for ".glif". -/

/-- at most 255 bytes whenever the first candidate is accepted **or** the suffix is empty (layer
    directories), and never more than 257 — for every prefix, every suffix of at most 255 bytes and
    every string `name` -/
theorem fileName_len_255_partial {U : Char → Bool} {lower : Str → Str} {name pre suf p : Str}
    {accept : Nat → Str → Bool} (hs : utf8Len suf ≤ 255)
    (h : userNameToFileName U lower name pre suf accept = some p) :
    utf8Len p ≤ 257 ∧
    (accept 0 (lower (candidate U name pre suf 0)) = true ∨ suf = [] → Len255 p) := by
  obtain ⟨k, _, rfl, _, hrej⟩ := fileName_eq_some_iff.1 h
  -- `hs` is about `utf8Len` (specification), `candidate_len` asks for `usize` (model): they unfold to the same sum
  have hl := candidate_len U name pre k hs
  refine ⟨hl.1, fun hg => hl.2 (hg.imp_left fun hg => ?_)⟩
  -- an accepted first candidate is the result
  exact Nat.eq_zero_of_not_pos fun hk => Bool.false_ne_true ((hrej 0 hk).symm.trans hg)

/-- 250 × `a`, first candidate taken: the counter makes a 257-byte `.glif` name -/
theorem fileName_len_255_counterexample :
    ∃ p, userNameToFileName (fun _ => false) id (List.replicate 250 'a') [] glifSuffix
        (fun k _ => k == 1) = some p ∧ ValidName (List.replicate 250 'a') ∧ ¬ Len255 p := by
  refine ⟨List.replicate 250 'a' ++ ['0', '1'] ++ glifSuffix, ?_,
    ⟨by decide, fun c hc => (List.mem_replicate.1 hc).2 ▸ by decide⟩, by decide +kernel⟩
  -- evaluate the closed form: the accumulator loop of `escapeInto` is quadratic in the name
  rw [fileName_unfold]; decide +kernel

/-! ## source-level tie (DESIGN 3.5)

`Generated.FileNameConsts` is regenerated from `src/util.rs` of the checked tree on every run
(`tools/extract_filename_consts.py`).  The theorems below are therefore about what the code says
**now**: a changed constant, list entry, counter range or wrapper affix makes one of them fail (an
undischarged obligation), and the search then looks for the concrete name. -/

theorem source_consts_match_model :
    Generated.FileNameConsts.maxLen = maxLen ∧ Generated.FileNameConsts.numberLen = numberLen := by
  decide

/-- `SPECIAL_ILLEGAL` of the source and the model's list have the same members (the code only tests
    membership, so order and repetition are a harmless rewrite) -/
theorem source_illegal_matches_model :
    (∀ c ∈ Generated.FileNameConsts.illegal, c ∈ illegal) ∧
    (∀ c ∈ illegal, c ∈ Generated.FileNameConsts.illegal) := by decide +kernel

theorem source_reserved_matches_model :
    (∀ w ∈ Generated.FileNameConsts.reserved, w ∈ reserved) ∧
    (∀ w ∈ reserved, w ∈ Generated.FileNameConsts.reserved) := by decide +kernel

/-- the counter loop of the model (`tryCounters … 99 1`) is the source's range `1..100`: the whole
    function written with the extracted bounds -/
theorem source_counter_range (U : Char → Bool) (lower : Str → Str) (name pre suf : Str)
    (accept : Nat → Str → Bool) :
    userNameToFileName U lower name pre suf accept =
      if accept 0 (lower (body U name pre suf ++ suf)) then some (body U name pre suf ++ suf)
      else tryCounters lower accept (counterBase U name pre suf) suf
        (Generated.FileNameConsts.counterHi - Generated.FileNameConsts.counterLo)
        Generated.FileNameConsts.counterLo := by
  rw [fileName_unfold]; rfl

/-- every counter in the source's range has exactly `NUMBER_LEN` digits (`{:0>2}` never widens) -/
theorem source_counter_fits_number_len :
    1 ≤ Generated.FileNameConsts.counterLo ∧
    Generated.FileNameConsts.counterHi ≤ 10 ^ Generated.FileNameConsts.numberLen := by decide

/-- the affix pairs the two wrappers of the source pass are exactly the pairs the portability
    theorems (`Wrapper`) are about -/
theorem source_wrappers_are_covered :
    Generated.FileNameConsts.glyphAffixes = ([], glifSuffix) ∧
    Generated.FileNameConsts.layerAffixes = (layerPrefix, []) ∧
    Wrapper Generated.FileNameConsts.glyphAffixes.1 Generated.FileNameConsts.glyphAffixes.2 ∧
    Wrapper Generated.FileNameConsts.layerAffixes.1 Generated.FileNameConsts.layerAffixes.2 := by
  decide

/-- independent of the model: what the source bans / reserves covers the specification's tables, and
    the source's limit is at most the specification's 255 -/
theorem source_tables_cover_spec :
    (∀ c ∈ illegalChars, c ∈ Generated.FileNameConsts.illegal) ∧
    (∀ w ∈ deviceNames, w ∈ Generated.FileNameConsts.reserved) ∧
    Generated.FileNameConsts.maxLen ≤ 255 :=
  ⟨fun c hc => source_illegal_matches_model.2 c (illegalChars_sub c hc),
    reserved_eq ▸ source_reserved_matches_model.2, by decide⟩

/-- with the source's constants; the case "first candidate accepted" of `fileName_len_255_partial` is not restated -/
theorem source_fileName_len {U : Char → Bool} {lower : Str → Str} {name pre suf p : Str}
    {accept : Nat → Str → Bool} (hs : utf8Len suf ≤ Generated.FileNameConsts.maxLen)
    (h : userNameToFileName U lower name pre suf accept = some p) :
    utf8Len p ≤ Generated.FileNameConsts.maxLen + Generated.FileNameConsts.numberLen ∧
    (suf = [] → utf8Len p ≤ Generated.FileNameConsts.maxLen) := by
  have h1 := source_consts_match_model
  have := fileName_len_255_partial (by rw [h1.1] at hs; exact hs) h
  rw [h1.1, h1.2]
  exact ⟨this.1, fun hsuf => this.2 (Or.inr hsuf)⟩

/-! ## the translated source equals the model

`C07.Gen.*` (`Generated/FileNameFn.lean`) is the statement-by-statement translation of `src/util.rs` made by
`tools/extract_filename_consts.py` on every run.  Each section is proved equal, as a function, to the
corresponding block of the hand-written model; `source_userNameToFileName_eq_model` composes them, so every
theorem of this file is a theorem about the source as it stands. -/

theorem gen_illegal_mem (c : Char) : c ∈ Generated.FileNameConsts.illegal ↔ c ∈ illegal :=
  ⟨source_illegal_matches_model.1 c, source_illegal_matches_model.2 c⟩

theorem gen_reserved_mem (w : Str) : w ∈ Generated.FileNameConsts.reserved ↔ w ∈ reserved :=
  ⟨source_reserved_matches_model.1 w, source_reserved_matches_model.2 w⟩

theorem source_escChar_eq_model : Gen.escChar = escChar := by
  funext U b c
  unfold Gen.escChar escChar
  simp only [gen_illegal_mem]

theorem source_escapeInto_eq_model : Gen.escapeInto = escapeInto := by
  funext U acc name
  induction name generalizing acc with
  | nil => rfl
  | cons c cs ih => unfold Gen.escapeInto escapeInto; rw [source_escChar_eq_model, ih]

theorem source_insertReserved_eq_model : Gen.insertReserved = insertReserved := by
  funext r
  unfold Gen.insertReserved insertReserved
  simp only [gen_reserved_mem, show Gen.stem r = stem r from rfl,
    show Gen.insertAtByte r 0 '_' = '_' :: r by cases r <;> rfl]

theorem source_clip_eq_model : Gen.clip = fun _ suf r => clip suf r := by
  funext pre suf r
  unfold Gen.clip clip
  rw [source_consts_match_model.1]

theorem source_cutForCounter_eq_model : Gen.cutForCounter = fun _ suf r => cutForCounter r suf := by
  funext pre suf r
  unfold Gen.cutForCounter cutForCounter
  rw [source_consts_match_model.1, source_consts_match_model.2]

theorem gen_dotsp (c : Char) : ['.', ' '].contains c = isDotSp c := by
  rw [isDotSp, List.contains_cons, List.contains_cons, List.contains_nil, Bool.or_false]

/-- the `ends_with` guard of the source is redundant: without such a run the replacement changes nothing -/
theorem source_trailing_eq_model :
    Gen.trailing = fun _ suf r => if suf.isEmpty then fixTrailing r else r := by
  funext pre suf r
  have hf : Gen.fixTrailing r = fixTrailing r := by
    unfold Gen.fixTrailing fixTrailing
    rw [show (fun c => ['.', ' '].contains c) = isDotSp from funext gen_dotsp]
  unfold Gen.trailing
  rw [hf]
  cases suf.isEmpty with
  | false => simp
  | true =>
    cases he : Gen.endsWithAny r ['.', ' '] with
    | true => simp
    | false =>
      have : fixTrailing r = r := fixTrailing_eq_self fun x hx => by
        rw [Gen.endsWithAny, hx] at he
        exact (gen_dotsp x).symm.trans he
      simp [this]

/-- the `truncate` at the end of a try takes the counter off again -/
theorem truncateAt_append_sub (base mid suf : Str) :
    truncateAt (base ++ mid ++ suf) (usize (base ++ mid ++ suf) - usize suf - usize mid) = some base := by
  have : usize (base ++ mid ++ suf) - usize suf - usize mid = usize base := by
    simp only [usize_append]; omega
  rw [this, List.append_assoc]
  exact truncateAt_prefix _ _

theorem source_tryCounters_eq_model (U : Char → Bool) (lower : Str → Str) (accept : Nat → Str → Bool)
    (pre suf : Str) (fuel k : Nat) (base : Str) :
    Gen.tryCounters U lower accept pre suf fuel k base = tryCounters lower accept base suf fuel k := by
  induction fuel generalizing k with
  | zero => rfl
  | succ fuel ih =>
    unfold Gen.tryCounters tryCounters
    simp only
    split
    · rfl
    · rw [source_consts_match_model.2, show numberLen = usize (twoDigits k) from (twoDigits_usize k).symm,
        truncateAt_append_sub]
      exact ih (k + 1)

theorem source_userNameToFileName_eq_model : Gen.userNameToFileName = userNameToFileName := by
  funext U lower name pre suf accept
  unfold Gen.userNameToFileName userNameToFileName firstCandidate
  simp only [List.nil_append, source_escapeInto_eq_model, source_insertReserved_eq_model, source_clip_eq_model,
    source_trailing_eq_model, source_cutForCounter_eq_model]
  cases clip suf (insertReserved (escapeInto U pre name)) with
  | none => rfl
  | some r =>
    simp only
    generalize (if suf.isEmpty = true then fixTrailing r else r) ++ suf = c
    split
    · rfl
    · cases cutForCounter c suf with
      | none => rfl
      | some b => exact source_tryCounters_eq_model ..

theorem source_wrappers_eq_model : Gen.glyphFileName = glyphFileName ∧ Gen.layerDirName = layerDirName := by
  constructor <;> funext U lower name existing
  · unfold Gen.glyphFileName glyphFileName; rw [source_userNameToFileName_eq_model]; rfl
  · unfold Gen.layerDirName layerDirName; rw [source_userNameToFileName_eq_model]; rfl


theorem source_fileName_accepted_stateless {U : Char → Bool} {lower : Str → Str} {name pre suf p : Str}
    {ok : Str → Bool}
    (h : Gen.userNameToFileName U lower name pre suf (fun _ => ok) = some p) : ok (lower p) = true := by
  rw [source_userNameToFileName_eq_model] at h; exact fileName_accepted_stateless h

theorem source_fileName_eq_some_iff {U : Char → Bool} {lower : Str → Str} {name pre suf p : Str}
    {accept : Nat → Str → Bool} :
    Gen.userNameToFileName U lower name pre suf accept = some p ↔
      ∃ k, k ≤ 99 ∧ p = candidate U name pre suf k ∧ accept k (lower p) = true ∧
        ∀ j, j < k → accept j (lower (candidate U name pre suf j)) = false := by
  rw [source_userNameToFileName_eq_model]; exact fileName_eq_some_iff

/-- the glif wrapper of the source yields a portable single component for every valid glyph name -/
theorem source_glyphFileName_portable {U : Char → Bool} {lower : Str → Str} {name p : Str} {existing : List Str}
    (hU : ∀ c : Char, 'A'.toNat ≤ c.toNat ∧ c.toNat ≤ 'Z'.toNat → U c = true) (hv : ValidName name)
    (h : Gen.glyphFileName U lower name existing = some p) :
    SingleComponent p ∧ NoLeadingPeriod p ∧ NoTrailingPeriodOrSpace p ∧ NotReserved p ∧
      HasAffixes [] glifSuffix p ∧ existing.contains (lower p) = false := by
  rw [source_wrappers_eq_model.1] at h
  have hw : Wrapper [] glifSuffix := Or.inl ⟨rfl, rfl⟩
  refine ⟨fileName_single_component hw hv h, fileName_no_leading_period hw hv h,
    fileName_no_trailing_period_or_space (by decide) h, fileName_not_reserved hw hU h,
    fileName_affixes_partial hw (Or.inl rfl) h, ?_⟩
  have := fileName_accepted_stateless (ok := fun s => !existing.contains s) h
  simpa using this

example : Wrapper [] glifSuffix ∧ Wrapper layerPrefix [] := ⟨Or.inl ⟨rfl, rfl⟩, Or.inr ⟨rfl, rfl⟩⟩
example : ValidName ['A', '.', 'c', 'o', 'n'] := by decide
example : ¬ ValidName [] ∧ ¬ ValidName ['a', Char.ofNat 0x85] := by decide
/-- `A.con` → `A_.con.glif` -/
example : glyphFileName (fun c => c == 'A') id ['A', '.', 'c', 'o', 'n'] [] =
    some ['A', '_', '.', 'c', 'o', 'n', '.', 'g', 'l', 'i', 'f'] := by decide +kernel
/-- `con` → `_con.glif`, and with that taken (ignoring case) → `_con01.glif` -/
example : glyphFileName (fun _ => false) id ['c', 'o', 'n'] [['_', 'c', 'o', 'n', '.', 'g', 'l', 'i', 'f']] =
    some ['_', 'c', 'o', 'n', '0', '1', '.', 'g', 'l', 'i', 'f'] := by decide +kernel
/-- layer `.x ` → `glyphs..x_` -/
example : layerDirName (fun _ => false) id ['.', 'x', ' '] [] =
    some ['g', 'l', 'y', 'p', 'h', 's', '.', '.', 'x', '_'] := by decide +kernel
/-- the guard of `fileName_affixes_partial` holds for ordinary layer names and fails for `" "` -/
example : ∃ c cs, ['a', ' '] = c :: cs ∧ c ≠ '.' ∧ c ≠ ' ' := ⟨'a', [' '], rfl, by decide, by decide⟩
/-- the documented panic is reachable: a closure that rejects everything -/
example : userNameToFileName (fun _ => false) id ['a'] [] glifSuffix (fun _ _ => false) = none := by
  decide +kernel
/-- acceptance at the 99th counter, the last one -/
example : userNameToFileName (fun _ => false) id ['a'] [] glifSuffix (fun k _ => k == 99) =
    some ['a', '9', '9', '.', 'g', 'l', 'i', 'f'] := by decide +kernel
/-- the predicates are not trivially true -/
example : ¬ SingleComponent ['a', '/', 'b'] ∧ ¬ NoLeadingPeriod ['.', 'a'] ∧
    ¬ NoTrailingPeriodOrSpace ['a', ' '] ∧ ¬ NotReserved ['C', 'o', 'N', '.', 'x'] ∧
    ¬ HasAffixes [] glifSuffix ['a'] := by decide +kernel
/-- the back-off really backs off: index 2 inside `é` (bytes 1..2) goes to 1 -/
example : backoff ['a', 'é', 'b'] 2 = 1 ∧ truncateAt ['a', 'é', 'b'] 2 = none ∧
    truncateAt ['a', 'é', 'b'] 1 = some ['a'] := by decide

end C07
