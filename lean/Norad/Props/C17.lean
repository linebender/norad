import Norad.Model.FontLoad
import Norad.Lemmas.FontLoad
import Norad.Lemmas.Basic
import Norad.Generated.SaveOrder
import Norad.Generated.DataRequest
/-!
# C17 — a partial load equals the full load restricted to what was requested

Model: `FontLoad.loadImpl` (`Font::load_impl`, `LayerContents::load`, `Layer::load_impl`, `DataRequest`) over the
abstract file system, format-3 trees; specification: `FontLoad.restrict`.
-/
namespace C17
open AbsFS FontSave FontLoad

variable {β : Type}

/-- The layer part of the property: `finishLayers_filter` (Lemmas/FontLoad.lean) under the property's name. -/
theorem partial_layers_eq_restricted_full (r : Request) (ls full : List ALayer)
    (hfull : finishLayers Request.everything ls = .ok full)
    (hone : ∀ x ∈ full.tail, isDefaultLayer x = false) :
    finishLayers r (ls.filter fun l => shouldLoad r l.name l.dir) = .ok (restrictLayers r full) :=
  finishLayers_filter hfull hone

/-- whatever was requested, a successful load has the default layer, and has it first -/
theorem default_layer_always_present_and_first (P : Parser β) (fs : FS β) (t : APath) (r : Request)
    (f : AFont β) (h : loadImpl P fs t r = .ok f) :
    ∃ d rest, f.layers = d :: rest ∧ d.dir = glyphsDir := by
  obtain ⟨_, _, hl, _, _, _⟩ := loadImpl_ok h
  obtain ⟨_, _, ls, _, _, hfin⟩ := loadLayerSet_ok hl
  obtain ⟨a, d, b, _, h1, h2, _⟩ := finishLayers_ok hfin
  exact ⟨d, a ++ b, h1, by simpa [isDefaultLayer] using h2⟩

/-- with the default layer not selected the restricted font starts with the empty placeholder -/
theorem default_layer_empty_when_filtered_out (r : Request) (d : ALayer) (rest : List ALayer)
    (hd : isDefaultLayer d = true) (hrest : ∀ x ∈ rest, isDefaultLayer x = false)
    (hsel : shouldLoad r d.name d.dir = false) :
    restrictLayers r (d :: rest) = placeholder :: rest.filter (fun l => shouldLoad r l.name l.dir) := by
  have hinc := includesDefault_false_of_not_selected hd hsel
  have hany : (rest.filter fun l => shouldLoad r l.name l.dir).any isDefaultLayer = false :=
    any_false_of_forall fun x hx => hrest x (List.mem_filter.mp hx).1
  unfold restrictLayers
  simp [List.filter, hsel, hinc, hany]

/-- layer directories in `layercontents.plist` are plain names (what norad writes): the name the loaded layer
    keeps (`file_name()` of the joined path) is the string the filter saw -/
def PlainLayerDirs (P : Parser β) (fs : FS β) (t : APath) : Prop :=
  ∀ lc, readParsed fs (sub t "layercontents.plist") P.layercontents "layercontents.plist" = .ok lc →
    ∀ e ∈ lc, lastName (joinRel (tC t) (Path.parse e.2)) = some e.2

instance (P : Parser β) (fs : FS β) (t : APath) : Decidable (PlainLayerDirs P fs t) :=
  match h : readParsed fs (sub t "layercontents.plist") P.layercontents "layercontents.plist" with
  | .error _ => isTrue fun lc hlc => by rw [h] at hlc; cases hlc
  | .ok lc => decidable_of_iff (∀ e ∈ lc, lastName (joinRel (tC t) (Path.parse e.2)) = some e.2)
      ⟨fun H lc' h' => by rw [h] at h'; cases h'; exact H, fun H => H lc h⟩

/-- Format-3 trees.  If the full load of `t` succeeds with `f`, then the load with
    ANY request `r` — six switches, `all` / default-only / arbitrary custom layer predicate — succeeds too and
    yields exactly `restrict r f`: un-requested parts replaced by their empty defaults (without `lib` the
    guideline libs go as well), the selected layers in file order behind the default layer, the default layer
    replaced by the empty placeholder when it was filtered out, un-requested stores empty.
    Guards: one layer in `glyphs` (C06's invariant), plain layer directory names. -/
theorem partial_eq_restricted_full (P : Parser β) (fs : FS β) (t : APath) (r : Request) (f : AFont β)
    (hfull : loadImpl P fs t Request.everything = .ok f)
    (hone : ∀ x ∈ f.layers.tail, isDefaultLayer x = false)
    (hplain : PlainLayerDirs P fs t) :
    loadImpl P fs t r = .ok (restrict r f) := by
  obtain ⟨sc, hs, hl, hd, hi, hf⟩ := loadImpl_ok hfull
  unfold loadImpl
  rw [loadScalars_restrict r hs, loadLayerSet_restrict r hl hone hplain,
    guarded_of_true (stage := (loadStore · .data fs t)) rfl hd r.data,
    guarded_of_true (stage := (loadStore · .images fs t)) rfl hi r.images, hf]
  -- (`rfl`: switched off, `loadStore` returns the empty store.)  All four stages are `.ok` now: `simp only` reduces the
  -- matches of `loadImpl`, and `hf` has spelled `f` field by field, so that `restrict` reduces on it as well
  simp only [restrict, restrictScalars, stripLibs, emptyStore]

theorem partial_succeeds_if_full_does (P : Parser β) (fs : FS β) (t : APath) (r : Request) (f : AFont β)
    (hfull : loadImpl P fs t Request.everything = .ok f)
    (hone : ∀ x ∈ f.layers.tail, isDefaultLayer x = false) (hplain : PlainLayerDirs P fs t) :
    ∃ f', loadImpl P fs t r = .ok f' :=
  ⟨_, partial_eq_restricted_full P fs t r f hfull hone hplain⟩

def SameFile (fs₁ fs₂ : FS β) (cs : List Path.Comp) : Prop :=
  existsAt fs₁ cs = existsAt fs₂ cs ∧ readFile fs₁ cs = readFile fs₂ cs

/-- `fs₁` and `fs₂` agree on everything the request `r` makes the loader look at: the UFO directory itself,
    metainfo / fontinfo / layercontents (always read), the single files of the requested parts, the selected
    layers, the listing of the requested stores.  Nothing is assumed about lib / groups / kerning / features files,
    layer directories and store directories that were not requested: they may be corrupt, missing or different.
    For the selected layers and the requested stores the agreement is stated on what their loaders return, not file by
    file: the theorem says that un-selected layers and un-requested stores are not consulted. -/
structure AgreeOnReadSet (P : Parser β) (t : APath) (r : Request) (fs₁ fs₂ : FS β) : Prop where
  root : node fs₁ t = node fs₂ t
  metainfo : SameFile fs₁ fs₂ (sub t "metainfo.plist")
  fontinfo : SameFile fs₁ fs₂ (sub t "fontinfo.plist")
  layercontents : SameFile fs₁ fs₂ (sub t "layercontents.plist")
  lib : r.lib = true → SameFile fs₁ fs₂ (sub t "lib.plist")
  groups : r.groups = true → SameFile fs₁ fs₂ (sub t "groups.plist")
  kerning : r.kerning = true → SameFile fs₁ fs₂ (sub t "kerning.plist")
  features : r.features = true → SameFile fs₁ fs₂ (sub t "features.fea")
  layers : ∀ n d, shouldLoad r n d = true → loadLayer P fs₁ t n d = loadLayer P fs₂ t n d
  data : r.data = true → loadStore true .data fs₁ t = loadStore true .data fs₂ t
  images : r.images = true → loadStore true .images fs₁ t = loadStore true .images fs₂ t

theorem readParsed_same {α : Type} {fs₁ fs₂ : FS β} {cs} (h : SameFile fs₁ fs₂ cs) (parse : β → Option α) (name : String) :
    readParsed fs₁ cs parse name = readParsed fs₂ cs parse name := by
  unfold readParsed; rw [h.2]

theorem readOpt_same {α : Type} {fs₁ fs₂ : FS β} {cs} (sw : Bool) (h : sw = true → SameFile fs₁ fs₂ cs)
    (parse : β → Option α) (name : String) :
    readOpt sw fs₁ cs parse name = readOpt sw fs₂ cs parse name := by
  cases sw with
  | false => simp [readOpt]
  | true => unfold readOpt; rw [(h rfl).1, readParsed_same (h rfl)]

theorem loadLayers_same {P : Parser β} {t : APath} {r : Request} {fs₁ fs₂ : FS β}
    (h : ∀ n d, shouldLoad r n d = true → loadLayer P fs₁ t n d = loadLayer P fs₂ t n d) :
    ∀ lc, loadLayers P fs₁ t r lc = loadLayers P fs₂ t r lc := by
  intro lc
  induction lc with
  | nil => rfl
  | cons e rest ih =>
    obtain ⟨n, d⟩ := e
    unfold loadLayers
    by_cases hs : shouldLoad r n d = true
    · simp only [hs, if_true, h n d hs, ih]
    · simp only [hs, Bool.false_eq_true, if_false, ih]

theorem loadStore_same {kind : StoreKind} {t : APath} {fs₁ fs₂ : FS β} (sw : Bool)
    (h : sw = true → loadStore true kind fs₁ t = loadStore true kind fs₂ t) :
    loadStore sw kind fs₁ t = loadStore sw kind fs₂ t := by
  cases sw with
  | false => simp [loadStore]
  | true => exact h rfl

/-- The load gives the same result — the same font or the same error — on any two
    file systems that agree on the read set of the request.  Corrupting, removing or adding anything else (the files
    of un-requested parts, un-selected layer directories, un-requested store directories) cannot matter. -/
theorem unrequested_files_not_read (P : Parser β) (t : APath) (r : Request) (fs₁ fs₂ : FS β)
    (h : AgreeOnReadSet P t r fs₁ fs₂) : loadImpl P fs₁ t r = loadImpl P fs₂ t r := by
  have hsc : loadScalars P fs₁ t r = loadScalars P fs₂ t r := by
    unfold loadScalars libStage groupsStage tokStage
    -- every `existsAt` / `readFile` of `fs₁`, in the order in which `loadScalars` asks; each `rw` takes all occurrences
    rw [h.root, h.metainfo.1, readParsed_same h.metainfo, readOpt_same r.lib h.lib,
      readOpt_same true (fun _ => h.fontinfo), readOpt_same r.groups h.groups,
      readOpt_same r.kerning h.kerning, readOpt_same r.features h.features]
  have hls : loadLayerSet P fs₁ t r = loadLayerSet P fs₂ t r := by
    unfold loadLayerSet
    simp only
    rw [h.layercontents.1, readParsed_same h.layercontents]
    cases readParsed fs₂ (sub t "layercontents.plist") P.layercontents "layercontents.plist" with
    | error e => rfl
    | ok lc => simp only [loadLayers_same h.layers lc]
  unfold loadImpl
  rw [hsc, hls, loadStore_same r.data h.data, loadStore_same r.images h.images]

/-- the agreement relation is reflexive (so the hypothesis is satisfiable), and for the empty request it does not
    mention a single optional file, layer directory or store directory -/
theorem agreeOnReadSet_refl (P : Parser β) (t : APath) (r : Request) (fs : FS β) : AgreeOnReadSet P t r fs fs :=
  ⟨rfl, ⟨rfl, rfl⟩, ⟨rfl, rfl⟩, ⟨rfl, rfl⟩, fun _ => ⟨rfl, rfl⟩, fun _ => ⟨rfl, rfl⟩, fun _ => ⟨rfl, rfl⟩,
   fun _ => ⟨rfl, rfl⟩, fun _ _ _ => rfl, fun _ => rfl, fun _ => rfl⟩

def nothing : Request :=
  { lib := false, groups := false, kerning := false, features := false, data := false, images := false,
    all := false, loadDefault := false, custom := none }

example (P : Parser β) (t : APath) (fs₁ fs₂ : FS β)
    (hroot : node fs₁ t = node fs₂ t) (hm : SameFile fs₁ fs₂ (sub t "metainfo.plist"))
    (hi : SameFile fs₁ fs₂ (sub t "fontinfo.plist")) (hl : SameFile fs₁ fs₂ (sub t "layercontents.plist")) :
    loadImpl P fs₁ t nothing = loadImpl P fs₂ t nothing :=
  unrequested_files_not_read P t nothing fs₁ fs₂
    ⟨hroot, hm, hi, hl, fun h => (by cases h), fun h => (by cases h), fun h => (by cases h), fun h => (by cases h),
     fun n d h => (by simp [shouldLoad, nothing] at h), fun h => (by cases h), fun h => (by cases h)⟩

def P0 : Parser Nat where
  metainfo _ := some (3, 1)
  lib _ := none
  fontinfo _ := none
  groups _ := some (2, true)
  kerning _ := none
  features _ := none
  layercontents _ := some [("bg".toList, "glyphs.bg".toList), ("public.default".toList, "glyphs".toList)]
  contents _ := some []
  layerinfo _ := none
  glif _ := none

def fs0 : FS Nat :=
  [(["t".toList], .dir), (["t".toList, "metainfo.plist".toList], .file 0),
   (["t".toList, "groups.plist".toList], .file 0),
   (["t".toList, "layercontents.plist".toList], .file 0),
   (["t".toList, "glyphs".toList], .dir), (["t".toList, "glyphs".toList, "contents.plist".toList], .file 0),
   (["t".toList, "glyphs.bg".toList], .dir), (["t".toList, "glyphs.bg".toList, "contents.plist".toList], .file 0)]

def bgOnly : Request :=
  { lib := false, groups := false, kerning := false, features := false, data := false, images := false,
    all := false, loadDefault := false, custom := some fun n _ => n == "bg".toList }

/-- the hypotheses are satisfiable, and the conclusion is what one expects: groups gone, the background layer kept,
    the default layer replaced by the placeholder in front -/
example : ∃ f, loadImpl P0 fs0 ["t".toList] Request.everything = .ok f ∧
    (∀ x ∈ f.layers.tail, isDefaultLayer x = false) ∧ PlainLayerDirs P0 fs0 ["t".toList] ∧
    f.groups = 2 ∧ (restrict bgOnly f).groups = 0 ∧
    (restrict bgOnly f).layers.map (·.name) = ["public.default".toList, "bg".toList] :=
  Except.exists_ok (by decide +kernel)

/-! ### `none().filter_layers(|_,_| true)` on a two-layer font: the model puts the default layer first -/

def l0 : ALayer := { name := "public.default".toList, dir := "glyphs".toList, info := 0, entries := [] }
def l1 : ALayer := { name := "bg".toList, dir := "glyphs.bg".toList, info := 0, entries := [] }
def alwaysTrue : Request :=
  { lib := false, groups := false, kerning := false, features := false, data := false, images := false,
    all := false, loadDefault := false, custom := some fun _ _ => true }

example : finishLayers alwaysTrue ([l1, l0].filter fun l => shouldLoad alwaysTrue l.name l.dir) = .ok [l0, l1] := by
  rfl

example : finishLayers Request.everything [l1, l0] = .ok [l0, l1] := by rfl

/-! ### builder-call sequences: `Req.apply`, the documented meaning of each `DataRequest` call applied in order

The driver recomputes the request of every `seq=` recipe with `Req.apply` and disagrees when the harness's own
interpreter reports another one, so the expectation of the C17 oracle is this definition. -/

theorem apply_snoc (cs : List Call) (c : Call) : Req.apply (cs ++ [c]) = (Req.apply cs).step c := by
  simp [Req.apply, List.foldl_append]

/-- `all()` and `none()` reset everything, whatever came before -/
theorem all_none_reset (cs : List Call) :
    Req.apply (cs ++ [Call.all]) = Request.everything ∧ Req.apply (cs ++ [Call.none]) = Request.nothing := by
  simp [apply_snoc, Request.step]

theorem getPart_setPart (r : Request) (s s' : PartSwitch) (b : Bool) :
    (r.setPart s b).getPart s' = if s' = s then b else r.getPart s' := by
  cases s <;> cases s' <;> rfl

theorem part_call_touches_only_its_switch (r : Request) (s : PartSwitch) (b : Bool) :
    (r.step (.part s b)).all = r.all ∧ (r.step (.part s b)).loadDefault = r.loadDefault ∧
    (r.step (.part s b)).custom = r.custom ∧ ∀ s', s' ≠ s → (r.step (.part s b)).getPart s' = r.getPart s' := by
  refine ⟨?_, ?_, ?_, ?_⟩
  · cases s <;> rfl
  · cases s <;> rfl
  · cases s <;> rfl
  · intro s' h; simp [Request.step, getPart_setPart, h]

/-- calls that neither reset nor set the switch `s` -/
def leaves (s : PartSwitch) : Call → Bool
  | .all => false
  | .none => false
  | .part s' _ => s' != s
  | _ => true

theorem step_leaves (r : Request) (s : PartSwitch) (c : Call) (hc : leaves s c = true) :
    (r.step c).getPart s = r.getPart s := by
  cases c with
  | all | none => cases hc
  | part s' b' =>
    rw [Request.step, getPart_setPart, if_neg]
    rintro rfl
    simp [leaves] at hc
  | _ => cases s <;> rfl

theorem foldl_leaves (s : PartSwitch) (cs : List Call) (r : Request) (h : ∀ c ∈ cs, leaves s c = true) :
    (cs.foldl Request.step r).getPart s = r.getPart s := by
  induction cs generalizing r with
  | nil => rfl
  | cons c rest ih =>
    rw [List.forall_mem_cons] at h
    rw [List.foldl_cons, ih _ h.2, step_leaves r s c h.1]

/-- **the later call wins, per switch**: after `part s b`, calls that neither reset nor set `s` leave it at `b` -/
theorem later_call_wins (cs1 cs2 : List Call) (s : PartSwitch) (b : Bool)
    (h : ∀ c ∈ cs2, leaves s c = true) :
    (Req.apply (cs1 ++ [Call.part s b] ++ cs2)).getPart s = b := by
  unfold Req.apply
  rw [List.foldl_append, foldl_leaves s cs2 _ h, List.foldl_append]
  simp [Request.step, getPart_setPart]

theorem apply_snoc2 (cs : List Call) (a b : Call) :
    Req.apply (cs ++ [a, b]) = ((Req.apply cs).step a).step b := by
  rw [show cs ++ [a, b] = cs ++ [a] ++ [b] by simp, apply_snoc, apply_snoc]

/-- **`filter_layers(p)` then `default_layer(b)` keeps the predicate** (and the other order keeps the default flag):
    the two calls only agree on switching "all layers" off -/
theorem filter_then_default_keeps_predicate (cs : List Call) (tag : Char) (p : Str → Str → Bool) (b : Bool) :
    (Req.apply (cs ++ [Call.filter tag p, Call.defaultLayer b])).custom = some p ∧
    (Req.apply (cs ++ [Call.filter tag p, Call.defaultLayer b])).loadDefault = b ∧
    (Req.apply (cs ++ [Call.filter tag p, Call.defaultLayer b])).all = false ∧
    (Req.apply (cs ++ [Call.defaultLayer b, Call.filter tag p])).custom = some p ∧
    (Req.apply (cs ++ [Call.defaultLayer b, Call.filter tag p])).loadDefault = b ∧
    (Req.apply (cs ++ [Call.defaultLayer b, Call.filter tag p])).all = false := by
  simp [apply_snoc2, Request.step]

/-- `layers(true)` after a filter selects every layer again without removing the predicate -/
theorem layers_after_filter (cs : List Call) (tag : Char) (p : Str → Str → Bool) (n d : Str) :
    shouldLoad (Req.apply (cs ++ [Call.filter tag p, Call.layers true])) n d = true ∧
    (Req.apply (cs ++ [Call.filter tag p, Call.layers true])).custom = some p := by
  simp [apply_snoc2, Request.step, shouldLoad]

theorem call_idempotent (r : Request) (c : Call) : (r.step c).step c = r.step c := by
  cases c with
  | part s b => cases s <;> rfl
  | _ => rfl

/-! ### source-level tie: which request switch guards which file in `Font::load_impl`, as the code says it NOW

`Generated.SaveOrder.loadSwitches` is regenerated from `src/font.rs` on every run.  The model's own table is not
written down: it is MEASURED on `loadImpl` — switch `s` guards file `c` iff corrupting `c` (and nothing else) makes
the load with only `s` requested fail. -/

namespace Source

def switchNames : List String := ["data", "features", "groups", "images", "kerning", "lib"]
def guarded : List String := ["data", "features.fea", "groups.plist", "images", "kerning.plist", "lib.plist"]

def probeParser : Parser Nat where
  metainfo _ := some (3, 1)
  lib b := if b = 9 then none else some (some [])
  fontinfo _ := none
  groups b := if b = 9 then none else some (1, true)
  kerning b := if b = 9 then none else some 1
  features b := if b = 9 then none else some 1
  layercontents _ := some [("public.default".toList, "glyphs".toList)]
  contents _ := some []
  layerinfo _ := none
  glif _ := none

/-- a complete small UFO in which exactly `corrupt` is unusable: a single file gets unparsable bytes, `data` is a plain
    file instead of a directory, `images` holds a sub-directory -/
def probeTree (corrupt : String) : FS Nat :=
  let top (name : String) : APath × Node Nat := (["t".toList, name.toList], .file (if corrupt = name then 9 else 0))
  [(["t".toList], .dir), top "metainfo.plist", top "layercontents.plist", (["t".toList, "glyphs".toList], .dir),
   (["t".toList, "glyphs".toList, "contents.plist".toList], .file 0),
   top "lib.plist", top "groups.plist", top "kerning.plist", top "features.fea",
   (["t".toList, "data".toList], if corrupt = "data" then .file 0 else .dir),
   (["t".toList, "images".toList], .dir)] ++
  (if corrupt = "images" then [(["t".toList, "images".toList, "sub".toList], .dir)] else [])

def onlySwitch (s : String) : Request :=
  { lib := s = "lib", groups := s = "groups", kerning := s = "kerning", features := s = "features",
    data := s = "data", images := s = "images", all := false, loadDefault := false, custom := none }

def loads (s c : String) : Bool :=
  match loadImpl probeParser (probeTree c) ["t".toList] (onlySwitch s) with
  | .ok _ => true
  | .error _ => false

/-- the switch → file table of the model, measured -/
def modelSwitches : List (List Char × List Char) :=
  switchNames.flatMap fun s => (guarded.filter fun c => !loads s c).map fun c => (s.toList, c.toList)

end Source

open Source Generated.SaveOrder in
/-- **The switch wiring of the source is the one of the model**: the extracted `request.<switch>` → file table equals
    the table measured on `loadImpl` (and the intact probe tree loads under every single-switch request, so each
    failure is due to the corrupted file). -/
theorem source_switches_match_model :
    loadSwitches = modelSwitches ∧ (switchNames.all fun s => loads s "") = true := by
  decide +kernel

/-! ### source-level tie: `DataRequest` / `LayerFilter` method by method, as the code says it NOW

`Generated.DataRequest` is regenerated from `src/data_request.rs` on every run by a translator (tools/
extract_data_request.py): the two structs with their Rust field names and every method of the two types, assignment by
assignment.  `toModel` reads the regenerated record as the model's `Request`; the theorems say that every builder call,
`should_load` and `includes_default_layer` of the regenerated code ARE `Request.step`, `shouldLoad`, `includesDefault` -
so every theorem above that quantifies over `r : Request` or over `Req.apply cs` is a theorem about the regenerated
code.  How `std::path::Path` compares (`path == Path::new("glyphs")`) is the parameter `pathEq`, instantiated with
equality of the component form (validated by the stream `C16path`). -/

namespace Source
open Generated.DataRequest

/-- the regenerated `DataRequest` (with its `LayerFilter`) read as the model's `Request` -/
def toModel (g : DataRequest) : Request :=
  { lib := g.lib, groups := g.groups, kerning := g.kerning, features := g.features, data := g.data,
    images := g.images, all := g.layers.all, loadDefault := g.layers.load_default, custom := g.layers.custom }

def genPart (g : DataRequest) : PartSwitch → Bool → DataRequest
  | .lib, b => DataRequest_lib g b
  | .groups, b => DataRequest_groups g b
  | .kerning, b => DataRequest_kerning g b
  | .features, b => DataRequest_features g b
  | .data, b => DataRequest_data g b
  | .images, b => DataRequest_images g b

def genStep (g : DataRequest) : Call → DataRequest
  | .all => DataRequest_all
  | .none => DataRequest_none
  | .layers b => DataRequest_layers g b
  | .defaultLayer b => DataRequest_default_layer g b
  | .filter _ p => DataRequest_filter_layers g p
  | .part s b => genPart g s b

/-- a chain of builder calls on the regenerated code (as `Req.apply`: it starts from `none()`, a leading `all()` /
    `none()` replaces that) -/
def genApply (cs : List Call) : DataRequest := cs.foldl genStep DataRequest_none

/-- `Path == Path`: equality of the component form -/
def pathEq (a b : Str) : Bool := Path.parse a == Path.parse b

/-- the public constructors and builder methods the model's `Call` type knows -/
def knownBuilders : List String :=
  ["all", "data", "default", "default_layer", "features", "filter_layers", "groups", "images", "kerning", "layers",
   "lib", "none"]

theorem genStep_eq_model (g : DataRequest) (c : Call) : toModel (genStep g c) = (toModel g).step c := by
  cases c with
  | part s b => cases s <;> rfl
  | _ => rfl

theorem genFold_eq_model : ∀ (cs : List Call) (g : DataRequest),
    toModel (cs.foldl genStep g) = cs.foldl Request.step (toModel g) := by
  intro cs
  induction cs with
  | nil => intro g; rfl
  | cons c r ih => intro g; simp only [List.foldl_cons]; rw [ih, genStep_eq_model]

end Source

open Source Generated.DataRequest in
/-- **The builder methods of the source are the model's `Request.step`**: the three constructors give the model's
    `everything` / `nothing`; every builder call executed by the regenerated method equals the model's step on the
    same request (all requests, all calls, any predicate); hence every chain of calls builds the request `Req.apply`
    computes; and the public methods of `DataRequest` that return a request are exactly the calls the model knows
    (a new builder would be a call no theorem speaks about). -/
theorem source_request_builders_eq_model :
    toModel DataRequest_all = Request.everything ∧ toModel DataRequest_default = Request.everything ∧
    toModel DataRequest_none = Request.nothing ∧
    (∀ (g : DataRequest) (c : Call), toModel (genStep g c) = (toModel g).step c) ∧
    (∀ cs : List Call, toModel (genApply cs) = Req.apply cs) ∧
    publicBuilders = knownBuilders :=
  ⟨rfl, rfl, rfl, genStep_eq_model, fun cs => genFold_eq_model cs DataRequest_none, rfl⟩

open Source Generated.DataRequest in
/-- **`LayerFilter::should_load` and `includes_default_layer` of the source are the model's**: clause by clause
    (`all`, the default-layer clause `load_default && path == "glyphs"`, the custom predicate with `false` when there is
    none), for every request, layer name and directory. -/
theorem source_layer_filter_eq_model (g : DataRequest) (name dir : Str) :
    LayerFilter_should_load pathEq g.layers name dir = shouldLoad (toModel g) name dir ∧
    LayerFilter_includes_default_layer g.layers = includesDefault (toModel g) := by
  refine ⟨?_, rfl⟩
  unfold LayerFilter_should_load shouldLoad toModel
  cases g.layers.custom <;> rfl

open Source Generated.DataRequest in
/-- **`partial_eq_restricted_full` for the requests the regenerated builders build**: whatever chain of builder calls
    produced the request, the partial load is the full load restricted to it, and the layers it selects are those the
    regenerated `should_load` selects. -/
theorem source_partial_eq_restricted_full (P : Parser β) (fs : FS β) (t : APath) (cs : List Call) (f : AFont β)
    (hfull : loadImpl P fs t Request.everything = .ok f)
    (hone : ∀ x ∈ f.layers.tail, isDefaultLayer x = false)
    (hplain : PlainLayerDirs P fs t) :
    loadImpl P fs t (toModel (genApply cs)) = .ok (restrict (toModel (genApply cs)) f) ∧
    ∀ n d, shouldLoad (toModel (genApply cs)) n d = LayerFilter_should_load pathEq (genApply cs).layers n d :=
  ⟨partial_eq_restricted_full P fs t _ f hfull hone hplain,
   fun n d => ((source_layer_filter_eq_model (genApply cs) n d).1).symm⟩

open Source Generated.DataRequest in
/-- non-vacuity: the regenerated code computes - `none().lib(true).default_layer(true)` asks for the lib and selects
    `glyphs` (also spelled `glyphs/`) and nothing else; a filter after `all()` switches "all layers" off -/
example :
    (toModel (genApply [.none, .part .lib true, .defaultLayer true])).lib = true ∧
    LayerFilter_should_load pathEq (genApply [.none, .defaultLayer true]).layers "x".toList "glyphs/".toList = true ∧
    LayerFilter_should_load pathEq (genApply [.none, .defaultLayer true]).layers "x".toList "glyphs.bg".toList = false ∧
    LayerFilter_should_load pathEq (genApply [.all, .filter 'n' fun n _ => n == "bg".toList]).layers "fg".toList
      "glyphs.fg".toList = false ∧
    LayerFilter_should_load pathEq (genApply [.all, .filter 'n' fun n _ => n == "bg".toList]).layers "bg".toList
      "glyphs.bg".toList = true := by
  decide +kernel

end C17
