import Norad.Lemmas.C12
import Norad.Lemmas.GlifTables
import Norad.Lemmas.GlifAttrs
import Norad.Generated.GlifParser
import Norad.Lemmas.C02
import Norad.Lemmas.GlifGen
import Norad.Lemmas.GlifGenV1
import Norad.Props.C11
/-!
# C12 — glif documents breaking the structure rules are rejected, legal ones accepted

`parseGlif rd evs` is the transcription of `GlifParser::from_xml` over the
quick-xml event list (`Model/Glif.lean`); `rd` is Rust's float parser.  The rejection rules are stated
at the level of one parser state — `s` is *any* state, so a rule holds at every position of every
document — and lifted to documents by `Reach`/`run_of_reach` (`Lemmas/GlifStep.lean`): if the events before a
position are consumed successfully and end in `s`, the parse of the whole list continues from `s`.
The link to `Spec.judge` is `Props/C12Converse.lean`.
-/
namespace Glif
variable (rd : Str → Option Nat)

/-- **`advance`, `outline`, `lib`, `image`, `note`: at most once each** (this theorem and the five after it).  `parse_body`:
    once the flag of `advance` is set, a further `<advance/>` is `DuplicateElement` -/
theorem advance_dup {s : PS} (hm : s.mode = .body) (hf : s.seenAdvance = true) (a) :
    step rd s (.empty sAdvance a) = .error (.duplicateElement "advance") := by
  rw [step_empty hm, bodyEmpty_advance, if_pos hf]

/-- an `advance` that is read sets that flag -/
theorem advance_sets {s s' : PS} (hm : s.mode = .body) {a} (h : step rd s (.empty sAdvance a) = .ok (.inl s')) :
    s'.seenAdvance = true ∧ s'.mode = .body := by
  rw [step_empty hm, bodyEmpty_advance] at h
  split at h
  · cases h
  · obtain ⟨_, _, _, _, e⟩ := elemArm_ok h
    cases e
    exact ⟨rfl, hm⟩

/-- the flag of `outline`, in both spellings of the element -/
theorem outline_dup {s : PS} (hm : s.mode = .body) (hf : s.seenOutline = true) (a) :
    step rd s (.start sOutline a) = .error (.duplicateElement "outline") ∧
    step rd s (.empty sOutline a) = .error (.duplicateElement "outline") := by
  exact ⟨by rw [step_start_outline hm, if_pos hf], by rw [step_empty hm, bodyEmpty_outline, if_pos hf]⟩

/-- the flag of `lib` -/
theorem lib_dup {s : PS} (hm : s.mode = .body) (hf : s.seenLib = true) (a v) :
    step rd s (.startLib a v) = .error (.duplicateElement "lib") := by
  rw [step_startLib hm, if_pos hf]

/-- `image` has no flag: it is refused once the glyph has an image (in format 1 as a format-2 element, hence `∃ k`) -/
theorem image_dup {s : PS} (hm : s.mode = .body) (hf : s.g.image.isSome = true) (a) :
    ∃ k, step rd s (.empty sImage a) = .error k := by
  rw [step_empty hm, bodyEmpty_image, hf]
  split <;> exact ⟨_, rfl⟩

/-- `note` likewise: refused once the glyph has a note text -/
theorem note_dup {s : PS} (hm : s.mode = .body) (hf : s.g.note.isSome = true) (a) :
    ∃ k, step rd s (.start sNote a) = .error k := by
  rw [step_start hm, bodyStart_note, hf]
  split <;> exact ⟨_, rfl⟩

theorem aKeyOf_x : aKeyOf ['x'] = some .x := aKeyNames.of_name .x
theorem aKeyOf_y : aKeyOf ['y'] = some .y := aKeyNames.of_name .y
theorem pKeyOf_x : pKeyOf ['x'] = some .x := pKeyNames.of_name .x
theorem pKeyOf_y : pKeyOf ['y'] = some .y := pKeyNames.of_name .y
theorem guKeyOf_x : guKeyOf ['x'] = some .x := guKeyNames.of_name .x
theorem guKeyOf_y : guKeyOf ['y'] = some .y := guKeyNames.of_name .y
theorem guKeyOf_angle : guKeyOf ['a', 'n', 'g', 'l', 'e'] = some .angle := guKeyNames.of_name .angle

/-- version gating per element: the three format-2 elements and `note` in a format-1 glyph -/
theorem v1_elements_rejected {s : PS} (hm : s.mode = .body) (hv : s.ver = 1) (a) :
    step rd s (.empty sAnchor a) = .error (.unexpectedV1Element "anchor") ∧
    step rd s (.empty sGuideline a) = .error (.unexpectedV1Element "guideline") ∧
    step rd s (.empty sImage a) = .error (.unexpectedV1Element "image") ∧
    step rd s (.start sNote a) = .error (.unexpectedV1Element "note") := by
  exact ⟨by rw [step_empty hm, bodyEmpty_anchor, if_pos hv], by rw [step_empty hm, bodyEmpty_guideline, if_pos hv],
    by rw [step_empty hm, bodyEmpty_image, if_pos hv], by rw [step_start hm, bodyStart_note, if_pos hv]⟩

theorem uniStep_other (cps : List Nat) (a : Attr) (h : a.1 ≠ sHex) : uniStep cps a = none := by simp [uniStep, h]

theorem ctStep_other (ver : Nat) (seen : List Str) (acc : Option Str) (a : Attr) (h : a.1 ≠ sIdentifier) :
    ctStep ver seen acc a = none := by simp [ctStep, h]

/- The refusals inside one element.  Every element parser but two is the collection of its attributes followed by a view
   (`parseX_view`), and the collection stops at an attribute it does not take (`collect_none_of_mem`): a name without a key
   (`untaken_of_none`) or, under the name of a key, a value the reader of the key refuses (`untaken_of_name`).  `unicode` and
   the `contour` start tag have one name each and are followed directly (`foldAttrs_none_of_mem`). -/

/-- **identifiers are valid, new, and absent in format 1**: an `identifier` that `readIdent` refuses makes the parser of each
    of the five kinds that take one fail -/
theorem ident_refused {ver : Nat} {seen : List Str} {v : Str} (h : readIdent ver seen v = none)
    {as : List Attr} (hm : (sIdentifier, v) ∈ as) :
    parseAnchor rd ver seen as = none ∧ parseGuideline rd ver seen as = none ∧
    parsePoint rd ver seen as = none ∧ parseComponent rd ver seen as = none ∧
    parseContourAttrs ver seen as = none := by
  have hr : readable rd ver seen .ident v = false := by rw [readable, h]; rfl
  refine ⟨?_, ?_, ?_, ?_, ?_⟩
  · rw [parseAnchor_view, collect_none_of_mem hm (untaken_of_name aKeyNames (k0 := .ident) hr)]; rfl
  · rw [parseGuideline_view, collect_none_of_mem hm (untaken_of_name guKeyNames (k0 := .ident) hr)]; rfl
  · rw [parsePoint_view, collect_none_of_mem hm (untaken_of_name pKeyNames (k0 := .ident) hr)]; rfl
  · rw [parseComponent_view, collect_none_of_mem hm (untaken_of_name cKeyNames (k0 := .ident) hr)]; rfl
  · exact foldAttrs_none_of_mem _ _ (fun acc => by by_cases hv : ver = 1 <;> simp [ctStep, h, hv]) as _ hm

/-- **no unknown attributes**: a name without a key makes the element's parser fail -/
theorem unknown_attr_refused (ver : Nat) (seen : List Str) (cps : List Nat) {as : List Attr} {a : Attr} (hm : a ∈ as) :
    (advKeyOf a.1 = none → parseAdvance rd as = none) ∧
    (a.1 ≠ sHex → parseUnicode cps as = none) ∧
    (aKeyOf a.1 = none → parseAnchor rd ver seen as = none) ∧
    (guKeyOf a.1 = none → parseGuideline rd ver seen as = none) ∧
    (iKeyOf a.1 = none → parseImage rd as = none) ∧
    (pKeyOf a.1 = none → parsePoint rd ver seen as = none) ∧
    (cKeyOf a.1 = none → parseComponent rd ver seen as = none) ∧
    (a.1 ≠ sIdentifier → parseContourAttrs ver seen as = none) ∧
    (gKeyOf a.1 = none → foldAttrs gStep {} as = none) := by
  refine ⟨fun h => ?_, fun h => ?_, fun h => ?_, fun h => ?_, fun h => ?_, fun h => ?_, fun h => ?_, fun h => ?_, fun h => ?_⟩
  · rw [parseAdvance_view ver seen, collect_none_of_mem hm (untaken_of_none h)]; rfl
  · exact foldAttrs_none_of_mem _ a (fun acc => uniStep_other acc a h) as _ hm
  · rw [parseAnchor_view, collect_none_of_mem hm (untaken_of_none h)]; rfl
  · rw [parseGuideline_view, collect_none_of_mem hm (untaken_of_none h)]; rfl
  · rw [parseImage_view ver seen, collect_none_of_mem hm (untaken_of_none h)]; rfl
  · rw [parsePoint_view, collect_none_of_mem hm (untaken_of_none h)]; rfl
  · rw [parseComponent_view, collect_none_of_mem hm (untaken_of_none h)]; rfl
  · exact foldAttrs_none_of_mem _ a (fun acc => ctStep_other ver seen acc a h) as _ hm
  · rw [gFold_view, collect_none_of_mem hm (untaken_of_none h)]; rfl

/-- **numbers are numbers**: a numeric attribute whose value Rust's float parser refuses makes the element's parser fail -/
theorem bad_number_refused (ver : Nat) (seen : List Str) {as : List Attr} {k v : Str} (hm : (k, v) ∈ as)
    (hv : rd v = none) :
    (advKeyOf k ≠ none → parseAdvance rd as = none) ∧
    ((k = "x".toList ∨ k = "y".toList) → parseAnchor rd ver seen as = none ∧ parsePoint rd ver seen as = none) ∧
    ((k = "x".toList ∨ k = "y".toList ∨ k = "angle".toList) → parseGuideline rd ver seen as = none) ∧
    (tKeyOf k ≠ none → parseImage rd as = none ∧ parseComponent rd ver seen as = none) := by
  -- in each case the key under the name `k` is of kind `num` (`angle`: the reader is `rd` again, then the range test)
  have hn : readable rd ver seen .num v = false := by rw [readable, hv]; rfl
  have ha : readable rd ver seen .angle v = false := by rw [readable, hv]
  refine ⟨fun _ => ?_, fun h => ⟨?_, ?_⟩, fun h => ?_, fun h => ?_⟩
  · rw [parseAdvance_view ver seen, collect_none_of_mem hm fun _ _ => hn]; rfl
  · rw [parseAnchor_view]
    rcases h with rfl | rfl
    · rw [collect_none_of_mem hm (untaken_of_name aKeyNames (k0 := .x) hn)]; rfl
    · rw [collect_none_of_mem hm (untaken_of_name aKeyNames (k0 := .y) hn)]; rfl
  · rw [parsePoint_view]
    rcases h with rfl | rfl
    · rw [collect_none_of_mem hm (untaken_of_name pKeyNames (k0 := .x) hn)]; rfl
    · rw [collect_none_of_mem hm (untaken_of_name pKeyNames (k0 := .y) hn)]; rfl
  · rw [parseGuideline_view]
    rcases h with rfl | rfl | rfl
    · rw [collect_none_of_mem hm (untaken_of_name guKeyNames (k0 := .x) hn)]; rfl
    · rw [collect_none_of_mem hm (untaken_of_name guKeyNames (k0 := .y) hn)]; rfl
    · rw [collect_none_of_mem hm (untaken_of_name guKeyNames (k0 := .angle) ha)]; rfl
  · -- a transform name is looked up first by `image` and by `component`
    obtain ⟨kk, hk⟩ := Option.ne_none_iff_exists'.1 h
    constructor
    · rw [parseImage_view ver seen, collect_none_of_mem hm fun k' hk' => by
        simp only [iKeyOf, hk] at hk'; cases hk'; exact hn]; rfl
    · rw [parseComponent_view, collect_none_of_mem hm fun k' hk' => by
        simp only [cKeyOf, hk] at hk'; cases hk'; exact hn]; rfl

/-- **the angle of a guideline lies in `[0, 360]`** -/
theorem bad_angle_refused (ver : Nat) (seen : List Str) {as : List Attr} {v : Str} {b : Nat}
    (hm : ("angle".toList, v) ∈ as) (hv : rd v = some b) (hb : angleOk b = false) :
    parseGuideline rd ver seen as = none := by
  rw [parseGuideline_view, collect_none_of_mem hm (untaken_of_name guKeyNames (k0 := .angle) (by
    rw [readableBy, guKind, readable, hv]; exact hb))]; rfl

theorem parseGlif_ok {evs : List Ev} {g : Glyph} (h : parseGlif rd evs = .ok g) :
    ∃ name ver rest pre s', scanStart evs = .ok (name, ver, rest) ∧ Reach rd { g := { name := name }, ver := ver } pre s' ∧
      s'.mode = .body ∧ loadObjectLibs s'.g = .ok g := by
  unfold parseGlif at h
  split at h
  · cases h
  · rename_i name ver rest hs
    obtain ⟨pre, s', e, _, _, hr, hd⟩ := run_ok rd h
    exact ⟨name, ver, rest, pre, s', hs, hr, (step_done rd hd).1, (step_done rd hd).2.2⟩

/-- **no `public.objectLibs` key remains in a returned lib** -/
theorem returned_lib_has_no_objectlibs_key {evs : List Ev} {g : Glyph} (h : parseGlif rd evs = .ok g) :
    dictGet objectLibsKey g.lib = none := by
  obtain ⟨_name, _ver, _rest, _pre, _s', _hs, _hr, _hm, hl⟩ := parseGlif_ok rd h
  exact loadObjectLibs_no_key hl

/-- what `returned_glyph_wellformed` says about a glyph: five of the seven clauses of `Spec.wellformed`, which the oracle
    evaluates (its `wf-ident-invalid` and `wf-name` are not proved) -/
structure Wellformed (g : Glyph) : Prop where
  identifiers_unique : (Spec.glyphIdents g).Nodup
  no_objectlibs_key : dictGet objectLibsKey g.lib = none
  contours_legal : ∀ c, c ∈ g.contours → C11.Legal (c.points.map toPt) ∧ c.points ≠ []
  angles_in_range : ∀ x, x ∈ g.guidelines → ∀ a b d, x.line = .angle a b d → angleOk d = true
  image_name : ∀ i, g.image = some i → imageNameOk i.fileName = true

theorem wellformed_of_load {s : PS} (hm : s.mode = .body) (hi : Inv s) {g : Glyph}
    (h : loadObjectLibs s.g = .ok g) : Wellformed g := by
  have hcnt := hi.cnt
  have hcont := hi.contours
  have hgu := hi.guides
  have him := hi.image
  rw [show allIds s = Spec.glyphIdents s.g by simp [allIds, modeIds, hm]] at hcnt
  have hk := loadObjectLibs_no_key h
  have hleg : ∀ c, c ∈ s.g.contours → C11.Legal (c.points.map toPt) ∧ c.points ≠ [] :=
    fun c hc => ⟨(C11.accepts_iff_legal _).1 (hcont c hc).1, (hcont c hc).2⟩
  rcases loadObjectLibs_inv h with ⟨_, rfl⟩ | ⟨ol, as, o1, gs, o2, cs, o3, ks, o4, _, hA, hG, hC, hK, rfl⟩
  · exact ⟨List.nodup_iff_count.2 hcnt, hk, hleg, hgu, him⟩
  · -- the object libs are handed out: identifiers, point types and guideline lines stay as they are
    have e1 := loadAnchors_ids _ _ _ _ hA
    obtain ⟨e2, l2⟩ := loadGuidelines_ids _ _ _ _ hG
    obtain ⟨e3, l3⟩ := loadContours_ids _ _ _ _ hC
    have e4 := loadComponents_ids _ _ _ _ hK
    refine ⟨List.nodup_iff_count.2 fun i => ?_, hk, fun c hc => ?_, fun x hx a b d hl => ?_, him⟩
    · simpa only [Spec.glyphIdents, e1, e2, cIds_def ▸ e3, e4] using hcnt i
    · obtain ⟨y, hy, hp⟩ := l3 c hc
      refine ⟨hp ▸ (hleg y hy).1, fun he => (hleg y hy).2 ?_⟩
      simpa [he] using hp.symm
    · obtain ⟨y, hy, hp⟩ := l2 x hx
      exact hgu y hy a b d (hp ▸ hl)

theorem gFinish_version {acc : GlyphAcc} {name : Str} {ver : Nat} (h : gFinish acc = .ok (name, ver)) : ver = 1 ∨ ver = 2 := by
  unfold gFinish at h
  cases hn : acc.name with
  | none => simp only [hn] at h; cases h
  | some n =>
    simp only [hn] at h
    split at h
    · cases h; exact .inl rfl
    · split at h <;> cases h
      exact .inr rfl

theorem scanStart_version {evs : List Ev} {name : Str} {ver : Nat} {rest : List Ev}
    (h : scanStart evs = .ok (name, ver, rest)) : (ver = 1 ∨ ver = 2) := by
  induction evs with
  | nil => cases h
  | cons e es ih =>
    cases e with
    | comment => exact ih h
    | decl => exact ih h
    | start n a =>
      simp only [scanStart] at h
      split at h
      · cases a with
        | none => cases h
        | some as =>
          cases hf : foldAttrs gStep {} as with
          | none => simp only [parseGlyphAttrs, hf] at h; cases h
          | some acc =>
            cases hg : gFinish acc with
            | error k => simp only [parseGlyphAttrs, hf, hg] at h; cases h
            | ok p => simp only [parseGlyphAttrs, hf, hg] at h; cases h; exact gFinish_version hg
      · cases h
    | _ => cases h

/-- **every returned glyph satisfies the rules**: identifiers unique across anchors, guidelines, contours,
    points and components; no `public.objectLibs` key; every contour a legal, non-empty point sequence;
    guideline angles in `[0, 360]`; the image name a single path component. -/
theorem returned_glyph_wellformed {evs : List Ev} {g : Glyph} (h : parseGlif rd evs = .ok g) : Wellformed g := by
  obtain ⟨name, ver, _rest, _pre, _s', _hs, hr, hm, hl⟩ := parseGlif_ok rd h
  exact wellformed_of_load hm (inv_reach rd (inv_init name ver) hr) hl

/-- **a second `advance` is rejected wherever it stands**: `s₁` is any state of the parse at body level that
    accepts an `advance`; whatever events `mid` follow (consumed successfully, back at body level), the next
    `advance` ends the parse with an error. -/
theorem second_advance_rejected {s₁ s₂ s₃ : PS} {a₁ a₂ : Option (List Attr)} {mid post : List Ev}
    (hb₁ : s₁.mode = .body) (h₁ : step rd s₁ (.empty sAdvance a₁) = .ok (.inl s₂))
    (hmid : Reach rd s₂ mid s₃) (hb₃ : s₃.mode = .body) :
    run rd s₁ (.empty sAdvance a₁ :: (mid ++ .empty sAdvance a₂ :: post)) = .error (.duplicateElement "advance") := by
  have hset := (advance_sets rd hb₁ h₁).1
  have hflag := (reach_mono rd hmid).adv hset
  have : run rd s₁ (.empty sAdvance a₁ :: (mid ++ .empty sAdvance a₂ :: post)) =
      run rd s₃ (.empty sAdvance a₂ :: post) := by
    simp only [run, h₁]
    exact run_of_reach rd hmid _
  rw [this]
  exact run_error_of_step rd (advance_dup rd hb₃ hflag a₂) post

/-- a format-1 parse stays a format-1 parse, and identifiers stay recorded: the hypotheses `s.ver = 1` and
    `i ∈ s.seen` of the state-level rules hold at every later position -/
theorem version_and_identifiers_persist {s s' : PS} {evs : List Ev} (h : Reach rd s evs s') :
    s'.ver = s.ver ∧ ∀ i, i ∈ s.seen → i ∈ s'.seen :=
  ⟨(reach_mono rd h).ver, (reach_mono rd h).seen⟩

/-- only format versions 1 and 2 get past the `glyph` start tag -/
theorem accepted_version {evs : List Ev} {g : Glyph} (h : parseGlif rd evs = .ok g) :
    ∃ name ver rest, scanStart evs = .ok (name, ver, rest) ∧ (ver = 1 ∨ ver = 2) := by
  obtain ⟨name, ver, rest, _pre, _s', hs, _hr, _hm, _hl⟩ := parseGlif_ok rd h
  exact ⟨name, ver, rest, hs, scanStart_version hs⟩

theorem implicitAnchor_iff (c : Contour) (a : Anchor) :
    implicitAnchor c = some a ↔
      ∃ p n, c.points = [p] ∧ p.typ = .move ∧ p.name = some n ∧
        a = { x := p.x, y := p.y, name := some n, color := none, ident := none } := by
  unfold implicitAnchor
  constructor
  · intro h
    split at h
    · rename_i p hp
      split at h
      · rename_i hc
        cases h
        cases hn : p.name with
        | none => simp [hn] at hc
        | some n => exact ⟨p, n, hp, hc.1, hn, by simp⟩
      · cases h
    · cases h
  · rintro ⟨p, n, hp, ht, hn, rfl⟩
    simp [hp, ht, hn]

/-- at `</outline>` of a format-1 glyph the contours that consist of one named `move` point (`implicitAnchor_iff` spells
    the condition out) are turned into anchors (same coordinates and name, in order) and removed from the
    contours; all other contours are kept in order. -/
theorem v1_single_named_move_becomes_anchor (cs : List Contour) :
    (upgradeV1 cs).1 = cs.filterMap implicitAnchor ∧
    (upgradeV1 cs).2 = cs.filter (fun c => (implicitAnchor c).isNone) := by
  induction cs with
  | nil => simp [upgradeV1]
  | cons c r ih =>
    unfold upgradeV1
    cases hu : upgradeV1 r with
    | mk as cs' =>
      rw [hu] at ih
      simp only at ih ⊢
      cases ha : implicitAnchor c <;> simp [ha, ih.1, ih.2]

theorem finishOutline_v1 (s : PS) (ob : OB) (hv : s.ver = 1) :
    (finishOutline s ob).g.anchors = s.g.anchors ++ ob.contours.filterMap implicitAnchor ∧
    (finishOutline s ob).g.contours = s.g.contours ++ ob.contours.filter (fun c => (implicitAnchor c).isNone) := by
  obtain ⟨h1, h2⟩ := v1_single_named_move_becomes_anchor ob.contours
  unfold finishOutline
  simp only [hv, if_true]
  cases hu : upgradeV1 ob.contours with
  | mk as cs => rw [hu] at h1 h2; simp only at h1 h2 ⊢; simp [h1, h2]

theorem finishOutline_v2 (s : PS) (ob : OB) (hv : s.ver ≠ 1) :
    (finishOutline s ob).g.anchors = s.g.anchors ∧ (finishOutline s ob).g.contours = s.g.contours ++ ob.contours := by
  unfold finishOutline
  simp [hv]

/-! ### the full-strength statements that are false on the tree: counterexamples (`K` = no numbers needed) -/

def K : Str → Option Nat := fun _ => none
def gl2 : Ev := .start sGlyph (some [("name".toList, "a".toList), ("format".toList, "2".toList)])

-- full statement (false): an unknown attribute on ANY element is rejected
/-- `<outline foo="1"/>` is accepted -/
theorem unknown_attr_rejected_counterexample :
    accepted (parseGlif K [gl2, .empty sOutline (some [("foo".toList, "1".toList)]), .close sGlyph]) = true := by
  decide +kernel

-- full statement (false): a malformed identifier is rejected (the format asks for 1..100 characters)
/-- `<contour identifier=""></contour>` is accepted -/
theorem empty_identifier_counterexample :
    accepted (parseGlif K [gl2, .start sOutline (some []), .start sContour (some [(sIdentifier, [])]),
      .close sContour, .close sOutline, .close sGlyph]) = true := by
  decide +kernel

-- full statement (false): a malformed code point is rejected
/-- `<unicode hex="+41"/>` is accepted -/
theorem hex_plus_counterexample :
    accepted (parseGlif K [gl2, .empty sUnicode (some [(sHex, "+41".toList)]), .close sGlyph]) = true := by
  decide +kernel

-- full statement (false): `legal_accepted` for every spelling the grammar allows
/-- `<unicode hex="41"></unicode>`, `<note/>` and `<glyph …/>` are rejected -/
theorem legal_accepted_counterexample :
    accepted (parseGlif K [gl2, .start sUnicode (some [(sHex, "41".toList)]), .close sUnicode, .close sGlyph]) = false ∧
    accepted (parseGlif K [gl2, .empty sNote (some []), .close sGlyph]) = false ∧
    accepted (parseGlif K [.empty sGlyph (some [("name".toList, "a".toList), ("format".toList, "2".toList)])]) = false := by
  decide +kernel

-- full statement (false): a second `note` is rejected
/-- a second `note` after an empty one is accepted -/
theorem repeated_note_counterexample :
    accepted (parseGlif K [gl2, .start sNote (some []), .close sNote, .start sNote (some []),
      .text (some "x".toList), .close sNote, .close sGlyph]) = true := by
  decide +kernel

-- full statement (false): an object lib that is not a dictionary is rejected
/-- an object-lib entry that is not a dictionary is dropped when no object carries its key -/
theorem unmatched_object_lib_counterexample :
    accepted (parseGlif K [gl2, .startLib (some []) (.dict [(objectLibsKey, .dict [("nobody".toList, .atom "i3")])]),
      .close sLib, .close sGlyph]) = true := by
  decide +kernel

-- non-vacuity of the rejection rules: comments are skipped; a second outline and a repeated identifier are rejected, the
-- same document with another identifier is accepted
example : accepted (parseGlif K [.decl, .comment, gl2, .comment, .empty sOutline (some []), .comment, .close sGlyph]) = true := by
  decide +kernel
example : accepted (parseGlif K [gl2, .empty sOutline (some []), .empty sOutline (some []), .close sGlyph]) = false := by
  decide +kernel
example : accepted (parseGlif K [gl2, .start sOutline (some []), .start sContour (some [(sIdentifier, "i".toList)]),
    .close sContour, .empty sComponent (some [("base".toList, "b".toList), (sIdentifier, "i".toList)]),
    .close sOutline, .close sGlyph]) = false := by
  decide +kernel
example : accepted (parseGlif K [gl2, .start sOutline (some []), .start sContour (some [(sIdentifier, "i".toList)]),
    .close sContour, .empty sComponent (some [("base".toList, "b".toList), (sIdentifier, "j".toList)]),
    .close sOutline, .close sGlyph]) = true := by
  decide +kernel

/-- **the order of attributes does not matter**, element by element (names pairwise different, as quick-xml guarantees) -/
theorem glyph_attr_order_irrelevant {l₁ l₂ : List Attr} (hp : l₁.Perm l₂)
    (hd : (l₁.map (fun e => e.1)).Nodup) : parseGlyphAttrs (some l₁) = parseGlyphAttrs (some l₂) := by
  simp only [parseGlyphAttrs, gFold_view, collect_perm gKeyNames hp hd]

theorem advance_attr_order_irrelevant {l₁ l₂ : List Attr} (hp : l₁.Perm l₂)
    (hd : (l₁.map (fun e => e.1)).Nodup) : parseAdvance rd l₁ = parseAdvance rd l₂ := by
  rw [parseAdvance_view 0 [], parseAdvance_view 0 [], collect_perm advKeyNames hp hd]

theorem unicode_attr_order_irrelevant (cps : List Nat) {l₁ l₂ : List Attr} (hp : l₁.Perm l₂)
    (hd : (l₁.map (fun e => e.1)).Nodup) : parseUnicode cps l₁ = parseUnicode cps l₂ :=
  foldAttrs_perm_single uniStep_other hp hd cps

theorem anchor_attr_order_irrelevant (ver : Nat) (seen : List Str) {l₁ l₂ : List Attr} (hp : l₁.Perm l₂)
    (hd : (l₁.map (fun e => e.1)).Nodup) : parseAnchor rd ver seen l₁ = parseAnchor rd ver seen l₂ := by
  rw [parseAnchor_view, parseAnchor_view, collect_perm aKeyNames hp hd]

theorem guideline_attr_order_irrelevant (ver : Nat) (seen : List Str) {l₁ l₂ : List Attr} (hp : l₁.Perm l₂)
    (hd : (l₁.map (fun e => e.1)).Nodup) : parseGuideline rd ver seen l₁ = parseGuideline rd ver seen l₂ := by
  rw [parseGuideline_view, parseGuideline_view, collect_perm guKeyNames hp hd]

theorem image_attr_order_irrelevant {l₁ l₂ : List Attr} (hp : l₁.Perm l₂)
    (hd : (l₁.map (fun e => e.1)).Nodup) : parseImage rd l₁ = parseImage rd l₂ := by
  rw [parseImage_view 0 [], parseImage_view 0 [], collect_perm iKeyNames hp hd]

theorem point_attr_order_irrelevant (ver : Nat) (seen : List Str) {l₁ l₂ : List Attr} (hp : l₁.Perm l₂)
    (hd : (l₁.map (fun e => e.1)).Nodup) : parsePoint rd ver seen l₁ = parsePoint rd ver seen l₂ := by
  rw [parsePoint_view, parsePoint_view, collect_perm pKeyNames hp hd]

theorem component_attr_order_irrelevant (ver : Nat) (seen : List Str) {l₁ l₂ : List Attr} (hp : l₁.Perm l₂)
    (hd : (l₁.map (fun e => e.1)).Nodup) : parseComponent rd ver seen l₁ = parseComponent rd ver seen l₂ := by
  rw [parseComponent_view, parseComponent_view, collect_perm cKeyNames hp hd]

theorem contour_attr_order_irrelevant (ver : Nat) (seen : List Str) {l₁ l₂ : List Attr} (hp : l₁.Perm l₂)
    (hd : (l₁.map (fun e => e.1)).Nodup) : parseContourAttrs ver seen l₁ = parseContourAttrs ver seen l₂ :=
  foldAttrs_perm_single (ctStep_other ver seen) hp hd none

/-- the same event up to the order of its attributes (names pairwise different, as quick-xml guarantees) -/
inductive EvPerm : Ev → Ev → Prop
  | refl (e : Ev) : EvPerm e e
  | start (n : Str) {l₁ l₂ : List Attr} : l₁.Perm l₂ → (l₁.map (fun e => e.1)).Nodup →
      EvPerm (.start n (some l₁)) (.start n (some l₂))
  | empty (n : Str) {l₁ l₂ : List Attr} : l₁.Perm l₂ → (l₁.map (fun e => e.1)).Nodup →
      EvPerm (.empty n (some l₁)) (.empty n (some l₂))

inductive EvsPerm : List Ev → List Ev → Prop
  | nil : EvsPerm [] []
  | cons {e e' : Ev} {l l' : List Ev} : EvPerm e e' → EvsPerm l l' → EvsPerm (e :: l) (e' :: l')

theorem step_evperm (s : PS) {e e' : Ev} (h : EvPerm e e') : step rd s e = step rd s e' := by
  cases h with
  | refl => rfl
  | start n hp hd => exact step_start_congr s n (contour_attr_order_irrelevant s.ver s.seen hp hd)
  | empty n hp hd =>
    refine step_empty_congr s n (fun _ => ?_) (fun _ => component_attr_order_irrelevant rd s.ver s.seen hp hd)
      (fun _ => point_attr_order_irrelevant rd s.ver s.seen hp hd)
    rw [bodyEmpty_eq, bodyEmpty_eq, elemArm_congr (advance_attr_order_irrelevant rd hp hd),
      elemArm_congr (unicode_attr_order_irrelevant s.g.codepoints hp hd),
      elemArm_congr (anchor_attr_order_irrelevant rd s.ver s.seen hp hd),
      elemArm_congr (guideline_attr_order_irrelevant rd s.ver s.seen hp hd), elemArm_congr (image_attr_order_irrelevant rd hp hd)]

/-- **attr_order_irrelevant** for `anchor`, `guideline` and `point`, at any position of any document: three instances of
    `step_evperm`, which says the same of every element (names pairwise different, which quick-xml guarantees) -/
theorem attr_order_irrelevant (s : PS) {l₁ l₂ : List Attr} (hp : l₁.Perm l₂) (hd : (l₁.map (fun e => e.1)).Nodup) :
    step rd s (.empty sAnchor (some l₁)) = step rd s (.empty sAnchor (some l₂)) ∧
    step rd s (.empty sGuideline (some l₁)) = step rd s (.empty sGuideline (some l₂)) ∧
    step rd s (.empty sPoint (some l₁)) = step rd s (.empty sPoint (some l₂)) :=
  ⟨step_evperm rd s (.empty _ hp hd), step_evperm rd s (.empty _ hp hd), step_evperm rd s (.empty _ hp hd)⟩

theorem run_evsperm {evs evs' : List Ev} (h : EvsPerm evs evs') : ∀ s, run rd s evs = run rd s evs' := by
  induction h with
  | nil => intro s; rfl
  | cons he _ ih =>
    intro s
    simp only [run, step_evperm rd s he]
    cases step rd s _ with
    | error k => rfl
    | ok r => cases r with
      | inl s' => exact ih s'
      | inr g => rfl

theorem parseGlif_start_congr {n : Str} {a a' : Option (List Attr)} {l l' : List Ev}
    (ha : parseGlyphAttrs a = parseGlyphAttrs a') (hl : EvsPerm l l') :
    parseGlif rd (.start n a :: l) = parseGlif rd (.start n a' :: l') := by
  unfold parseGlif
  simp only [scanStart, ha]
  by_cases hn : n = sGlyph
  · simp only [hn, if_true]
    cases parseGlyphAttrs a' with
    | error k => rfl
    | ok p => exact run_evsperm rd hl _
  · simp [hn]

/-- **attr_order_irrelevant, whole documents**: permuting the attributes of any elements of a document does not
    change the result of the parse (accepted glyph or error kind) -/
theorem parseGlif_attr_order_irrelevant {evs evs' : List Ev} (h : EvsPerm evs evs') :
    parseGlif rd evs = parseGlif rd evs' := by
  induction h with
  | nil => rfl
  | @cons e e' l l' he ht ih =>
    cases he with
    | refl =>
      cases e with
      | comment => simpa [parseGlif, scanStart] using ih
      | decl => simpa [parseGlif, scanStart] using ih
      | start n a => exact parseGlif_start_congr rd rfl ht
      | _ => simp [parseGlif, scanStart]
    | start n hp hd => exact parseGlif_start_congr rd (glyph_attr_order_irrelevant hp hd) ht
    | empty n hp hd => simp [parseGlif, scanStart]

section
variable {f : Fmt} {rd : Str → Option Nat} {nc : Color → Color} {ok : Nat → Prop}

/-- **legal_accepted** (canonical element order): for every glyph description that obeys the rules (`ValidGlyph`:
    valid names, identifiers valid and unique across the five kinds, every contour `C11.accepts`-legal (one without points
    is not written), angles in range, image name a single component, code points scalar values) the document rendered from
    it — content-free elements self-closing, `glyph`/`note` not self-closed, numbers and colours in ANY spelling `f` that
    reads back (`Codec`), any note, any lib — is accepted, and the returned glyph is the one described (`preG`).  `hobj`: no
    object of the glyph carries a lib of its own; `hkey`: the written lib has no `public.objectLibs` key. -/
theorem legal_accepted_canonical (hc : Codec f rd nc ok) {g : Glyph} (hv : ValidGlyph ok g) (hobj : NoObjectLibs g)
    (hkey : dictGet objectLibsKey (reindentDict f.indent g.lib) = none) :
    parseGlif rd (encodeGlif f g) = .ok (preG f nc g) := by
  rw [parse_encode hc hv]
  have hw : writtenLib g = g.lib := by simp [writtenLib, dump_empty_of_no_libs hobj]
  have : dictGet objectLibsKey (preG f nc g).lib = none := by simpa [preG, hw] using hkey
  simp [loadObjectLibs, this]

theorem accepted_of_perm {evs₀ evs : List Ev} {g₀ : Glyph} (h₀ : parseGlif rd evs₀ = loadObjectLibs g₀)
    (hol : ∀ v, dictGet objectLibsKey g₀.lib = some v → ∃ ol, v = PV.dict ol ∧ AllDicts ol) (hperm : EvsPerm evs₀ evs) :
    ∃ g, parseGlif rd evs = .ok g ∧ loadObjectLibs g₀ = .ok g := by
  obtain ⟨g, hg⟩ := loadObjectLibs_ok hol
  exact ⟨g, by rw [← parseGlif_attr_order_irrelevant rd hperm, h₀, hg], hg⟩

/-- **legal_accepted**: a document of the generative grammar (format 2; items in any order; comments before the root,
    between items, inside `outline` and `contour`; content after `</glyph>`; any spelling of numbers and colours that reads
    back) whose items obey the rules, and whose lib — if it uses `public.objectLibs` — holds a dictionary of dictionaries
    there, is accepted; so is every document that differs from it only in the order of attributes (`EvsPerm`). -/
theorem legal_accepted (hc : Codec f rd nc ok) (d : GDoc) (hp : ∀ e, e ∈ d.prolog → isProlog e = true)
    (hn : validName d.name = true) (hL : LegalItems ok d.items)
    (hol : ∀ v, dictGet objectLibsKey (interp nc d).lib = some v → ∃ ol, v = PV.dict ol ∧ AllDicts ol)
    {evs : List Ev} (hperm : EvsPerm (render f d) evs) :
    ∃ g, parseGlif rd evs = .ok g ∧ loadObjectLibs (interp nc d) = .ok g :=
  accepted_of_perm (legal_accepted_gdoc hc d hp hn hL) hol hperm

/-- **legal_accepted, format 1**: a format-1 document of the generative grammar (`renderV1`: no identifiers, none of
    anchor/guideline/image/note — the format-1 refusals extracted from `parse.rs`), and every document that differs from it
    only in attribute order, is accepted and returns `loadObjectLibs (interpV1 d)`; the single named `move` points have
    become anchors (`v1_single_named_move_becomes_anchor`). -/
theorem legal_accepted_v1 (hc : Codec f rd nc ok) (d : GDoc) (hp : ∀ e, e ∈ d.prolog → isProlog e = true)
    (hn : validName d.name = true) (hL : LegalItemsV1 ok d.items)
    (hol : ∀ v, dictGet objectLibsKey (interpV1 d).lib = some v → ∃ ol, v = PV.dict ol ∧ AllDicts ol)
    {evs : List Ev} (hperm : EvsPerm (renderV1 f d) evs) :
    ∃ g, parseGlif rd evs = .ok g ∧ loadObjectLibs (interpV1 d) = .ok g :=
  accepted_of_perm (legal_accepted_gdoc_v1 hc d hp hn hL) hol hperm

end

/-! ## source-level tie (tables re-extracted from `src/glyph/parse.rs` by `tools/extract_glif_parser.py` on every run)

The model tables are those of `Lemmas/GlifTables.lean`.  The attribute tables, the dispatch tables of `bodyEmpty`,
`stepOutline`, `stepContour`, the format-1 refusals and the versions are proved there — for all strings — to characterise the
model function they belong to (`step_refuses_unknown`, `bodyEmpty_unknown`, `stepOutline_unknown`, `stepContour_unknown`,
`v1_refusals`, `gFinish_ok_iff`); `bodyStart_unknown` is about the two names `bodyStart` tests (`lib` arrives as
`Ev.startLib`), and `onceByFlag` / `onceByContent` are plain lists: what the model does at each of their names is stated per
name (`advance_dup` … `note_dup` at the head of this file).  Lists are compared as sets: the order of independent `match`
arms is not part of the property.  Error variants inside one element (`UnexpectedAnchorField`, `BadAnchor`, …) are extracted
but not tied: the model erases them by design. -/

namespace SourceTie

def sameSet (a b : List Str) : Bool := a.all (b.contains ·) && b.all (a.contains ·)

def RS : Str → Option Nat := fun s => if s = ['0'] then some 0 else none

/-- per attribute name one value that every reader of that attribute accepts under `RS` -/
def sampleVal (k : Str) : Str :=
  if k = "name".toList then ['n'] else if k = "color".toList then "0,0,0,0".toList
  else if k = "identifier".toList then ['i'] else if k = "type".toList then "line".toList
  else if k = "smooth".toList then "yes".toList else if k = "fileName".toList then ['f']
  else if k = "base".toList then ['b'] else if k = "hex".toList then "41".toList
  else if k = "format".toList then ['2'] else ['0']

def sample (ns : List Str) : List Attr := ns.map fun k => (k, sampleVal k)

def modelAccepts (el : Str) (as : List Attr) : Bool :=
  if el = sGlyph then (match parseGlyphAttrs (some as) with | .ok _ => true | .error _ => false)
  else if el = sAdvance then (parseAdvance RS as).isSome
  else if el = sUnicode then (parseUnicode [] as).isSome
  else if el = sAnchor then (parseAnchor RS 2 [] as).isSome
  else if el = sGuideline then (parseGuideline RS 2 [] as).isSome
  else if el = sImage then (parseImage RS as).isSome
  else if el = sPoint then (parsePoint RS 2 [] as).isSome
  else if el = sComponent then (parseComponent RS 2 [] as).isSome
  else if el = sContour then (parseContourAttrs 2 [] as).isSome
  else false

/-- **source tie**: the attribute names the loops of `parse.rs` accept are, element by element, the names the model's key
    functions know (`Lemmas/GlifTables.lean` proves for all strings that a name outside the table is refused) -/
theorem source_attribute_names_match_model :
    sameSet Generated.GlifParser.glyphAttrs gKeys = true ∧ sameSet Generated.GlifParser.advanceAttrs advKeys = true ∧ sameSet Generated.GlifParser.unicodeAttrs uniKeys = true ∧
    sameSet Generated.GlifParser.anchorAttrs aKeys = true ∧ sameSet Generated.GlifParser.guidelineAttrs guKeys = true ∧ sameSet Generated.GlifParser.imageAttrs iKeys = true ∧
    sameSet Generated.GlifParser.pointAttrs pKeys = true ∧ sameSet Generated.GlifParser.componentAttrs cKeys = true ∧ sameSet Generated.GlifParser.contourAttrs ctKeys = true := by
  unfold gKeys advKeys uniKeys aKeys guKeys iKeys pKeys cKeys ctKeys tKeys sHex sIdentifier
  repeat rw [String.toList_ofList]
  decide +kernel

def specAttrNames (el : Str) : List Str := ((Spec.attrTable el).getD []).map (·.1.toList)

/-- **source tie**: the attribute names the loops of `parse.rs` accept are the names of the specification's `Spec.attrTable`,
    for the seven elements it has a table for (`glyph` and `contour` are checked by `glyphAttrCheck` / `contourCheck`) -/
theorem source_attribute_names_match_spec :
    sameSet Generated.GlifParser.advanceAttrs (specAttrNames sAdvance) = true ∧ sameSet Generated.GlifParser.unicodeAttrs (specAttrNames sUnicode) = true ∧
    sameSet Generated.GlifParser.anchorAttrs (specAttrNames sAnchor) = true ∧ sameSet Generated.GlifParser.guidelineAttrs (specAttrNames sGuideline) = true ∧
    sameSet Generated.GlifParser.imageAttrs (specAttrNames sImage) = true ∧ sameSet Generated.GlifParser.pointAttrs (specAttrNames sPoint) = true ∧
    sameSet Generated.GlifParser.componentAttrs (specAttrNames sComponent) = true := by
  decide +kernel

def requiredTable : List (Str × List Str × List Str) :=
  [(sAdvance, Generated.GlifParser.advanceAttrs, []), (sUnicode, Generated.GlifParser.unicodeAttrs, []),
   (sAnchor, Generated.GlifParser.anchorAttrs, Generated.GlifParser.anchorRequired), (sImage, Generated.GlifParser.imageAttrs, Generated.GlifParser.imageRequired), (sPoint, Generated.GlifParser.pointAttrs, Generated.GlifParser.pointRequired),
   (sComponent, Generated.GlifParser.componentAttrs, Generated.GlifParser.componentRequired), (sContour, Generated.GlifParser.contourAttrs, [])]

/-- **source tie**: with every accepted attribute present the model accepts the element, and leaving one out is refused
    exactly when the source marks it required -/
theorem source_required_match_model :
    requiredTable.all (fun r =>
      modelAccepts r.1 (sample r.2.1) &&
      r.2.1.all (fun n => modelAccepts r.1 (sample (r.2.1.erase n)) == !r.2.2.contains n)) = true ∧
    modelAccepts sGlyph (sample Generated.GlifParser.glyphAttrs) = true ∧
    Generated.GlifParser.glyphAttrs.all (fun n =>
      (match parseGlyphAttrs (some (sample (Generated.GlifParser.glyphAttrs.erase n))) with
       | .error .wrongFirstElement => true
       | _ => false) == Generated.GlifParser.glyphRequired.contains n) = true := by
  decide +kernel

/-- **source tie**: the attributes the source marks required are those of `Spec.required`; a `glyph` without `name` is
    `glyph-name` for the specification exactly when the source requires the attribute -/
theorem source_required_match_spec :
    sameSet Generated.GlifParser.anchorRequired ((Spec.required sAnchor).map String.toList) = true ∧
    sameSet Generated.GlifParser.pointRequired ((Spec.required sPoint).map String.toList) = true ∧
    sameSet Generated.GlifParser.componentRequired ((Spec.required sComponent).map String.toList) = true ∧
    sameSet Generated.GlifParser.imageRequired ((Spec.required sImage).map String.toList) = true ∧
    (Generated.GlifParser.glyphAttrs).all (fun n =>
      (Spec.glyphAttrCheck { prolog := [], gattrs := some (sample ((Generated.GlifParser.glyphAttrs).erase n)), items := [] }).contains "glyph-name"
        == (Generated.GlifParser.glyphRequired).contains n) = true := by
  decide +kernel

def subsets3 : List (List Str) :=
  [[], [['x']], [['y']], ["angle".toList], [['x'], ['y']], [['x'], "angle".toList], [['y'], "angle".toList],
   [['x'], ['y'], "angle".toList]]

/-- **source tie**: the guideline shapes of `parse_guideline` are the ones the model and the specification accept -/
theorem source_guideline_shapes_match :
    subsets3.all (fun sub =>
      (modelAccepts sGuideline (sample sub) == (Generated.GlifParser.guidelineShapes).any (sameSet sub)) &&
      ((Spec.elemCheck RS 2 { name := sGuideline, attrs := some (sample sub) }).1.contains "guideline-shape"
        == !(Generated.GlifParser.guidelineShapes).any (sameSet sub))) = true := by
  decide +kernel

/-- **source tie**: the element names each level of `parse.rs` dispatches, the format-1 refusals and the once-only guards
    are the model's tables (the head of this section says which of them characterise a model function) -/
theorem source_dispatch_matches_model :
    sameSet Generated.GlifParser.bodyStartNames Glif.bodyStartNames = true ∧ sameSet Generated.GlifParser.bodyEmptyNames Glif.bodyEmptyNames = true ∧
    sameSet Generated.GlifParser.outlineStartNames Glif.outlineStartNames = true ∧ sameSet Generated.GlifParser.outlineEmptyNames Glif.outlineEmptyNames = true ∧
    sameSet Generated.GlifParser.contourEmptyNames Glif.contourEmptyNames = true ∧
    sameSet Generated.GlifParser.v1RefusedStart Glif.v1RefusedStart = true ∧ sameSet Generated.GlifParser.v1RefusedEmpty Glif.v1RefusedEmpty = true ∧
    sameSet Generated.GlifParser.onceByFlag Glif.onceByFlag = true ∧ sameSet Generated.GlifParser.onceByContent Glif.onceByContent = true ∧
    Generated.GlifParser.rootName = sGlyph ∧
    ((Generated.GlifParser.supportedVersions).all (modelVersions.contains ·) && modelVersions.all ((Generated.GlifParser.supportedVersions).contains ·)) = true ∧
    sameSet Generated.GlifParser.outlineEmptyIgnored [sContour] = true := by
  decide +kernel

def v1Flagged (n : Str) : Bool :=
  if n = sNote then (Spec.itemCheck RS 1 (.note (some []) [])).1.contains "v1-element"
  else (Spec.itemCheck RS 1 (.elem { name := n, attrs := some [] })).1.contains "v1-element"

/-- **source tie**: the content-free body elements, the once-only elements and the format-1 refusals of `parse.rs` are those of
    the specification (`Spec.bodyNames`, `Spec.onceOnly`, the `v1-element` rule) -/
theorem source_dispatch_matches_spec :
    sameSet Generated.GlifParser.bodyEmptyNames (sOutline :: Spec.bodyNames) = true ∧
    sameSet (Generated.GlifParser.onceByFlag ++ Generated.GlifParser.onceByContent) (Spec.onceOnly.map String.toList) = true ∧
    (Generated.GlifParser.bodyEmptyNames ++ Generated.GlifParser.bodyStartNames).all (fun n =>
      v1Flagged n == (Generated.GlifParser.v1RefusedStart ++ Generated.GlifParser.v1RefusedEmpty).contains n) = true := by
  decide +kernel

def s0 : PS := { g := { name := ['a'] }, ver := 2 }
def junk : Str := "junk".toList

/-- **source tie**: comments are skipped at the three levels where the source skips them, and the refusals the model
    distinguishes carry the error variant the source returns -/
theorem source_level_errors_match_model :
    Generated.GlifParser.bodySkipsComments = (stepErrName (stepBody RS s0 .comment)).isNone ∧
    Generated.GlifParser.outlineSkipsComments = (stepErrName (stepOutline RS s0 {} .comment)).isNone ∧
    Generated.GlifParser.contourSkipsComments = (stepErrName (stepContour RS s0 {} none [] .comment)).isNone ∧
    stepErrName (stepBody RS s0 .other) = some Generated.GlifParser.bodyOtherError ∧
    stepErrName (bodyStart s0 junk) = some Generated.GlifParser.bodyStartDefaultError ∧
    stepErrName (bodyEmpty RS s0 junk none) = some Generated.GlifParser.bodyEmptyDefaultError ∧
    stepErrName (stepOutline RS s0 {} (.start junk none)) = some Generated.GlifParser.outlineStartDefaultError ∧
    stepErrName (stepOutline RS s0 {} (.empty junk none)) = some Generated.GlifParser.outlineEmptyDefaultError ∧
    stepErrName (stepOutline RS s0 {} .other) = some Generated.GlifParser.outlineOtherError ∧
    (eofKind (.outline {})).rustName = Generated.GlifParser.outlineEofError ∧
    stepErrName (stepContour RS s0 {} none [] .other) = some Generated.GlifParser.contourOtherError ∧
    (eofKind (.contour {} none [])).rustName = Generated.GlifParser.contourEofError ∧
    (match scanStart [.other] with | .error k => k.rustName | .ok _ => []) = Generated.GlifParser.startOtherError ∧
    (match gFinish { name := some [], major := 3 } with | .error k => k.rustName | .ok _ => []) = Generated.GlifParser.unsupportedVersionError ∧
    (match gFinish {} with | .error k => k.rustName | .ok _ => []) = Generated.GlifParser.glyphMissingError ∧
    sameSet Generated.GlifParser.startSkips ["Comment".toList, "Decl".toList] = true := by
  decide +kernel

/-- **source tie**: the defaults of `parse.rs` (point type, smooth, advance, format numbers, identity transform) are the
    model's and the specification's -/
theorem source_defaults_match :
    ptRustName ({} : PointAcc).typ = Generated.GlifParser.pointTypeDefault ∧ ({} : PointAcc).smooth = Generated.GlifParser.smoothDefault ∧
    ptRustName (Spec.ptOfElem { name := sPoint, attrs := some [] }).typ = Generated.GlifParser.pointTypeDefault ∧
    (Spec.ptOfElem { name := sPoint, attrs := some [] }).smooth = Generated.GlifParser.smoothDefault ∧
    (match parseAdvance RS [] with | some (w, h) => [w, h] | none => []) = Generated.GlifParser.advanceDefaults ∧
    [({} : GlyphAcc).major, ({} : GlyphAcc).minor] = Generated.GlifParser.formatDefaults ∧
    [({} : Transform).xScale, ({} : Transform).xyScale, ({} : Transform).yxScale, ({} : Transform).yScale,
     ({} : Transform).xOffset, ({} : Transform).yOffset] = Generated.GlifParser.transformDefault := by
  decide +kernel

/-- **source tie**: WHICH name the source compares.  Every element-name comparison of `parse.rs` (the root test of
    `start`, the `Start`/`Empty` dispatch and the end test of `parse_body` and `parse_outline`, the point and end tests of
    `parse_contour`, the end tests of `parse_lib` and `parse_note`) reads `name()`, the tag exactly as written, and every
    attribute loop matches on `attr.key.as_ref()`, the attribute name exactly as written — never `local_name()`, which
    drops a namespace prefix.  This is what the model assumes: its `Ev.start n`/`Ev.empty n`/`Ev.close n` and `Attr` carry
    the full names (the harness tokenises with `name()` and `key`), and `step` compares them literally, so by
    `qualified_name_unknown` and `unknown_element_refused` a `<x:advance/>` is an unknown element. -/
theorem source_dispatch_on_full_name :
    Generated.GlifParser.elementNameAccessors.map (·.1) =
      ["start".toList, "parse_body".toList, "parse_outline".toList, "parse_contour".toList, "parse_lib".toList, "parse_note".toList] ∧
    Generated.GlifParser.elementNameAccessors.all (fun r => !r.2.isEmpty && r.2.all (· == "name".toList)) = true ∧
    Generated.GlifParser.attrNameAccessors.map (·.1) = Generated.GlifParser.unknownAttrError.map (·.1) ∧
    Generated.GlifParser.attrNameAccessors.all (fun r => !r.2.isEmpty && r.2.all (· == "key".toList)) = true := by
  decide +kernel

end SourceTie

/-- `knownNames` is the union of the element tables and the attribute tables: a name outside it is outside each -/
theorem not_known {n : Str} (h : knownNames.contains n = false) :
    n ≠ sGlyph ∧ bodyStartNames.contains n = false ∧ bodyEmptyNames.contains n = false ∧
    outlineStartNames.contains n = false ∧ outlineEmptyNames.contains n = false ∧ contourEmptyNames.contains n = false ∧
    gKeys.contains n = false ∧ advKeys.contains n = false ∧ uniKeys.contains n = false ∧ aKeys.contains n = false ∧
    guKeys.contains n = false ∧ iKeys.contains n = false ∧ cKeys.contains n = false ∧ pKeys.contains n = false ∧
    ctKeys.contains n = false := by
  simpa only [knownNames, allElementNames, allAttrNames, List.contains_append, List.contains_cons,
    Bool.or_eq_false_iff, beq_eq_false_iff_ne, ne_eq, and_assoc] using h

/-- **an element whose tag is not literally a known name is refused at every level, in both forms**: before the root
    (`WrongFirstElement`), in the glyph body, in the outline and in a contour (`UnexpectedElement`) -/
theorem unknown_element_refused (rd : Str → Option Nat) (s : PS) (ob : OB) (cid : Option Str) (pts : List Point) {n : Str}
    (a : Option (List Attr)) (r : List Ev) (h : knownNames.contains n = false) :
    scanStart (.start n a :: r) = .error .wrongFirstElement ∧
    bodyStart s n = .error .unexpectedElement ∧ bodyEmpty rd s n a = .error .unexpectedElement ∧
    stepOutline rd s ob (.start n a) = .error .unexpectedElement ∧ stepOutline rd s ob (.empty n a) = .error .unexpectedElement ∧
    stepContour rd s ob cid pts (.start n a) = .error .unexpectedElement ∧
    stepContour rd s ob cid pts (.empty n a) = .error .unexpectedElement := by
  obtain ⟨hglyph, hbodyS, hbodyE, houtS, houtE, hctE, _⟩ := not_known h
  refine ⟨by simp [scanStart, hglyph], bodyStart_unknown s ?_, bodyEmpty_unknown rd s a hbodyE,
    (stepOutline_unknown rd s ob a).1 houtS, (stepOutline_unknown rd s ob a).2 houtE, (stepContour_unknown rd s ob cid pts a).2,
    (stepContour_unknown rd s ob cid pts a).1 hctE⟩
  simp only [bodyStartNames, List.contains_cons, Bool.or_eq_false_iff] at hbodyS ⊢
  exact ⟨hbodyS.1, hbodyS.2.2⟩

/-- **an attribute whose name is not literally a known name ends every attribute loop with a refusal** -/
theorem unknown_attr_name_refused (rd : Str → Option Nat) (ver : Nat) (seen : List Str) (a : Attr)
    (h : knownNames.contains a.1 = false) :
    (∀ acc, gStep acc a = none) ∧ (∀ acc, advStep rd acc a = none) ∧ (∀ acc, uniStep acc a = none) ∧
    (∀ acc, aStep rd ver seen acc a = none) ∧ (∀ acc, guStep rd ver seen acc a = none) ∧ (∀ acc, iStep rd acc a = none) ∧
    (∀ acc, pStep rd ver seen acc a = none) ∧ (∀ acc, cStep rd ver seen acc a = none) ∧ (∀ acc, ctStep ver seen acc a = none) := by
  -- `knownNames` lists the keys of `component` before those of `point`, the statement the other way round
  obtain ⟨_, _, _, _, _, _, kg, kadv, kuni, ka, kgu, ki, kc, kp, kct⟩ := not_known h
  obtain ⟨hg, hadv, huni, ha, hgu, hi, hp, hc, hct⟩ := step_refuses_unknown rd ver seen a
  exact ⟨hg kg, hadv kadv, huni kuni, ha ka, hgu kgu, hi ki, hp kp, hc kc, hct kct⟩

/-- **a known name next to a character that is not a letter is an unknown name**: a blank that quick-xml keeps in the
    name (anything but space, tab, CR, LF ends up there: U+00A0, U+3000, VT, FF …), a control character, a colon — such a
    name is in no table of the parser, whatever stands before and after the character -/
theorem decorated_name_unknown (p n : Str) (c : Char) (hc : c.isAlpha = false) : knownNames.contains (p ++ c :: n) = false :=
  not_in_of_nonletter knownNames_letters (c := c) (by simp) hc

/-- **a known name behind a namespace prefix is an unknown name**: `x:advance`, `xml:advance`, `:advance`, `advance:`,
    `x:width` …, so `unknown_element_refused` and `unknown_attr_name_refused` apply to it -/
theorem qualified_name_unknown (p n : Str) : knownNames.contains (p ++ ':' :: n) = false :=
  decorated_name_unknown p n ':' (by decide)

/-- **the specification oracle treats such a name as unknown too**: `Spec.itemCheck` (the per-item part of `Spec.judge`)
    answers `unknown-element` for every content-free body element whose name is not literally a known name, and
    `Spec.oitemCheck` in the outline likewise -/
theorem spec_unknown_element (rd : Str → Option Nat) (ver : Nat) (e : Spec.Elem) (h : knownNames.contains e.name = false) :
    Spec.itemCheck rd ver (.elem e) = (["unknown-element"], false) ∧
    Spec.oitemCheck rd ver (.elem e) = (["unknown-element"], false) := by
  obtain ⟨_, hbodyS, hbodyE, _, houtE, _⟩ := not_known h
  simp only [bodyStartNames, bodyEmptyNames, outlineEmptyNames, List.contains_cons, List.contains_nil, Bool.or_false,
    Bool.or_eq_false_iff, beq_eq_false_iff_ne, ne_eq] at hbodyS hbodyE houtE
  have hb : e.name ∉ Spec.bodyNames := by
    simp only [Spec.bodyNames, List.mem_cons, List.not_mem_nil, or_false, not_or]
    exact hbodyE.2
  exact ⟨by simp [Spec.itemCheck, hb, hbodyS.2.1, hbodyS.2.2], by simp [Spec.oitemCheck, houtE.2]⟩

-- `<x:advance width="500"/>` in the body of a format-2 glyph: refused
example : bodyEmpty K { g := { name := ['a'] }, ver := 2 } ("x:advance".toList) (some [("width".toList, "500".toList)])
    = .error .unexpectedElement :=
  (unknown_element_refused K _ {} none [] _ [] (qualified_name_unknown ['x'] "advance".toList)).2.2.1
-- `Advance` is not `advance`
example : knownNames.contains "Advance".toList = false :=
  case_variant_unknown (n := sAdvance) (by decide +kernel) (by decide +kernel) (by decide +kernel)

end Glif
