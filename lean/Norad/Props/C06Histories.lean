import Norad.Props.C06
/-!
# C06 / container level of C07 — histories that leave and re-enter the synchronised states; loading

* `insert_glyph` decides by the CONTENTS INDEX whether a name needs a file: a glyph that the raw `entry` API put into
  (or took out of) the glyph map behind the back of the index is in step again once the same name goes through
  `insert_glyph`, and is then saved.  The recorded findings `entry-insert-not-saved` /
  `entry-remove-save-panics` are about `entry` glyphs that are NOT put back.
* the path set of a loaded font covers every listed non-default directory wherever `layercontents.plist` lists the
  default layer.
-/
namespace Layers

section
variable (lower : Str → Str) (assignG : Str → List Str → Option Str)

theorem insertGlyph_indices (L : Layer) (g : Str) (hok : (insertGlyph lower assignG L g).2 = .ok) (m : Str) :
    (m ∈ (insertGlyph lower assignG L g).1.glyphs ↔ m = g ∨ m ∈ L.glyphs) ∧
    (m ∈ keys (insertGlyph lower assignG L g).1.contents ↔ m = g ∨ m ∈ keys L.contents) := by
  revert hok
  fun_cases insertGlyph lower assignG L g
  next hg => exact fun _ => ⟨mem_addGlyphName, (or_iff_right_of_imp fun e => e ▸ hg).symm⟩
  · exact nofun
  · exact fun _ => ⟨mem_addGlyphName, List.mem_cons⟩

def SyncBut (n : Str) (L : Layer) : Prop := ∀ m, m ≠ n → (m ∈ L.glyphs ↔ m ∈ keys L.contents)

theorem syncBut_entryOrInsert (L : Layer) (n : Str) (h : Sync L) : SyncBut n (entryOrInsert L n) :=
  fun m hm => (mem_addGlyphName.trans (or_iff_right hm)).trans (h m)

theorem syncBut_entryRemove (L : Layer) (n : Str) (h : Sync L) : SyncBut n (entryRemove L n) :=
  fun m hm =>
    ⟨fun hg => (h m).1 (List.mem_filter.1 hg).1, fun hk => List.mem_filter.2 ⟨(h m).2 hk, decide_eq_true hm⟩⟩

/-- `insert_glyph(g)` that returns puts `g` into BOTH indices, whatever state the layer was in — in particular when the
    glyph map already holds `g` but the contents index does not (a glyph created through the raw `entry` API): the
    code asks `contents`, not the glyph map, whether a file name is needed -/
theorem insert_repairs_index (L : Layer) (g : Str) (hok : (insertGlyph lower assignG L g).2 = .ok) :
    g ∈ (insertGlyph lower assignG L g).1.glyphs ∧ g ∈ keys (insertGlyph lower assignG L g).1.contents :=
  let ⟨hg, hk⟩ := insertGlyph_indices lower assignG L g hok g
  ⟨hg.2 (.inl rfl), hk.2 (.inl rfl)⟩

/-- whatever happened to the name `n` behind the back of the index, `insert_glyph(n)` brings the layer back in step -/
theorem sync_insert_of_syncBut (L : Layer) (n : Str) (h : SyncBut n L)
    (hok : (insertGlyph lower assignG L n).2 = .ok) : Sync (insertGlyph lower assignG L n).1 := by
  intro m
  obtain ⟨hg, hk⟩ := insertGlyph_indices lower assignG L n hok m
  exact hg.trans ((Decidable.or_congr_right' (h m)).trans hk.symm)

/-- `entry(n).or_insert(..)` followed by `insert_glyph(n)`: the layer is in step again (the recorded finding
    `entry-insert-not-saved` is about `entry` glyphs that are NOT put back) -/
theorem insert_after_entry_resyncs (L : Layer) (n : Str) (h : Sync L)
    (hok : (insertGlyph lower assignG (entryOrInsert L n) n).2 = .ok) :
    Sync (insertGlyph lower assignG (entryOrInsert L n) n).1 :=
  sync_insert_of_syncBut lower assignG _ n (syncBut_entryOrInsert L n h) hok

/-- `entry(n)` → `remove()` followed by `insert_glyph(n)`: in step again (`entry-remove-save-panics` is about the
    states in between) -/
theorem insert_after_entry_remove_resyncs (L : Layer) (n : Str) (h : Sync L)
    (hok : (insertGlyph lower assignG (entryRemove L n) n).2 = .ok) :
    Sync (insertGlyph lower assignG (entryRemove L n) n).1 :=
  sync_insert_of_syncBut lower assignG _ n (syncBut_entryRemove L n h) hok

/-- a glyph put back after `entry(n).or_insert(..)` is saved: the directory written for the layer lists `n` with a glif
    file -/
theorem resynced_glyph_is_saved (L : Layer) (n : Str) (h : Sync L)
    (hok : (insertGlyph lower assignG (entryOrInsert L n) n).2 = .ok) :
    ∃ d, saveLayer (insertGlyph lower assignG (entryOrInsert L n) n).1 = some d ∧ n ∈ keys d.contents ∧
      ∀ e ∈ d.contents, e.2 ∈ d.files := by
  have hs := insert_after_entry_resyncs lower assignG L n h hok
  refine ⟨_, saveLayer_of_sync _ hs, (insert_repairs_index lower assignG _ n hok).2, ?_⟩
  intro e he
  exact List.mem_map.2 ⟨e, he, rfl⟩

end

-- non-vacuity: a layer in step, `entry("z")`, `insert_glyph("z")` returns, and `z` is written
example :
    let assignG : Str → List Str → Option Str := fun g ps => if g ++ ".glif".toList ∈ ps then none else some (g ++ ".glif".toList)
    let L := (insertGlyph id assignG (entryOrInsert Layer.default zName) zName)
    L.2 = .ok ∧ L.1.glyphs = [zName] ∧ L.1.contents = [(zName, zFile)] ∧
      saveLayer L.1 = some { contents := [(zName, zFile)], files := [zFile] } := by
  decide +kernel

example : Sync Layer.default := sync_new _ _

/-- every loaded non-default directory is taken after loading, whatever the layer filter -/
theorem loaded_pathSet_covers (lower : Str → Str) (f : LFilter) (t : Tree) (S : LayerSet)
    (h : loadTreeF lower f t = some S) :
    ∀ e ∈ t.layercontents, f.shouldLoad e.1 e.2 = true → e.2 ≠ glyphsDir → lower e.2 ∈ S.pathSet := by
  obtain ⟨ls, ls', hls, hd, rfl⟩ := loadTreeF_some h
  intro e he hf hne
  obtain ⟨l, hl, rfl⟩ := List.mem_map.1 ((loadLayers_spec lower hls).1 ▸ List.mem_filter.2 ⟨he, hf⟩)
  -- the layer loaded for `e` is not the one moved to the front, which lives in `glyphs`
  obtain ⟨d, a, b, hab, hdp, rfl⟩ := defaultFirst_some hd
  have hl' : l ∈ a ++ d :: b := by
    rw [← hab]; split
    · exact List.mem_append_left _ hl
    · exact hl
  exact List.mem_map_of_mem ((mem_middle.1 hl').resolve_left fun hld => hne (hld ▸ hdp))

/-- **every listed non-default directory is taken after loading**, whichever position `layercontents.plist` lists the
    default layer at (first, in the middle, last) and whichever layer it lists first: the loader builds the path set
    AFTER the default layer has been moved to the front. No hypothesis on the tree. -/
theorem loaded_pathSet_covers_listed (lower : Str → Str) (t : Tree) (S : LayerSet) (h : loadTree lower t = some S) :
    ∀ e ∈ t.layercontents, e.2 ≠ glyphsDir → lower e.2 ∈ S.pathSet :=
  fun e he => loaded_pathSet_covers lower _ t S ((loadTreeF_all lower t).trans h) e he rfl

/-- the same for the directory handed out next: a name whose natural directory is taken (ignoring case) by ANY listed
    layer does not get it -/
theorem new_layer_after_load_avoids_listed (lower : Str → Str) (assignL : Str → List Str → Option Str)
    (hL : ∀ n ps p, assignL n ps = some p → lower p ∉ ps)
    (t : Tree) (S : LayerSet) (h : loadTree lower t = some S) (name p : Str)
    (hp : assignL name S.pathSet = some p) :
    ∀ e ∈ t.layercontents, e.2 ≠ glyphsDir → lower p ≠ lower e.2 := by
  intro e he hne heq
  exact hL name S.pathSet p hp (heq ▸ loaded_pathSet_covers_listed lower t S h e he hne)

-- non-vacuity: a tree listing `Sketch` (glyphs.S_ketch) FIRST and the default layer LAST loads, and the first-listed
-- directory is in the path set
example :
    let d : DirT := { contents := [], files := [] }
    let t : Tree := { layercontents := [("Sketch".toList, "glyphs.S_ketch".toList), ("b".toList, "glyphs.b".toList),
                                        (defaultName, glyphsDir)],
                      dirs := [("glyphs.S_ketch".toList, d), ("glyphs.b".toList, d), (glyphsDir, d)] }
    (loadTree id t).map (·.pathSet) = some ["glyphs.S_ketch".toList, "glyphs.b".toList] ∧
    (loadTree id t).map (fun S => S.layers.map (·.name)) = some [defaultName, "Sketch".toList, "b".toList] := by
  decide +kernel

end Layers
