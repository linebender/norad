import Norad.Lemmas.C16Stable
import Norad.Lemmas.C16List
import Norad.Lemmas.C16Plan
import Norad.Generated.StoreConsts
import Norad.Lemmas.StrCode
import Norad.Spec.C16
/-!
# C16 — data and image stores keep their invariants and their bytes

The model (`Model/C16.lean`) follows the code after the `fix:` commit that made the file-under-file rule
symmetric; the invariant is `Inv` (`Lemmas/C16.lean`).

The clause "keys consist of normal components only" is NOT part of `Inv`: it is false of the code
(`store_accepts_dot_components_counterexample`), which is recorded in `known_findings.txt`; the
guarded version is `normal_keys_partial`.
-/
namespace C16
open Path StoreOrder StorePlan AbsFS FontSave

theorem store_inv_step (st : State) (op : Op) (h : Inv st.store) : Inv (step st op).1.store := by
  cases op with
  | insert k b => exact inv_insert st.store k b h
  | remove k => exact inv_remove st.store k h
  | get k => exact inv_get st.store st.disk k h
  | clear => exact inv_clear st.store
  | iter => exact inv_iterFrom st.store st.disk _ h
  | _ => exact h

/-- **C16, invariant part**: under any sequence of store operations and disk changes -/
theorem store_inv_reachable (st : State) (ops : List Op) (h : Inv st.store) : Inv (run st ops).store := by
  induction ops generalizing st with
  | nil => exact h
  | cons op r ih => exact ih _ (store_inv_step st op h)

theorem store_inv_from_empty (kind : Kind) (d : Disk) (ops : List Op) :
    Inv (run ⟨⟨kind, []⟩, d⟩ ops).store :=
  store_inv_reachable _ ops (inv_empty kind)

/-- the invariant in the predicates the driver evaluates on the observed key sets and contents (`Spec/C16.lean`) -/
theorem inv_spec (s : Store) (h : Inv s) :
    (∀ k ∈ keys s, Spec.nonEmptyRelative k = true) ∧ Spec.prefixFree (keys s) = true ∧
    (s.kind = .image → ∀ k ∈ keys s, Spec.flat k = true) ∧
    (s.kind = .image → ∀ e ∈ s.items, ∀ b, e.2 = .loaded b → Spec.isPng b = true) := by
  refine ⟨fun k hk => ?_, ?_, fun hi k hk => beq_iff_eq.2 (h.keysOK.imageFlat hi k hk),
    fun hi e he b hb => List.isPrefixOf_iff_prefix.2 (h.imagePng hi e he b hb)⟩
  · have := h.keysOK.relative k hk
    rw [parse_abs] at this
    -- `this : (k.head? == some '/') = false`; the goal is `(!k.isEmpty && k.head? != some '/') = true`, `k ≠ []`
    simpa [Spec.nonEmptyRelative, h.keysOK.nonEmpty k hk] using this
  · simp only [Spec.prefixFree, Spec.properPrefix, List.all_eq_true, Bool.not_eq_true', Bool.and_eq_false_iff,
      bne_eq_false_iff_eq]
    intro a ha b hb
    by_cases hs : (parse b).startsWith (parse a) = true
    · exact Or.inr (h.keysOK.prefixFree a ha b hb hs)
    · exact Or.inl (Bool.eq_false_iff.2 hs)

/-- the invariant in the words of the statement, on raw key strings -/
theorem inv_in_words (s : Store) (h : Inv s) :
    (∀ k ∈ keys s, k ≠ [] ∧ k.head? ≠ some '/') ∧
    (∀ a ∈ keys s, ∀ b ∈ keys s, (parse b).startsWith (parse a) = true → parse a = parse b) ∧
    (s.kind = .image → ∀ k ∈ keys s, (parse k).comps.length = 1) ∧
    (s.kind = .image → ∀ e ∈ s.items, ∀ b, e.2 = .loaded b → pngSig <+: b) := by
  obtain ⟨h1, h2, h3, h4⟩ := inv_spec s h
  refine ⟨fun k hk => by simpa [Spec.nonEmptyRelative] using h1 k hk, fun a ha b hb hs => ?_,
    fun hi k hk => beq_iff_eq.1 (h3 hi k hk), fun hi e he b hb => List.isPrefixOf_iff_prefix.1 (h4 hi e he b hb)⟩
  have := List.all_eq_true.1 (List.all_eq_true.1 h2 a ha) b hb
  simpa [Spec.properPrefix, hs] using this

theorem rejected_insert_unchanged (s : Store) (k : Key) (b : Bytes) (e : Err)
    (h : (insert s k b).2 = .error e) : (insert s k b).1 = s := by
  revert h
  fun_cases insert s k b
  · exact fun _ => rfl
  · exact nofun

/-- the symmetric file-under-file rule (after the fix) -/
theorem insert_refuses_both_directions (s : Store) (k : Key) (b : Bytes) (e : Key × Cell)
    (hs : s.kind = .data) (he : e ∈ s.items) (hne : e.1 ≠ [])
    (hrel : (parse e.1).abs = false) (hk : (parse k).abs = false)
    (hneq : parse e.1 ≠ parse k)
    (hpre : (parse e.1).startsWith (parse k) = true ∨ (parse k).startsWith (parse e.1) = true) :
    ∃ err, (insert s k b).2 = .error err := by
  cases hv : validate s.kind k s.items b with
  | error err => exact ⟨err, by unfold insert; rw [hv]⟩
  | ok u =>
    -- `hk` is not needed: a key that passes is relative (`hf.relative`)
    have hf := (validate_ok_iff.1 hv).1
    exact absurd (hpre.elim (hf.below hs _ (List.mem_map_of_mem he))
      (hf.above hs _ (List.mem_map_of_mem he) hne hrel)) hneq

/-- **a loaded store satisfies the invariant**, and all its cells are lazy.  Which entries the two walks reach and
    refuse is `listData` / `listImages`; the visiting order is immaterial because the result is collected into a map. -/
theorem newStore_inv (kind : Kind) (t : Listing) (s : Store) (hwf : ListingWF t)
    (h : newStore kind t = .ok s) : Inv s ∧ ∀ e ∈ s.items, e.2 = .notLoaded := by
  cases kind with
  | data =>
    rw [newStore_data] at h
    split at h
    · cases h
    · cases h
      exact inv_of_listing hwf List.filter_sublist (fun e he => beq_iff_eq.1 (List.mem_filter.1 he).2) nofun
  | image =>
    rw [newStore_image] at h
    split at h
    · cases h
    · rename_i hany
      cases h
      refine inv_of_listing hwf List.filter_sublist (fun e he => ?_) fun _ e he => beq_iff_eq.1 (List.mem_filter.1 he).2
      exact Decidable.byContradiction fun hf => hany (List.any_eq_true.2 ⟨e, he, bne_iff_ne.2 hf⟩)

/-- the refusals of the two directory walks: a symbolic link anywhere in the data tree, anything but a plain file
    at the top level of the images directory -/
theorem listing_refusals (t : Listing) (e : List (List Char) × NodeKind) (he : e ∈ t) :
    (e.2 = .symlink → ∃ err, newStore .data t = .error err) ∧
    (e.1.length = 1 → e.2 ≠ .file → ∃ err, newStore .image t = .error err) := by
  constructor
  · intro hs
    exact ⟨.io, by rw [newStore_data, if_pos (List.any_eq_true.2 ⟨e, he, by rw [hs]; rfl⟩)]⟩
  · intro hl hf
    exact ⟨.subdir, by rw [newStore_image, if_pos (List.any_eq_true.2
      ⟨e, List.mem_filter.2 ⟨he, by rw [hl]; rfl⟩, by simpa using hf⟩)]⟩

/-- **the walks reach every plain file** (at any depth for data, at the top level for images; hidden names included)
    **and nothing else** -/
theorem listing_complete (t : Listing) :
    ((∀ e ∈ t, e.2 ≠ .symlink) → ∃ s, newStore .data t = .ok s ∧
        (∀ e ∈ t, e.2 = .file → keyOfNames e.1 ∈ keys s) ∧
        (∀ k ∈ keys s, ∃ e ∈ t, e.2 = .file ∧ k = keyOfNames e.1)) ∧
    ((∀ e ∈ t, e.1.length = 1 → e.2 = .file) → ∃ s, newStore .image t = .ok s ∧
        (∀ e ∈ t, e.1.length = 1 → keyOfNames e.1 ∈ keys s) ∧
        (∀ k ∈ keys s, ∃ e ∈ t, e.1.length = 1 ∧ e.2 = .file ∧ k = keyOfNames e.1)) := by
  constructor
  · intro h
    have hany : ¬ t.any (fun e => e.2 == NodeKind.symlink) = true := by
      rw [List.any_eq_true]
      exact fun ⟨e, he, hs⟩ => h e he (beq_iff_eq.1 hs)
    refine ⟨_, by rw [newStore_data, if_neg hany], ?_, ?_⟩
    · intro e he hf
      rw [keys_listed]
      exact List.mem_map_of_mem (List.mem_filter.2 ⟨he, by rw [hf]; rfl⟩)
    · intro k hk
      rw [keys_listed] at hk
      obtain ⟨e, he, rfl⟩ := List.mem_map.1 hk
      exact ⟨e, (List.mem_filter.1 he).1, beq_iff_eq.1 (List.mem_filter.1 he).2, rfl⟩
  · intro h
    have hany : ¬ (t.filter fun e => e.1.length == 1).any (fun e => e.2 != NodeKind.file) = true := by
      rw [List.any_eq_true]
      exact fun ⟨e, he, hs⟩ =>
        bne_iff_ne.1 hs (h e (List.mem_filter.1 he).1 (beq_iff_eq.1 (List.mem_filter.1 he).2))
    refine ⟨_, by rw [newStore_image, if_neg hany], ?_, ?_⟩
    · intro e he hl
      rw [keys_listed]
      exact List.mem_map_of_mem (List.mem_filter.2 ⟨he, by rw [hl]; rfl⟩)
    · intro k hk
      rw [keys_listed] at hk
      obtain ⟨e, he, rfl⟩ := List.mem_map.1 hk
      have hl : e.1.length = 1 := beq_iff_eq.1 (List.mem_filter.1 he).2
      exact ⟨e, (List.mem_filter.1 he).1, hl, h e (List.mem_filter.1 he).1 hl, rfl⟩

/-- the first access to a lazy entry returns what the disk holds *at that moment* (validated) -/
theorem lazy_get_is_disk_at_first_access (s : Store) (disk : Disk) (k k0 : Key)
    (h : find? s.items k = some (k0, .notLoaded)) :
    (get s disk k).2 = some (cellResult (loadItem s.kind disk k s.items)) ∧
    ∀ b, (get s disk k).2 = some (.ok b) → disk k = some b := by
  rw [get_of_lazy h]
  refine ⟨rfl, fun b hb => ?_⟩
  cases hc : loadItem s.kind disk k s.items with
  | notLoaded => rw [hc] at hb; cases hb
  | error e => rw [hc] at hb; cases hb
  | loaded b' => rw [hc] at hb; cases hb; exact (loadItem_loaded.1 hc).1

/-- the operations that do not look at contents (`Op.readOnly`, Lemmas/C16Stable.lean, is the other classification:
    those that leave keys and settled cells alone; `keys`, `isEmpty`, `setDisk` are in both) -/
def Op.noAccess : Op → Bool
  | .get _ => false
  | .iter => false
  | _ => true

/-- … they never read the disk, so a later first access sees only the disk of its own moment -/
theorem no_access_ignores_disk (s : Store) (d₁ d₂ : Disk) (ops : List Op)
    (h : ∀ op ∈ ops, op.noAccess = true) :
    (run ⟨s, d₁⟩ ops).store = (run ⟨s, d₂⟩ ops).store := by
  induction ops generalizing s d₁ d₂ with
  | nil => rfl
  | cons op r ih =>
    have hr : ∀ op ∈ r, op.noAccess = true := fun o ho => h o (List.mem_cons_of_mem _ ho)
    have hop := h op (List.mem_cons_self ..)
    cases op with
    | get k => cases hop
    | iter => cases hop
    | _ => exact ih _ _ _ hr

/-- once an entry has been read (successfully or not), every later `get` of it returns the same result, under any
    interleaving of read-only operations and changes of the disk -/
theorem get_stable_afterwards (s : Store) (disk : Disk) (k : Key) (r : Except Err Bytes)
    (h : (get s disk k).2 = some r) (ops : List Op) (hro : ∀ op ∈ ops, op.readOnly = true) :
    get (run ⟨(get s disk k).1, disk⟩ ops).store (run ⟨(get s disk k).1, disk⟩ ops).disk k
      = ((run ⟨(get s disk k).1, disk⟩ ops).store, some r) := by
  obtain ⟨c, hs, hr⟩ := get_settles (disk := disk) (find?_ne_none_of_get h)
  rw [(settled_run (st := ⟨(get s disk k).1, disk⟩) ops hro hs).get_eq, ← Option.some.inj (hr.symm.trans h)]

/-- a save that reaches the file system has forced every entry successfully; an entry that is (or turns out)
    unreadable or invalid makes the outcome `refused`, which carries no effect -/
theorem error_entry_blocks_save_before_effects (data images : Store) (dd di : Disk) :
    (∀ st ws, saveStores data images dd di = (st, .effects ws) →
        (forceUntilError data dd (keys data)).2 = none ∧
        (forceUntilError images di (keys images)).2 = none) ∧
    (∀ k, (forceUntilError data dd (keys data)).2 = some k →
        (saveStores data images dd di).2 = .refused k) ∧
    (∀ k, (forceUntilError data dd (keys data)).2 = none →
        (forceUntilError images di (keys images)).2 = some k →
        (saveStores data images dd di).2 = .refused k) := by
  unfold saveStores
  rcases forceUntilError data dd (keys data) with ⟨d1, _ | kd⟩
  · rcases forceUntilError images di (keys images) with ⟨i1, _ | ki⟩
    · exact ⟨fun _ _ _ => ⟨rfl, rfl⟩, fun _ h => (by cases h), fun _ _ h => (by cases h)⟩
    · exact ⟨fun _ _ h => (by cases h), fun _ h => (by cases h), fun _ _ h => (by cases h; rfl)⟩
  · exact ⟨fun _ _ h => (by cases h), fun _ h => (by cases h; rfl), fun _ h => (by cases h)⟩

/-- a save that reaches the file system writes one file per entry, under the entry's own key, with exactly the
    bytes of the entry's cell -/
theorem save_writes_verbatim (data images : Store) (dd di : Disk) (d1 i1 : Store)
    (ws : List WriteFile) (h : saveStores data images dd di = ((d1, i1), .effects ws)) :
    ws.map (·.key) = keys d1 ++ keys i1 ∧
    ∀ w ∈ ws, (w.kind = d1.kind ∧ (w.key, Cell.loaded w.bytes) ∈ d1.items) ∨
              (w.kind = i1.kind ∧ (w.key, Cell.loaded w.bytes) ∈ i1.items) := by
  have spec : ∀ {s : Store} {ws : List WriteFile}, writesOf s = some ws →
      ∀ w ∈ ws, w.kind = s.kind ∧ (w.key, Cell.loaded w.bytes) ∈ s.items := fun h w hw =>
    ⟨(writesOf_eq_some h).2 w hw, (writesOf_eq_some h).1 ▸ List.mem_map_of_mem (f := fun w => (w.key, _)) hw⟩
  revert h
  fun_cases saveStores data images dd di <;> intro h <;> cases h
  next a b _ ha _ hb =>
    exact ⟨by rw [List.map_append, writesOf_keys ha, writesOf_keys hb],
      fun w hw => (List.mem_append.1 hw).imp (spec ha w) (spec hb w)⟩

/-- the two `expect("internal error: should have been checked")` of `font.rs:529,548` are unreachable: under the
    invariant the cells written after the wipe are the cells forced before it -/
theorem save_never_panics (data images : Store) (dd di : Disk) (hd : Inv data) (hi : Inv images) :
    (saveStores data images dd di).2 ≠ .panic := by
  unfold saveStores
  split
  · exact SaveOutcome.noConfusion
  · rename_i d1 hfd
    split
    · exact SaveOutcome.noConfusion
    · rename_i i1 hfi
      obtain ⟨a, ha⟩ := Option.isSome_iff_exists.1 (writesOf_isSome_after_force hd hfd)
      obtain ⟨b, hb⟩ := Option.isSome_iff_exists.1 (writesOf_isSome_after_force hi hfi)
      rw [ha, hb]
      exact SaveOutcome.noConfusion

/-- `destination.parent().unwrap()` (`font.rs:531`) is unreachable: a relative key joined onto a
    directory path with at least one component (`<target>/data`) has a parent -/
theorem store_destination_has_parent (dir : P) (k : Key) (hdir : dir.comps ≠ [])
    (hrel : (parse k).abs = false) : ((dir.join (parse k)).parent?).isSome = true := by
  have he : ¬ dir.isEmpty = true := by
    unfold P.isEmpty
    rw [List.isEmpty_eq_false_iff.2 hdir, Bool.and_false]
    exact Bool.false_ne_true
  obtain ⟨l, hj⟩ : ∃ l, dir.join (parse k) = ⟨dir.abs, dir.comps ++ l⟩ :=
    ⟨_, by unfold P.join; rw [if_neg (by rw [hrel]; exact Bool.false_ne_true), if_neg he]⟩
  unfold P.parent?
  rw [hj, if_neg (by rw [List.isEmpty_iff, List.append_eq_nil_iff]; exact fun h => hdir h.1)]
  rfl

/-- under the invariant two different entries are never written to the same place, nor one below the other -/
theorem save_writes_never_collide (s : Store) (h : Inv s) (a b : Key) (ha : a ∈ keys s) (hb : b ∈ keys s)
    (hab : parse a ≠ parse b) :
    (parse b).startsWith (parse a) = false ∧ (parse a).startsWith (parse b) = false := by
  constructor
  · rw [← Bool.not_eq_true]; exact fun hc => hab (h.keysOK.prefixFree a ha b hb hc)
  · rw [← Bool.not_eq_true]; exact fun hc => hab (h.keysOK.prefixFree b hb a ha hc).symm

/-- **the tree a save leaves does not depend on the iteration order of the store** (C16, C10): the writes go to
    pairwise non-nested files, so any other order `ws₂` (any other `HashMap` order) leaves the same tree -/
theorem store_save_order_independent (s : Store) (h : Inv s)
    (hplain : ∀ k ∈ keys s, (parse k).allNormal = true) (base : Loc) (t : Tree)
    (ws₁ ws₂ : List WriteFile) (h1 : writesOf s = some ws₁) (hperm : ws₁.Perm ws₂) :
    writeAll t (storeWrites base ws₁) = writeAll t (storeWrites base ws₂) ∧
    ∀ w ∈ ws₂, writeAll t (storeWrites base ws₂) (destOf base w.key) = some (.file w.bytes) := by
  obtain ⟨hmem, hdist⟩ := writesOf_distinct h h1
  have hpw := storeWrites_nonNested h hplain base hmem hdist
  have hp2 : (storeWrites base ws₁).Perm (storeWrites base ws₂) := hperm.map _
  refine ⟨writes_order_independent t hp2 hpw, fun w hw => ?_⟩
  exact writeAll_lookup t _ ((hp2.pairwise_iff NonNested.symm).1 hpw) (destOf base w.key, w.bytes)
    (List.mem_map_of_mem hw)

/-! ## the same statements on the abstract file system of the FS family (C08/C09)

Each statement is `plan_runs_of` / `plan_eq_writeAll` (`Lemmas/C16Plan.lean`) at one kind: `store_` the data block,
`image_` the images block; `…_of` for any writes under pairwise different keys of the store, without the suffix for the
store's own (`writesOf`).  `image_plan_eq_writeAll` takes the fields of `Writable` one by one. -/

theorem store_plan_runs_of {s : Store} {t : APath} {fs : FS StoreOrder.Bytes} (h : Writable .data s t fs)
    (ws : List WriteFile) (hmemk : ∀ w ∈ ws, w.key ∈ keys s)
    (hdist : ws.Pairwise fun a b => parse a.key ≠ parse b.key) :
    (storeWrites (t ++ [storeDirName .data]) ws).Pairwise NonNested ∧
    ∃ fs', runEffs ((ws.map fun w => (parse w.key, w.bytes)).flatMap (planDataItem t)) fs = (none, fs') ∧
      treeOf fs' = writeAll (treeOf fs) (storeWrites (t ++ [storeDirName .data]) ws) :=
  plan_runs_of h ws hmemk hdist

theorem image_plan_runs_of {s : Store} {t : APath} {fs : FS StoreOrder.Bytes} (h : Writable .image s t fs)
    (ws : List WriteFile) (hmemk : ∀ w ∈ ws, w.key ∈ keys s)
    (hdist : ws.Pairwise fun a b => parse a.key ≠ parse b.key) :
    (storeWrites (t ++ [storeDirName .image]) ws).Pairwise NonNested ∧
    ∃ fs', runEffs (planImages t (ws.map fun w => (parse w.key, w.bytes))) fs = (none, fs') ∧
      treeOf fs' = writeAll (treeOf fs) (storeWrites (t ++ [storeDirName .image]) ws) :=
  plan_runs_of h ws hmemk hdist

theorem store_plan_runs {s : Store} {t : APath} {fs : FS StoreOrder.Bytes} (h : Writable .data s t fs)
    {ws : List WriteFile} (h1 : writesOf s = some ws) :
    ∃ fs', runEffs ((ws.map fun w => (parse w.key, w.bytes)).flatMap (planDataItem t)) fs = (none, fs') ∧
      treeOf fs' = writeAll (treeOf fs) (storeWrites (t ++ [storeDirName .data]) ws) :=
  (plan_runs_of h ws (writesOf_distinct h.inv h1).1 (writesOf_distinct h.inv h1).2).2

theorem image_plan_runs {s : Store} {t : APath} {fs : FS StoreOrder.Bytes} (h : Writable .image s t fs)
    {ws : List WriteFile} (h1 : writesOf s = some ws) :
    ∃ fs', runEffs (planImages t (ws.map fun w => (parse w.key, w.bytes))) fs = (none, fs') ∧
      treeOf fs' = writeAll (treeOf fs) (storeWrites (t ++ [storeDirName .image]) ws) :=
  (plan_runs_of h ws (writesOf_distinct h.inv h1).1 (writesOf_distinct h.inv h1).2).2

theorem store_plan_eq_writeAll {s : Store} {t : APath} {fs : FS StoreOrder.Bytes} (h : Writable .data s t fs)
    {ws₁ ws₂ : List WriteFile} (h1 : writesOf s = some ws₁) (hperm : ws₁.Perm ws₂) :
    ∃ fs₁ fs₂,
      runEffs ((ws₁.map fun w => (parse w.key, w.bytes)).flatMap (planDataItem t)) fs = (none, fs₁) ∧
      runEffs ((ws₂.map fun w => (parse w.key, w.bytes)).flatMap (planDataItem t)) fs = (none, fs₂) ∧
      treeOf fs₁ = treeOf fs₂ ∧
      ∀ w ∈ ws₂, node fs₂ (destOf (t ++ [storeDirName .data]) w.key) = some (.file w.bytes) :=
  plan_eq_writeAll h h1 hperm

theorem image_plan_eq_writeAll (s : Store) (h : Inv s) (hkind : s.kind = .image)
    (hplain : ∀ k ∈ keys s, (parse k).allNormal = true)
    (t : APath) (fs : FS StoreOrder.Bytes) (ws₁ ws₂ : List WriteFile) (h1 : writesOf s = some ws₁)
    (hperm : ws₁.Perm ws₂)
    (hT : ∀ m, m <+: t → m ≠ [] → isDir fs m = true)
    (hfresh : ∀ q, (t ++ [storeDirName .image]) <+: q → node fs q = none) :
    ∃ fs₁ fs₂,
      runEffs (planImages t (ws₁.map fun w => (parse w.key, w.bytes))) fs = (none, fs₁) ∧
      runEffs (planImages t (ws₂.map fun w => (parse w.key, w.bytes))) fs = (none, fs₂) ∧
      treeOf fs₁ = treeOf fs₂ ∧
      ∀ w ∈ ws₂, node fs₂ (destOf (t ++ [storeDirName .image]) w.key) = some (.file w.bytes) :=
  plan_eq_writeAll (kind := .image) ⟨h, fun _ => hkind, hplain, hT, hfresh⟩ h1 hperm

/-- **`iter`'s forcing does not depend on the map order**: every `get` touches only its own cell, and what it caches
    depends on the other entries only through their keys -/
theorem iter_forcing_order_independent (s : Store) (d : Disk) (ks₁ ks₂ : List Key) (hp : ks₁.Perm ks₂)
    (hd : ks₁.Pairwise fun a b => parse a ≠ parse b) :
    (iterFrom s d ks₁).1 = (iterFrom s d ks₂).1 := by
  rw [iterFrom_fst, iterFrom_fst]
  exact foldl_perm_of_comm (fun s k => (get s d k).1) (fun a b => parse a ≠ parse b)
    Ne.symm (fun s a b h => get_comm s d h) hp hd s

/-- … in particular for any order `ks` of a store's own keys (any `HashMap` order), for `iter` and for a save's
    forcing pass that finds no error -/
theorem iter_any_hash_order (s : Store) (h : Inv s) (d : Disk) (ks : List Key) (hp : ks.Perm (keys s)) :
    (iterFrom s d ks).1 = (iter s d).1 ∧
    ∀ s1, forceUntilError s d ks = (s1, none) → s1 = (iter s d).1 := by
  have h1 := iter_forcing_order_independent s d ks (keys s) hp
    ((hp.pairwise_iff Ne.symm).2 h.keysOK.pairwise_ne)
  refine ⟨h1, fun s1 hf => ?_⟩
  rw [forceUntilError_fst_of_none hf, ← iterFrom_fst]
  exact h1

/-- every result `iter` reports is what the store it leaves holds for that key: the reported results, too, do not
    depend on the visiting order -/
theorem iter_results_from_final_store (s : Store) (d : Disk) (ks : List Key) :
    ∀ k r, (k, r) ∈ (iterFrom s d ks).2 → find? s.items k ≠ none →
      ∀ d', get (iterFrom s d ks).1 d' k = ((iterFrom s d ks).1, some r) := by
  induction ks generalizing s with
  | nil => exact fun k r h => nomatch h
  | cons k' rest ih =>
    intro k r hm hfound d'
    rw [iterFrom_cons] at hm ⊢
    rcases List.mem_cons.1 hm with heq | hm'
    · obtain ⟨hk, hr⟩ := Prod.mk.inj heq
      subst hk hr
      obtain ⟨c, hs, hc⟩ := get_settles (disk := d) hfound
      rw [(settled_iterFrom (disk := d) rest hs).get_eq, hc]
      rfl
    · exact ih (get s d k').1 k r hm' (find?_get_ne_none s d k' hfound) d'

/-! ## source-level tie (constants re-extracted from `src/datastore.rs` / `src/font.rs` on every run) -/

/-- the signature `Image::validate_entry` tests is the eight-byte PNG signature of the model -/
theorem source_png_signature_matches_model : Generated.StoreConsts.pngSignature = pngSig := by decide +kernel

/-- the directories the stores are listed from and written to are the model's -/
theorem source_store_dirs_match_model :
    Generated.StoreConsts.dataDir = storeDirName .data ∧
    Generated.StoreConsts.imagesDir = storeDirName .image := by decide +kernel

/-- the loop of `save_impl` before the wipe visits both stores, as `saveStores` does: an image entry
    in error state refuses the save although the data store is clean -/
theorem source_force_loop_covers_both_stores :
    Generated.StoreConsts.forceLoopVisitsData = true ∧ Generated.StoreConsts.forceLoopVisitsImages = true ∧
    (saveStores ⟨.data, [(['a'], .loaded [1])]⟩ ⟨.image, [(['b'], .error .invalidImage)]⟩
        (fun _ => none) (fun _ => none)).2 = .refused ['b'] := by decide +kernel

/-- read through `StrCode.chars`: `String.toList` of a literal is slow to evaluate in the kernel -/
theorem variantName_eq_chars (e : Err) : e.variantName = StrCode.chars (match e with
    | .emptyPath => "EmptyPath" | .pathIsAbsolute => "PathIsAbsolute" | .dirUnderFile => "DirUnderFile"
    | .subdir => "Subdir" | .invalidImage => "InvalidImage" | .io => "Io") := by
  rw [StrCode.chars_eq]
  cases e <;> rfl

/-- the early returns of the two `validate_entry` are the model's, as sets of `StoreError` variants
    (the order of independent early returns is not part of the property) -/
theorem source_validate_clauses_match_model :
    (Generated.StoreConsts.dataClauses.all fun v => (dataClauseErrs.map Err.variantName).contains v) = true ∧
    ((dataClauseErrs.map Err.variantName).all fun v => Generated.StoreConsts.dataClauses.contains v) = true ∧
    (Generated.StoreConsts.imageClauses.all fun v => (imageClauseErrs.map Err.variantName).contains v) = true ∧
    ((imageClauseErrs.map Err.variantName).all fun v => Generated.StoreConsts.imageClauses.contains v) = true := by
  rw [funext variantName_eq_chars]
  decide +kernel

/-- FALSE on the tree (policy decision, shared with C09):
    `theorem normal_keys : Inv s → ∀ k ∈ keys (run ⟨s, d⟩ ops).store, (parse k).allNormal`.
    Guarded version: if only keys with normal components are ever inserted (and the store starts
    with such keys), all keys have normal components. -/
theorem normal_keys_partial (st : State) (ops : List Op)
    (h0 : ∀ k ∈ keys st.store, (parse k).allNormal = true)
    (hins : ∀ k b, Op.insert k b ∈ ops → (parse k).allNormal = true) :
    ∀ k ∈ keys (run st ops).store, (parse k).allNormal = true := by
  induction ops generalizing st with
  | nil => exact h0
  | cons op r ih =>
    refine ih _ (fun k hk => ?_) fun k b hm => hins k b (List.mem_cons_of_mem _ hm)
    rcases mem_keys_step hk with hk | ⟨b, rfl⟩
    · exact h0 k hk
    · exact hins k b (List.mem_cons_self ..)

/-- the code accepts `..` and `.` components: `../x` in an empty data store; `./a` next to `a`
    (two keys for one file); the image key `..` -/
theorem store_accepts_dot_components_counterexample :
    (insert ⟨.data, []⟩ ['.','.','/','x'] []).2 = .ok () ∧
    (insert (insert ⟨.data, []⟩ ['a'] []).1 ['.','/','a'] []).2 = .ok () ∧
    (insert (insert ⟨.data, []⟩ ['b'] []).1 ['a','/','.','.','/','b'] []).2 = .ok () ∧
    (insert ⟨.image, []⟩ ['.','.'] pngSig).2 = .ok () ∧
    (insert ⟨.image, []⟩ ['.'] pngSig).2 = .ok () ∧
    (parse ['.','.','/','x']).allNormal = false := by decide +kernel

/-- a key with a trailing separator passes every clause (it is `a` by components) although it names
    a directory: `a/` -/
theorem store_accepts_trailing_separator_counterexample :
    (insert ⟨.data, []⟩ ['a','/'] []).2 = .ok () ∧ (insert ⟨.image, []⟩ ['a','/'] pngSig).2 = .ok () ∧
    dirish ['a','/'] = true ∧ parse ['a','/'] = parse ['a'] := by decide +kernel

/-! ## not modelled

See `docs/notes/C16.md`: the tree a save leaves for stores holding `.`/`..`/trailing-separator keys (recorded findings), and
I/O errors other than not-found / is-a-directory / not-a-directory. -/

-- the fix: `a` after `a/b` is refused, as `a/b` after `a` always was
example : (insert (insert ⟨.data, []⟩ ['a','/','b'] []).1 ['a'] []).2 = .error .dirUnderFile := by decide +kernel
example : (insert (insert ⟨.data, []⟩ ['a'] []).1 ['a','/','b'] []).2 = .error .dirUnderFile := by decide +kernel
example : (insert (insert ⟨.data, []⟩ ['a','/','b'] []).1 ['a','/','c'] []).2 = .ok () := by decide +kernel
-- replacing the contents of an existing key is not refused by the symmetric rule
example : (insert (insert ⟨.data, []⟩ ['a','/','b'] []).1 ['a','/','/','b'] [1]).2 = .ok () := by decide +kernel
-- images: seven bytes of the signature are not enough, sub-directories are refused
example : (insert ⟨.image, []⟩ ['a'] (pngSig.take 7)).2 = .error .invalidImage := by decide +kernel
example : (insert ⟨.image, []⟩ ['a','/','b'] pngSig).2 = .error .subdir := by decide +kernel
-- laziness: the bytes are those of the disk handed to the first `get`, a second disk is ignored
example :
    let s : Store := ⟨.data, [(['a'], .notLoaded)]⟩
    let d1 : Disk := fun _ => some [1]
    let d2 : Disk := fun _ => some [2]
    (get (get s d1 ['a']).1 d2 ['a']).2 = some (.ok [1]) := by decide +kernel
-- … also across an `iter` and a disk change in between (`get_stable_afterwards` is not vacuous)
example :
    let s : Store := ⟨.data, [(['a'], .notLoaded), (['b'], .notLoaded)]⟩
    let d1 : Disk := fun _ => some [1]
    let d2 : Disk := fun _ => none
    let st := run ⟨(get s d1 ['a']).1, d1⟩ [.setDisk d2, .iter, .get ['b']]
    (get st.store st.disk ['a']).2 = some (.ok [1]) ∧ (get st.store st.disk ['b']).2 = some (.error .io) := by decide +kernel
-- `newStore_inv` is not vacuous: a tree `a/` (directory) with the file `a/b` is well formed and listed
example : ListingWF [([['a']], NodeKind.dir), ([['a'], ['b']], NodeKind.file)] :=
  .of_take (by decide) (by decide) (by decide)
example : (newStore .data [([['a']], NodeKind.dir), ([['a'], ['b']], NodeKind.file)]) =
    .ok ⟨.data, [(['a', '/', 'b'], .notLoaded)]⟩ := by decide +kernel
example : ∃ e, newStore .image [([['a']], NodeKind.dir), ([['a'], ['b']], NodeKind.file)] = .error e :=
  ⟨.subdir, by decide +kernel⟩
-- order independence is not vacuous: two entries, both orders, same tree, each file holds its bytes
example :
    let ws : List (Loc × StoreOrder.Bytes) := [([['d'], ['a']], [1]), ([['d'], ['b'], ['c']], [2])]
    (writeAll (fun _ => none) ws [['d'], ['a']] = some (.file [1])) ∧
    (writeAll (fun _ => none) ws.reverse [['d'], ['a']] = some (.file [1])) ∧
    (writeAll (fun _ => none) ws [['d'], ['b']] = some .dir) ∧
    (writeAll (fun _ => none) ws.reverse [['d'], ['b']] = some .dir) := by decide +kernel
-- … and nested destinations (`a` and `a/b`, excluded by the invariant) do NOT commute
example :
    let w1 : Loc × StoreOrder.Bytes := ([['a']], [1])
    let w2 : Loc × StoreOrder.Bytes := ([['a'], ['b']], [2])
    writeAll (fun _ => none) [w1, w2] [['a']] ≠ writeAll (fun _ => none) [w2, w1] [['a']] := by decide +kernel
-- hidden names are listed like any other: `.hidden`, `.cache/x`, `...`
example : newStore .data [([['.', 'h']], .file), ([['.', 'c']], .dir), ([['.', 'c'], ['x']], .file),
      ([['.', '.', '.']], .file)] =
    .ok ⟨.data, [(['.', 'h'], .notLoaded), (['.', 'c', '/', 'x'], .notLoaded), (['.', '.', '.'], .notLoaded)]⟩ := by
  decide +kernel
-- the data block evaluated: keys `a` and `b/c`, target `/t` existing and empty
example :
    let fs : FS StoreOrder.Bytes := [([['t']], .dir)]
    let r := runEffs (([(⟨.data, ['a'], [1]⟩ : WriteFile), ⟨.data, ['b', '/', 'c'], [2]⟩].map
      fun w => (parse w.key, w.bytes)).flatMap (planDataItem [['t']])) fs
    r.1 = none ∧ node r.2 [['t'], ['d', 'a', 't', 'a'], ['b'], ['c']] = some (.file [2]) ∧
    node r.2 [['t'], ['d', 'a', 't', 'a'], ['b']] = some .dir := by decide +kernel
-- the images block evaluated: keys `a` and `b`, target `/t` existing and empty
example :
    let fs : FS StoreOrder.Bytes := [([['t']], .dir)]
    let r := runEffs (planImages [['t']] ([(⟨.image, ['a'], [1]⟩ : WriteFile), ⟨.image, ['b'], [2]⟩].map
      fun w => (parse w.key, w.bytes))) fs
    r.1 = none ∧ node r.2 [['t'], ['i', 'm', 'a', 'g', 'e', 's'], ['b']] = some (.file [2]) ∧
    node r.2 [['t'], ['i', 'm', 'a', 'g', 'e', 's']] = some .dir := by decide +kernel
-- `iter_forcing_order_independent` is not vacuous: two lazy entries, both orders, same store
example :
    let s : Store := ⟨.data, [(['a'], .notLoaded), (['b'], .notLoaded)]⟩
    let d : Disk := fun k => if k = ['a'] then some [1] else none
    (iterFrom s d [['a'], ['b']]).1 = (iterFrom s d [['b'], ['a']]).1 ∧
    (iterFrom s d [['a'], ['b']]).1.items = [(['a'], .loaded [1]), (['b'], .error .io)] := by decide +kernel
-- an error entry refuses the save; a clean store reaches the effects
example : (saveStores ⟨.data, [(['a'], .notLoaded)]⟩ ⟨.image, []⟩ (fun _ => none) (fun _ => none)).2
    = .refused ['a'] := by decide +kernel
example : (saveStores ⟨.data, [(['a'], .notLoaded)]⟩ ⟨.image, []⟩ (fun _ => some [7]) (fun _ => none)).2
    = .effects [⟨.data, ['a'], [7]⟩] := by decide +kernel

end C16
