import Norad.Lemmas.C18Spec
import Norad.Lemmas.C18SpecRead
import Norad.Lemmas.C18Float
import Norad.Model.DSEscape
import Norad.Model.DSTables
import Norad.Generated.DsConsts
/-!
# C18 — saving and loading a designspace document preserves it

`toTree`/`fromTree`/`serializeWithin`/`readValue` transcribe `designspace.rs` and `serde_xml_plist.rs` (`Model/C18.lean`,
with the two repairs of known_findings.txt); `Spec.specRead` is the independent reader, `Spec.StatedWF` the
well-formedness of the property statement (`Spec/C18.lean`).  The codec (number, base64 and date formatting of
`std`/`base64`/`plist`) is a parameter; what is assumed of it is the hypothesis `CodecLaws c`.  The document theorems are
about the tree (`saveLoad` is `fromTree` after `toTree`); the XML text and its escaping (`Model/DSEscape`,
`escape_unescape_*`) are not composed with them.
-/
namespace C18
open C18.Spec

/-- **plist_glue_roundtrip**: every value of every type except `Uid` (strings and keys without blanks at
    an end, dates that `to_xml_format` can print, reals that are not NaN) is written as a tagged element
    that `read_xml_value` reads back as the same value; nested arrays and dictionaries of any depth. -/
theorem plist_glue_roundtrip {c : Codec} (L : CodecLaws c) (v : PV)
    (hs : pvStated v = true) (hc : pvClean v = true) (hd : pvDates c v = true) :
    (serializeWithin c v).map (readValue c) = .ok (some v) := by
  obtain ⟨t, h1, h2⟩ := pv_rt L v hs hc hd
  simp [h1, Out.map, h2]

/-- the same for a whole lib dictionary: the key/value pairs come back in order, and inserting them into
    an empty `Dictionary` rebuilds the dictionary -/
theorem plist_glue_roundtrip_dict {c : Codec} (L : CodecLaws c) (kvs : KVs)
    (hs : kvsStated kvs = true) (hc : kvsClean kvs = true) (hd : kvsDates c kvs = true) :
    (dictInner c kvs).map (fun ts => (readPairs c ts).map KVs.nil.insertAll) = .ok (some kvs) := by
  obtain ⟨ts, h1, h2⟩ := kvs_rt L kvs hs hc hd
  simp [h1, Out.map, h2, KVs.insertAll_nil kvs (kvsStated_distinct kvs hs)]

/- Full strength (`pvClean` dropped) is FALSE on the tree: quick-xml's serde deserializer trims text. -/

/-- finding `lib-text-trimmed`: a blank-only string is written as `<string>   </string>` and read back
    empty, whatever the codec -/
theorem plist_glue_roundtrip_counterexample (c : Codec) :
    (serializeWithin c (.str "   ")).map (readValue c) = .ok (some (.str "")) := by
  have : trimXml "   " = "" := by decide
  simp [serializeWithin, leafInner, Out.map, readValue, elemText, rawText, this]

/-- … and two keys that differ by a leading blank collapse into one entry holding the later value -/
theorem plist_glue_key_collision_counterexample (c : Codec) :
    (serializeWithin c (.dict (.cons "a" (.bool true) (.cons " a" (.bool false) .nil)))).map (readValue c)
      = .ok (some (.dict (.cons "a" (.bool false) .nil))) := by
  have h1 : trimXml "a" = "a" := by decide
  have h2 : trimXml " a" = "a" := by decide
  simp [serializeWithin, dictInner, Out.map, Out.bind, readValue, readPairs, readKey, textElem, elemText,
    rawText, h1, h2, KVs.insertAll, KVs.insert]

/-- `Uid` is refused with an error, not a panic -/
theorem plist_glue_uid_is_error (c : Codec) (n : Nat) : serializeWithin c (.uid n) = .err := by
  simp [serializeWithin]

/-- finding `date-out-of-range-panics`: without the guard the statement is false — a date that
    `plist::Date::to_xml_format` cannot print (`Date::from(SystemTime)` does not validate) panics -/
theorem glue_never_panics_counterexample (c : Codec) (d : Date) (h : c.showDate d = none) :
    serializeWithin c (.dict (.cons "k" (.date d) .nil)) = .panic := by
  simp [serializeWithin, dictInner, leafInner, h, Out.map, Out.bind]

/- Full strength, as the property states it:
     `StatedWF d → saveLoad c d = .ok (some d)`
   is FALSE on the tree (after the two fix: commits) for two recorded reasons: lib strings/keys with a blank
   at an end are trimmed by quick-xml's deserializer (`LibTextClean`), and a date `to_xml_format` cannot
   print panics (`DatesPrintable`).  `WellFormed c d = StatedWF d && DatesPrintable c d && LibTextClean d`. -/

/-- **ds_roundtrip**: a well-formed document (at least one axis and source, non-empty locations, rules with
    condition sets and substitutions, `map` non-empty when present, no NaN, lib values inside the plist
    model, plus the two guards) saved and loaded is the same document: format, every axis with range or
    discrete values and mappings, hidden flag, rule processing mode (also `last` without rules), rules,
    sources, instances with all seven optional attributes, document and instance libs. -/
theorem ds_roundtrip {c : Codec} (L : CodecLaws c) (d : Doc) (h : WellFormed c d = true) :
    saveLoad c d = .ok (some d) := by
  obtain ⟨insts, ls, -, -, ht, hf⟩ := doc_rt L d h
  rw [saveLoad, ht, Out.map, hf]

/-- `ds_roundtrip` read at the processing mode; the hypothesis on `d.rules` is not used (that `last` without rules is
    written at all is `rulesIsEmpty`, tied to the source by `source_skip_predicates_match_model`) -/
theorem ds_roundtrip_processing_last {c : Codec} (L : CodecLaws c) (d : Doc) (h : WellFormed c d = true)
    (_ : d.rules = ⟨.last, []⟩) : (saveLoad c d).map (Option.map (·.rules.processing)) = .ok (some d.rules.processing) := by
  rw [ds_roundtrip L d h]; rfl

/-- `Some([])` and `None` of an axis `map` are written alike and read as `None`, whatever the codec: the reason
    `StatedWF` asks for a non-empty list (stated on `mapNodes`/`readOptMaps`; no document is exhibited) -/
theorem ds_roundtrip_counterexample_empty_map (c : Codec) :
    mapNodes c (some []) = mapNodes c none ∧ readOptMaps c (childrenNamed "map" (mapNodes c (some []))) = some none := by
  simp [mapNodes, childrenNamed, readOptMaps]

/-- non-vacuity of `ds_roundtrip`: a document with a discrete hidden axis, a map, a rule, `processing =
    last`, an instance and a lib is well-formed for every codec (it holds no date) -/
def sampleDoc : Doc :=
  { format := ⟨1084227584⟩,
    axes := [⟨"Weight", "wght", ⟨1137180672⟩, true, some ⟨0⟩, none, some [⟨0⟩, ⟨1065353216⟩], some [⟨⟨0⟩, ⟨1⟩⟩]⟩],
    rules := ⟨.last, [⟨some "r", [⟨[]⟩, ⟨[⟨"Weight", some ⟨0⟩, none⟩]⟩], [⟨"a", "a.alt"⟩]⟩]⟩,
    sources := [⟨none, some "Regular", none, "a.ufo", none, [⟨"Weight", none, some ⟨0⟩, none⟩]⟩],
    instances := [⟨some "F", none, none, none, none, none, some "bold", [⟨"Weight", some ⟨0⟩, some ⟨0⟩, some ⟨1⟩⟩],
      .cons "k" (.arr (.cons (.bool true) (.cons (.data [1]) .nil))) .nil⟩],
    lib := .cons "a b" (.str "x  y") (.cons "n" (.int 18446744073709551615) .nil) }

example (c : Codec) : WellFormed c sampleDoc = true := by
  have h1 : StatedWF sampleDoc = true := by decide +kernel
  have h2 : LibTextClean sampleDoc = true := by decide +kernel
  have h3 : DatesPrintable c sampleDoc = true := by
    simp [DatesPrintable, sampleDoc, kvsDates, pvDates, pvsDates]
  simp [WellFormed, h1, h2, h3]

/- Full strength (`XmlSafe` dropped) is FALSE on the tree: quick-xml writes tab, CR, LF and the characters
   XML forbids as they are (findings `attr-whitespace-unescaped`, `text-cr-unescaped`,
   `forbidden-char-written`).  `Spec.conformView` is what a conforming XML 1.0 processor reads from such
   output (line-end and attribute-value normalisation, `none` = not well-formed). -/

/-- **ds_spec_reader_finds_values**: for a well-formed document whose strings are `XmlSafe`, a conforming XML
    processor reads the written tree unchanged, and the independent reader `Spec.specRead` — which knows
    only the designspace specification's element and attribute names and Apple's plist DTD, walks paths,
    does not trim, checks the root element — finds exactly the original document in it. -/
theorem ds_spec_reader_finds_values {c : Codec} (L : CodecLaws c) (d : Doc) (h : WellFormed c d = true)
    (hx : XmlSafe d = true) :
    (toTree c d).map (fun t => (conformView t).bind (specRead c)) = .ok (some d) := by
  obtain ⟨insts, ls, e1, e2, ht, hf⟩ := doc_rt L d h
  have W := wellFormed_parts h
  obtain ⟨hi, hl⟩ := spec_top L d insts ls W.lib W.instances e1 e2
  rw [ht, Out.map, conformView_plain _ (toTree_plain L d _ hx ht)]
  exact congrArg _ (specRead_of_fromTree hf hi hl)

/-- the independent reader does not trim: one string with blanks at both ends, written by `serializeWithin`, is
    read back as it is by `plistObject` (in general: `pv_spec` has no `pvClean` hypothesis) -/
theorem ds_spec_reader_no_trim (c : Codec) :
    (serializeWithin c (.str "  a ")).map (plistObject c) = .ok (some (.str "  a ")) := by
  simp [serializeWithin, leafInner, Out.map, plistObject, leafText]

/-- finding `attr-whitespace-unescaped`, as a test vector of `normAttr` (the reason for the guard `XmlSafe`; neither
    `toTree` nor `specRead` occurs) -/
theorem ds_spec_reader_counterexample_attr : normAttr "We\tig\nht" = "We ig ht" := by decide +kernel

/-- finding `text-cr-unescaped`, as a test vector of `normText`: CR and CR LF in text are read as LF -/
theorem ds_spec_reader_counterexample_cr : normText "a\rb\r\nc" = "a\nb\nc" := by decide +kernel

/-- finding `forbidden-char-written`: an element with a forbidden character in an attribute value (as `toTree` writes
    one for such a file name) is not XML at all -/
theorem ds_spec_reader_counterexample_forbidden (n : String) :
    conformView (.elem n [("filename", "a\x01b")] []) = none := by
  have : hasForbidden "a\x01b" = true := by decide
  simp [conformView, normAttrs, this]

example : XmlSafe sampleDoc = true := by decide +kernel

/-- **codec_laws_satisfiable**: `CodecLaws` holds of `refCodec`, whose integer part (`Int.repr`,
    `String.toInt?` + the `i64`/`u64` range tests) and base64 part (`b64enc`/`b64dec`) are the functions the
    driver runs against the strings Rust wrote.  Its float and date parts are stand-ins (injective decimal
    renderings): for Rust's shortest-round-trip `Display` of `f32`/`f64` and the `time` crate's RFC 3339
    formatting the laws REMAIN HYPOTHESES, checked by the driver on every string of every case. -/
theorem codec_laws_satisfiable : ∃ c : Codec, CodecLaws c := ⟨refCodec, codecLaws_refCodec⟩

/-- the integer law, for the real implementation: every `i64` and every `u64` survives `to_string` →
    `IntWrapper` (i64 first, then u64; no `0x` prefix) -/
theorem int_codec_roundtrip (i : Int) (h1 : i64Min ≤ i) (h2 : i ≤ u64Max) :
    readIntText refCodec (intShow i) = some i := readIntText_show codecLaws_refCodec i h1 h2

/-- `ds_roundtrip` for `refCodec` (stand-in floats and dates): no hypothesis about the codec is left -/
theorem ds_roundtrip_refCodec (d : Doc) (h : WellFormed refCodec d = true) :
    saveLoad refCodec d = .ok (some d) := ds_roundtrip codecLaws_refCodec d h

/-- the codec hypothesis holds, with no hypothesis left, for real integers, base64 and dates (floats: the stand-in) -/
theorem codec_laws_real_dates : CodecLaws realDateCodec :=
  codecLaws_refCodec.withDates _ _ date_codec_roundtrip fun d s h => by
    rw [rfc3339Show, Option.ite_none_right_eq_some] at h
    rw [← Option.some.inj h.2, String.toList_ofList]
    exact showStamp_safe _

/-- **codec_laws_simple_floats**: `CodecLaws` for the codec whose `f32`/`f64` `Display` is the exact decimal
    on the simple fragment (`±N/2^j`: all integers below 2^24 / 2^53, and dyadics with `N` odd and
    `N·5^(j-1) ≤ 2^23 / 2^52`) and whose `FromStr` reads a decimal that denotes such a value exactly; real
    integers, base64 and dates.  Outside the fragment a stand-in is printed: there the general
    shortest-round-trip law REMAINS the named hypothesis (`CodecLaws.f32_rt`/`f64_rt` of the codec of a run),
    checked by the driver on every string. -/
theorem codec_laws_simple_floats : CodecLaws simpleFloatCodec :=
  codec_laws_real_dates.withFloats _ _ _ _
    (fun x _ => by simp only [String.toList_ofList, readFloat_showFloat, Option.map_some])
    (fun x => String.toList_ofList ▸ showFloat_ne fmt32 x.bits)
    (fun x => String.toList_ofList ▸ showFloat_safe fmt32 x.bits)
    (fun x _ => by simp only [String.toList_ofList, readFloat_showFloat, Option.map_some])
    (fun x => String.toList_ofList ▸ showFloat_safe fmt64 x.bits)

theorem simple_float_exact (f : FloatFmt) (bits : Nat) (neg : Bool) (N j : Nat)
    (h : simpleOf f bits = some (neg, N, j)) :
    showFloat f bits = showDyadic neg N j ∧ parseDec (showDyadic neg N j) = some (neg, N * 5 ^ j, j) ∧
    readFloat f (showFloat f bits) = some bits := by
  refine ⟨by simp [showFloat, h], parseDec_showDyadic neg N j, readFloat_showFloat f bits⟩

/-- `ds_roundtrip` instantiated with that codec: no hypothesis about the codec is left -/
theorem ds_roundtrip_simple_floats (d : Doc) (h : WellFormed simpleFloatCodec d = true) :
    saveLoad simpleFloatCodec d = .ok (some d) := ds_roundtrip codec_laws_simple_floats d h

/-- spot checks of the calendar conversion at the ends of the range and at the plist and Unix epochs -/
example : civilFromDays (-719528) = (0, 1, 1) ∧ daysFromCivil 0 1 1 = -719528 ∧
    civilFromDays 2932896 = (9999, 12, 31) ∧ daysFromCivil 9999 12 31 = 2932896 ∧
    civilFromDays 0 = (1970, 1, 1) ∧ civilFromDays 11323 = (2001, 1, 1) ∧
    civilFromDays 11016 = (2000, 2, 29) ∧ daysFromCivil 2000 2 29 = 11016 ∧
    civilFromDays (-25509) = (1900, 2, 28) ∧ civilFromDays (-25508) = (1900, 3, 1) := by decide +kernel

/-- the real printer refuses exactly what the model calls unprintable (the `date-out-of-range-panics` finding) -/
example : rfc3339Show ⟨253402300800, 0⟩ = none ∧ rfc3339Show ⟨-62167219201, 0⟩ = none ∧
    dateLo' = dateLo ∧ dateHi' = dateHi := by decide +kernel

/-- non-vacuity with a date and data in the lib -/
example : WellFormed refCodec { sampleDoc with lib := .cons "d" (.date ⟨0, 5⟩) (.cons "b" (.data [255, 0, 7]) .nil) } = true := by
  decide +kernel

/-- non-vacuity: the guards hold of a lib with every value type -/
example (c : Codec) : kvsStated (.cons "s" (.str "a b") (.cons "i" (.int (-5)) (.cons "r" (.real ⟨0⟩)
    (.cons "b" (.bool true) (.cons "d" (.data [1, 2]) (.cons "a" (.arr (.cons (.dict .nil) .nil)) .nil)))))) = true
    ∧ kvsClean (.cons "s" (.str "a b") .nil) = true
    ∧ kvsDates c (.cons "s" (.str "a b") (.cons "a" (.arr (.cons (.dict .nil) .nil)) .nil)) = true := by
  refine ⟨by decide, by decide, by simp [kvsDates, pvDates, pvsDates]⟩

theorem unescGo_plain (ch : Char) (r : List Char) (h : ch ≠ '&') :
    unescGo xmlEntity none (ch :: r) = (unescGo xmlEntity none r).map (ch :: ·) := by
  simp [unescGo, h]

/-- `hsub`: the set escapes nothing but the five characters that have an entity; `hamp`: it escapes `&`, so a character
    left as it is starts no reference -/
theorem unescGo_entity (set : List Char) (ch : Char) (rest : List Char)
    (hsub : ∀ x ∈ set, x = '&' ∨ x = '<' ∨ x = '>' ∨ x = '"' ∨ x = '\'') (hamp : '&' ∈ set) :
    unescGo xmlEntity none (escChar set ch ++ rest) = (unescGo xmlEntity none rest).map (ch :: ·) := by
  unfold escChar
  by_cases hm : set.contains ch = true
  · simp only [hm, if_true]
    have := hsub ch (by simpa using hm)
    rcases this with h | h | h | h | h <;> subst h <;>
      simp [entityOf, unescGo, resolveRef, xmlEntity]
  · simp only [hm]
    have : ch ≠ '&' := by
      intro e; subst e; exact hm (by simpa using hamp)
    simp [unescGo, this]

theorem unescape_escWith (set : List Char)
    (hsub : ∀ x ∈ set, x = '&' ∨ x = '<' ∨ x = '>' ∨ x = '"' ∨ x = '\'') (hamp : '&' ∈ set) :
    ∀ s : List Char, unescGo xmlEntity none (escWith set s) = some s
  | [] => by simp [escWith, unescGo]
  | ch :: r => by
    simp only [escWith]
    rw [unescGo_entity set ch _ hsub hamp, unescape_escWith set hsub hamp r]
    rfl

/-- **escape_unescape_text / _attr**: element content (escaped by `escape_list (Text, Partial)`) and attribute
    values (`(DoubleQAttr, Partial)`) are read back unchanged by quick-xml's `unescape`, every string -/
theorem escape_unescape_text (s : List Char) : unescape (escText s) = some s :=
  unescape_escWith escTextSet (by decide) (by decide) s

theorem escape_unescape_attr (s : List Char) : unescape (escAttr s) = some s :=
  unescape_escWith escAttrSet (by decide) (by decide) s

/-- an escaped attribute value contains neither the quote it is delimited by nor `<` -/
theorem escAttr_has_no_quote (s : List Char) : '"' ∉ escAttr s ∧ '<' ∉ escAttr s := by
  induction s with
  | nil => simp [escAttr, escWith]
  | cons ch r ih =>
    have h : '"' ∉ escChar escAttrSet ch ∧ '<' ∉ escChar escAttrSet ch := by
      unfold escChar
      by_cases hm : escAttrSet.contains ch = true
      · have : ch = '"' ∨ ch = '&' ∨ ch = '<' ∨ ch = '>' := by simpa [escAttrSet] using hm
        rcases this with h | h | h | h <;> subst h <;> decide
      · have h1 : ch ≠ '"' := by intro e; subst e; exact hm (by decide)
        have h2 : ch ≠ '<' := by intro e; subst e; exact hm (by decide)
        have hm' : ch ∉ escAttrSet := by simpa using hm
        simp only [List.contains_eq_mem, hm', decide_false, Bool.false_eq_true, if_false, List.mem_singleton]
        exact ⟨fun e => h1 e.symm, fun e => h2 e.symm⟩
    simp only [escAttr, escWith, List.mem_append, not_or] at ih ⊢
    exact ⟨⟨h.1, ih.1⟩, ⟨h.2, ih.2⟩⟩

/-! ## source-level tie: the tables regenerated from the Rust sources of THIS run (`Generated/DsConsts.lean`,
    tools/extract_ds_consts.py: norad's designspace.rs and serde_xml_plist.rs, vendored quick-xml 0.37,
    plist 1.x, time 0.3) are the ones the model uses -/

section source
open Generated.DsConsts C18.Tables

/-- quick-xml's `_escape` replacements are the model's `entityOf`, arm by arm -/
theorem source_entity_table_eq_model :
    entityTable.all (fun p => entityOf (Char.ofNat p.1) == some p.2.toList) = true ∧ entityTable.length = 9 := by
  decide +kernel

/-- the serializer path norad uses (Serializer::new defaults, never changed by `save`): strings go through
    `escape_list`, level `Partial`; text escapes exactly the model's `escTextSet`, attribute values (double
    quoted) exactly `escAttrSet` -/
theorem source_escape_sets_eq_model :
    strEscapeFn = "escape_list" ∧ dsCallsQuoteLevel = false ∧ attrQuoteChar = '"'.toNat ∧
    (escapeList.find? fun r => r.1 = textTarget ∧ r.2.1 = defaultLevel).map (·.2.2) = some (escTextSet.map Char.toNat) ∧
    (escapeList.find? fun r => r.1 = attrTarget ∧ r.2.1 = defaultLevel).map (·.2.2) = some (escAttrSet.map Char.toNat) ∧
    escapePartial = escTextSet.map Char.toNat := by
  decide +kernel

/-- the reader's entity table is the model's `xmlEntity`; character references as in `charRef` -/
theorem source_unescape_table_eq_model :
    xmlEntities.all (fun p => xmlEntity p.1.toList == some (Char.ofNat p.2)) = true ∧ xmlEntities.length = 5 ∧
    charRefHexPrefix = "x" ∧ charRefZeroRefused = true := by
  decide +kernel

/-- over the extracted tables themselves: every replacement `_escape` can write is resolved back to the
    byte it replaces by `resolve_xml_entity` / `parse_number` -/
theorem source_unescape_inverts_escape :
    entityTable.all (fun p => unescGo (entitiesOf xmlEntities) none p.2.toList == some [Char.ofNat p.1]) = true := by
  decide +kernel

/-- `save`: empty elements are not expanded, the indentation character is XML white space (it cannot reach
    the tree), the declaration names UTF-8, the root element has the model's name (the extracted `dsTrailingNewline`
    is in no conjunct) -/
theorem source_writer_settings_match_model :
    defaultExpandEmpty = false ∧ dsCallsExpandEmpty = false ∧ (dsIndentChar = 32 ∨ dsIndentChar = 9) ∧
    declOk dsDeclaration = true ∧ rootName (treeOf (toTree kc fullDoc)) = Generated.DsConsts.rootName := by
  decide +kernel

/-- attribute names: with everything present the model writes exactly the `@` fields of the struct, with
    everything optional absent exactly those without a `skip_serializing_if` -/
theorem source_attr_tables_match_model :
    sameSet (written (docAttrs kc fullDoc)) (attrsOf fields "DesignSpaceDocument") = true ∧
    sameSet (written (axisAttrs kc fullAxis)) (attrsOf fields "Axis") = true ∧
    sameSet (written (axisAttrs kc minAxis)) (alwaysAttrsOf fields "Axis") = true ∧
    sameSet (written (mapAttrs kc ⟨z, z⟩)) (attrsOf fields "AxisMapping") = true ∧
    sameSet (written (rulesAttrs ⟨.last, []⟩)) (attrsOf fields "Rules") = true ∧
    sameSet (written (ruleAttrs fullRule)) (attrsOf fields "Rule") = true ∧
    sameSet (written (ruleAttrs minRule)) (alwaysAttrsOf fields "Rule") = true ∧
    sameSet (written (subAttrs ⟨"a", "b"⟩)) (attrsOf fields "Substitution") = true ∧
    sameSet (written (conditionAttrs kc fullCond)) (attrsOf fields "Condition") = true ∧
    sameSet (written (conditionAttrs kc minCond)) (alwaysAttrsOf fields "Condition") = true ∧
    sameSet (written (sourceAttrs fullSource)) (attrsOf fields "Source") = true ∧
    sameSet (written (sourceAttrs minSource)) (alwaysAttrsOf fields "Source") = true ∧
    sameSet (written (instanceAttrSpec fullInstance)) (attrsOf fields "Instance") = true ∧
    sameSet (written (instanceAttrSpec minInstance)) (alwaysAttrsOf fields "Instance") = true ∧
    sameSet (written (dimensionAttrs kc fullDim)) (attrsOf fields "Dimension") = true ∧
    sameSet (written (dimensionAttrs kc minDim)) (alwaysAttrsOf fields "Dimension") = true := by
  decide +kernel

/-- child elements and list wrappers, the same way -/
theorem source_element_tables_match_model :
    sameSet (childNames (treeOf (toTree kc fullDoc))) (elemsOf fields "DesignSpaceDocument") = true ∧
    sameSet (childNames (treeOf (toTree kc minDoc))) (alwaysElemsOf fields "DesignSpaceDocument") = true ∧
    sameSet (childNames (axisNode kc fullAxis)) (elemsOf fields "Axis") = true ∧
    sameSet (childNames (axisNode kc minAxis)) (alwaysElemsOf fields "Axis") = true ∧
    sameSet (childNames (rulesNode kc ⟨.last, [fullRule]⟩)) (elemsOf fields "Rules") = true ∧
    sameSet (childNames (ruleNode kc fullRule)) (elemsOf fields "Rule") = true ∧
    sameSet (childNames (conditionSetNode kc ⟨[fullCond]⟩)) (elemsOf fields "ConditionSet") = true ∧
    sameSet (childNames (sourceNode kc fullSource)) (elemsOf fields "Source") = true ∧
    sameSet (childNames (treeOf (instanceNode kc fullInstance))) (elemsOf fields "Instance") = true ∧
    sameSet (childNames (treeOf (instanceNode kc minInstance))) (alwaysElemsOf fields "Instance") = true ∧
    wrappers.all (fun w =>
      (if w.1 = "location" then itemsUnder (sourceNode kc fullSource) w.1
       else itemsUnder (treeOf (toTree kc fullDoc)) w.1) == [w.2]) = true := by
  decide +kernel

/-- what `#[serde(default)]` re-creates on read, and what is required -/
theorem source_defaults_match_model :
    sameSet (defaultsOf fields "DesignSpaceDocument") ["instances", "lib", "rules"] = true ∧
    readWrappedDefault (instanceOf kc) "instances" "instance" [] = some [] ∧ readLib kc [] = some .nil ∧
    readRules kc [] = some ⟨.first, []⟩ ∧
    (readWrapped (axisOf kc) "axes" "axis" []).isNone = true ∧
    (readWrapped (sourceOf kc) "sources" "source" []).isNone = true ∧
    sameSet (defaultsOf fields "Axis") ["@hidden"] = true ∧ readHidden none = some false ∧
    sameSet (defaultsOf fields "Rules") ["@processing", "rule"] = true ∧
    readRules kc [.elem "rules" [] []] = some ⟨.first, []⟩ ∧
    sameSet (defaultsOf fields "ConditionSet") ["condition"] = true ∧
    conditionSetOf kc (.elem "conditionset" [] []) = some ⟨[]⟩ ∧
    sameSet (defaultsOf fields "Rule") [] = true ∧ (ruleOf kc (.elem "rule" [] [])).isNone = true ∧
    sameSet (defaultsOf fields "Instance") ["lib"] = true ∧
    sameSet (defaultsOf fields "Source") [] = true ∧ (readLocation kc []).isNone = true := by
  decide +kernel

/-- the two skip predicates that are norad's own code -/
theorem source_skip_predicates_match_model :
    skipOf fields "Axis" "@hidden" = "is_false" ∧ isFalseIsNegation = true ∧
    skipOf fields "DesignSpaceDocument" "rules" = "Rules::is_empty" ∧ rulesEmptyTestsRules = true ∧
    rulesEmptyTestsProcessing = !rulesIsEmpty ⟨.last, []⟩ ∧ rulesIsEmpty ⟨.first, []⟩ = true := by
  decide +kernel

/-- `RuleProcessing` under `rename_all`, and its default -/
theorem source_processing_names_match_model :
    processingNames = [showProcessing .first, showProcessing .last] ∧
    processingDefault = showProcessing .first ∧ readOptProcessing none = some .first ∧
    readProcessing (showProcessing .last) = some .last := by
  decide +kernel

/-- the plist glue: element written per value kind, value kind read per element, `key` and the wrapping
    `dict` on both sides -/
theorem source_glue_keywords_match_model :
    glueWriteTags.all (fun p => match samplePV p.1 with
      | some v => glueTag kc v == p.2
      | none => false) = true ∧ glueWriteTags.length = 9 ∧
    glueReadKeywords.all (fun p => kindRead (readValue kc (sampleElem p.1)) == p.2) = true ∧
    glueReadKeywords.length = 9 ∧
    childNames (treeOf (serializeWithin kc (.dict someLib))) = [glueKeyTagWritten, "true"] ∧
    readKey (.elem glueKeyTagRead [] []) = some "" ∧
    (treeOf ((libNodes kc someLib).map fun l => Tree.elem "" [] l) |> fun t => itemsUnder t "lib") = [glueWrapperWritten] ∧
    readLib kc [.elem "lib" [] [.elem glueWrapperRead [] []]] = some .nil := by
  decide +kernel

/-- plist dates go through `Rfc3339` both ways; the years it can print, `lo ..< hi`, are the model's range of
    printable dates (`dateLo`, `dateHi`, in seconds since the Unix epoch) -/
theorem source_date_format_matches_model :
    dateFromFormat = "Rfc3339" ∧ dateToFormat = "Rfc3339" ∧
    daysFromCivil rfc3339YearLo 1 1 * 86400 = dateLo ∧ daysFromCivil rfc3339YearHi 1 1 * 86400 - 1 = dateHi ∧
    daysFromCivil 2001 1 1 * 86400 = (plistEpochUnix : Int) := by
  decide +kernel

end source

end C18
