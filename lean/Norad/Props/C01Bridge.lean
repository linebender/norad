import Norad.Props.C04
import Norad.Props.C02
import Norad.Props.C13
import Norad.Props.C06
/-!
# C01 / C04 — the un-modelled parts instantiated with the models of the other properties

`font_roundtrip` (Props/C01) is proved for every `P : Parts` and every `L : PartLaws P`.  Here `P` is
instantiated with
* glyph files: the glif writer `Glif.encodeGlif` and parser `Glif.parseGlif` (C02 / C12 models);
  the law `glyph_rt` is **discharged** by C02 `glif_roundtrip_partial_no_object_libs`;
* the rule-bearing font-info fields: C13's `Info` / `RawInfo` with `toRaw` and `loadInfo`, validity =
  `C13.validate` (which is `Rules`, C13 `validate_iff_rules`); the law `rest_rt` is **discharged** for them
  by C13 `entry_points_agree`; the font-info fields that carry no rule stay a token (serde derive).
What remains an assumption after this file is listed in `docs/notes/C01.md`.  The data and image files are in
`Props/C01Stores.lean`.
-/
namespace RT.Bridge
open RT

/-- `C13.WellTyped` as a Boolean: the numeric ranges of the Rust types (`u32`, `u8`) -/
def wtB (i : C13.Info) : Bool :=
  (i.gasp.getD []).all (fun n => decide (n ≤ FI.u32Max)) && (i.selection.getD []).all (fun n => decide (n ≤ 255)) &&
  (match i.familyClass with
   | some p => decide (p.1 ≤ 255) && decide (p.2 ≤ 255)
   | none => true)

theorem wellTyped_of_wtB (i : C13.Info) (h : wtB i = true) : C13.WellTyped i := by
  simp only [wtB, Bool.and_eq_true, List.all_eq_true, decide_eq_true_eq] at h
  obtain ⟨⟨h1, h2⟩, h3⟩ := h
  refine ⟨?_, ?_, ?_⟩
  · intro l hl n hn; rw [hl] at h1; exact h1 n hn
  · intro l hl n hn; rw [hl] at h2; exact h2 n hn
  · intro p hp; rw [hp] at h3; simpa using h3

section
variable (f : Glif.Fmt) (rd : Glif.Str → Option Nat) (nc : Glif.Color → Glif.Color) (ok : Nat → Prop)

/-- norad's own codecs for the parts `Model/RoundTrip.lean` does not look into: glif files and the rule-bearing font-info
    fields (the other fields stay a token; `tableParts` below has them as the field table, with glyphs as tokens: the two
    instances are not combined) -/
def noradParts : Parts where
  Glyph := Glif.Glyph
  GlifFile := List Glif.Ev
  encGlyph := Glif.encodeGlif f
  decGlyph := fun evs => match Glif.parseGlif rd evs with
    | .ok g => some g
    | .error _ => none
  Rest := C13.Info × String
  RestFile := C13.RawInfo × String
  encRest := fun r => (C13.toRaw r.1, r.2)
  decRest := fun r => match C13.loadInfo r.1 with
    | .loaded i => some (i, r.2)
    | _ => none
  restValid := fun r => decide (C13.validate r.1 = .ok) && wtB r.1

/-- the guards of C02's round-trip theorem (each forced by a recorded C02 finding) -/
structure GlifGuard (g : Glif.Glyph) : Prop where
  valid : Glif.ValidGlyph ok g
  noObjectLibs : Glif.NoObjectLibs g
  noKey : Glif.dictGet Glif.objectLibsKey g.lib = none
  libStable : Glif.reindentDict f.indent g.lib = g.lib
  note : ∀ n, g.note = some n → Glif.trimText n = n ∧ n ≠ []
  advance : (Glif.isNormal g.width = true ∨ g.width = 0) ∧ (Glif.isNormal g.height = true ∨ g.height = 0)
  /-- no contour without points (the writer emits `<contour></contour>`, the parser drops it: C02's `keepContours`) -/
  contoursNonempty : ∀ c, c ∈ g.contours → c.points ≠ []

/-- **the named hypotheses, discharged**: `glyph_rt` by C02 `glif_roundtrip_partial_no_object_libs`
    (itself built on `parse_encode`), `rest_rt` by C13 `entry_points_agree` -/
def noradLaws (hc : Glif.Codec f rd nc ok) : PartLaws (noradParts f rd) where
  glyphOK := GlifGuard f ok
  normGlyph := Glif.normG nc
  glyph_rt := by
    intro g h
    have := Glif.glif_roundtrip_partial_no_object_libs hc h.valid h.noObjectLibs h.noKey h.libStable h.note h.advance
      h.contoursNonempty
    simp only [noradParts, this]
  rest_rt := by
    intro r h
    obtain ⟨i, t⟩ := r
    simp only [noradParts, Bool.and_eq_true, decide_eq_true_eq] at h
    have := (C13.entry_points_agree i (wellTyped_of_wtB i h.2)).2.2 h.1
    simp only [noradParts, this]

/-- **C01 with norad's glif codec and C13's font-info rules in place of the tokens**: each glyph comes back as
    `Glif.normG nc g` (colours to 3 decimals) -/
theorem font_roundtrip_norad (hc : Glif.Codec f rd nc ok) (x : Font (noradParts f rd))
    (hv : ValidFont (noradLaws f rd nc ok hc) x) (hn : NumbersOK x) :
    ∃ t x', saveFont x = .ok t ∧ loadFont t = .ok x' ∧ FontEquiv (noradLaws f rd nc ok hc) x x' :=
  font_roundtrip (noradLaws f rd nc ok hc) x hv hn

theorem okT_normT (h0 : ok 0) (h1 : ok Glif.f64One) {t : Glif.Transform} (ht : Glif.OkT ok t) :
    Glif.OkT ok (Glif.normT t) := by
  obtain ⟨a, b, c, d, e, g⟩ := ht
  unfold Glif.normT
  -- every coefficient is kept, or replaced by 1.0 (scales) or 0 (the others)
  refine ⟨?_, ?_, ?_, ?_, ?_, ?_⟩ <;> simp only <;> split <;> assumption

theorem glyphIdents_normG (g : Glif.Glyph) : Glif.Spec.glyphIdents (Glif.normG nc g) = Glif.Spec.glyphIdents g := by
  simp only [Glif.Spec.glyphIdents, Glif.normG, List.filterMap_map, List.flatMap_map, Function.comp_def,
    Glif.pAnchor, Glif.pGuideline, Glif.pComponent, Glif.pContour, Glif.pPoint]

/-- **discharged**: a glyph inside the C02 guard that has been written and read back (`normG`) is inside the guard
    again — for every number guard `ok` that admits `0` and `1.0` (the values an omitted transform coefficient is read
    as).  With this, `norad_output_is_fixed_point` holds for norad's own glif codec without a glyph assumption. -/
theorem noradNorm (hc : Glif.Codec f rd nc ok) (h0 : ok 0) (h1 : ok Glif.f64One) :
    NormLaws (noradLaws f rd nc ok hc) where
  norm_ok := by
    intro (g : Glif.Glyph) (h : GlifGuard f ok g)
    have hv := h.valid
    show GlifGuard f ok (Glif.normG nc g)
    -- what the parser returns for a part differs from the part in colours and transforms only
    exact {
      valid := {
        name := hv.name, width := hv.width, height := hv.height, codepoints := hv.codepoints
        codepointsNodup := hv.codepointsNodup
        image := fun i hi => by
          obtain ⟨i0, hi0, rfl⟩ := Option.map_eq_some_iff.1 hi
          exact ⟨(hv.image i0 hi0).name, okT_normT ok h0 h1 (hv.image i0 hi0).transform⟩
        anchors := fun a ha => by
          obtain ⟨a0, ha0, rfl⟩ := List.mem_map.1 ha
          exact { hv.anchors a0 ha0 with }
        guidelines := fun a ha => by
          obtain ⟨a0, ha0, rfl⟩ := List.mem_map.1 ha
          exact { hv.guidelines a0 ha0 with }
        contours := fun c hc' => by
          obtain ⟨c0, hc0, rfl⟩ := List.mem_map.1 hc'
          have hc := hv.contours c0 hc0
          refine ⟨fun p hp => ?_, ?_, hc.ident⟩
          · obtain ⟨p0, hp0, rfl⟩ := List.mem_map.1 hp
            exact { hc.points p0 hp0 with }
          · have : (Glif.pContour c0).points.map Glif.toPt = c0.points.map Glif.toPt := by
              simp [Glif.pContour, Glif.pPoint, Glif.toPt, List.map_map, Function.comp_def]
            rw [this]; exact hc.legal
        components := fun k hk => by
          obtain ⟨k0, hk0, rfl⟩ := List.mem_map.1 hk
          have := hv.components k0 hk0
          exact ⟨this.base, okT_normT ok h0 h1 this.transform, this.ident⟩
        idents := by rw [glyphIdents_normG]; exact hv.idents }
      noObjectLibs := {
        anchors := fun a ha => by obtain ⟨a0, _, rfl⟩ := List.mem_map.1 ha; rfl
        guidelines := fun a ha => by obtain ⟨a0, _, rfl⟩ := List.mem_map.1 ha; rfl
        contours := fun c hc' => by
          obtain ⟨c0, _, rfl⟩ := List.mem_map.1 hc'
          exact ⟨rfl, fun p hp => by obtain ⟨p0, _, rfl⟩ := List.mem_map.1 hp; rfl⟩
        components := fun a ha => by obtain ⟨a0, _, rfl⟩ := List.mem_map.1 ha; rfl }
      noKey := h.noKey, libStable := h.libStable, note := h.note, advance := h.advance
      contoursNonempty := fun c hc' => by
        obtain ⟨c0, hc0, rfl⟩ := List.mem_map.1 hc'
        exact fun he => h.contoursNonempty c0 hc0 (List.map_eq_nil_iff.1 he) }

/-- **C04 with the glif part instantiated**: no assumption about glyphs is left (`glyph_rt` by C02
    `glif_roundtrip_partial_no_object_libs`, `norm_ok` by `noradNorm`) -/
theorem norad_output_is_fixed_point_glif (hc : Glif.Codec f rd nc ok) (h0 : ok 0) (h1 : ok Glif.f64One)
    (x : Font (noradParts f rd)) (hv : ValidFont (noradLaws f rd nc ok hc) x) (hn : NumbersOK x) :
    ∃ t x', saveFont x = .ok t ∧ loadFont t = .ok x' ∧
      ∃ t' x'', saveFont x' = .ok t' ∧ loadFont t' = .ok x'' ∧ FontEquiv (noradLaws f rd nc ok hc) x' x'' :=
  norad_output_is_fixed_point (noradLaws f rd nc ok hc) (noradNorm f rd nc ok hc h0 h1) x hv hn

/-- the validity field of `ValidFont` for this instance is the specification's rule set (C13) together with the numeric
    ranges of the Rust types (`wtB`) -/
theorem restValid_iff_rules (i : C13.Info) (t : String) :
    (noradParts f rd).restValid (i, t) = true ↔ C13.Rules i ∧ wtB i = true := by
  simp only [noradParts, Bool.and_eq_true, decide_eq_true_eq, C13.validate_iff_rules]

end

section table
variable {L : Type} (C : FT.LeafCodec L)

/-- the "rest" of the font info is a value of the whole field table (`fontinfoTy`, 108 fields); a value that the
    table cannot express is not valid -/
def tableParts : Parts where
  Glyph := String
  GlifFile := String
  encGlyph := id
  decGlyph := some
  Rest := FT.Val L
  RestFile := Option PV
  encRest := FT.enc C fontinfoTy
  decRest := fun o => o.bind (FT.dec C fontinfoTy)
  restValid := fun v => (FT.enc C fontinfoTy v).isSome

/-- **`rest_rt` discharged** by `fontinfo_fieldtable_roundtrip`: what remains assumed of the font-info serde is
    `FT.LeafLaw` (primitive leaves through serde and the `plist` crate) -/
def tableLaws (hL : FT.LeafLaw C) : PartLaws (tableParts C) where
  glyphOK := fun _ => True
  normGlyph := id
  glyph_rt := fun _ _ => rfl
  rest_rt := by
    intro v h
    simp only [tableParts, Option.isSome_iff_exists] at h
    obtain ⟨p, hp⟩ := h
    simp only [tableParts, hp, Option.bind_some]
    exact fontinfo_fieldtable_roundtrip C hL v p hp

/-- C01 with the font-info fields as the field table of the source -/
theorem font_roundtrip_fieldtable (hL : FT.LeafLaw C) (x : Font (tableParts C))
    (hv : ValidFont (tableLaws C hL) x) (hn : NumbersOK x) :
    ∃ t x', saveFont x = .ok t ∧ loadFont t = .ok x' ∧ FontEquiv (tableLaws C hL) x x' :=
  font_roundtrip (tableLaws C hL) x hv hn

end table

/-! ## layer containers: the structural fields of `ValidFont` follow from C06's invariant

`Layers.SInv` holds in every state the public container API can reach (C06 `inv_reachable`, with the real
file-name functions: C07Containers `real_inv_reachable` / `layer_paths_distinct_mod_lower`) and in every
loaded state (`inv_loaded`).  The font the save routine sees has one model layer per container layer, one
glyph entry per entry of the `contents` index (that is what `Layer::save_with_options` iterates). -/

section containers
variable {P : Parts} (lower : Layers.Str → Layers.Str)

def ofStr (s : Layers.Str) : String := String.ofList s

theorem ofStr_inj : Function.Injective ofStr := by
  intro a b h
  have := congrArg String.toList h
  simpa [ofStr] using this

/-- the model layer of a container layer; `glyph` supplies the glyph values (irrelevant to C06) -/
def layerOf (glyph : Layers.Str → Layers.Str → P.Glyph) (K : Layers.Layer) : Layer P :=
  { name := ofStr K.name, dir := ofStr K.path,
    glyphs := K.contents.map fun e => { name := ofStr e.1, file := ofStr e.2, tok := glyph K.name e.1 } }

/-- **discharged by C06**: layer directories pairwise distinct, default layer first in `glyphs`, glif
    file names distinct inside every layer — the fields `dirs`, `defFirst`, `files` of `ValidFont` -/
theorem container_fields (glyph : Layers.Str → Layers.Str → P.Glyph) (S : Layers.LayerSet)
    (h : Layers.SInv lower S) :
    nodupS ((S.layers.map (layerOf glyph)).map (·.dir)) = true ∧
    (∃ l r, S.layers.map (layerOf glyph) = l :: r ∧ l.dir = glyphsDir) ∧
    ∀ l ∈ S.layers.map (layerOf glyph), nodupS (l.glyphs.map (·.file)) = true := by
  refine ⟨?_, ?_, ?_⟩
  · rw [nodupS_iff]
    simpa [layerOf, List.map_map, Function.comp_def] using (Layers.paths_nodup lower S h).map ofStr_inj
  · obtain ⟨d, rest, h1, h2⟩ := h.headDefault
    refine ⟨layerOf glyph d, rest.map (layerOf glyph), by simp [h1], ?_⟩
    simp only [layerOf, h2]
    rfl
  · intro l hl
    obtain ⟨K, hK, rfl⟩ := List.mem_map.1 hl
    rw [nodupS_iff]
    have hd : ((K.contents.map (·.2)).map lower).Nodup := by
      simpa [List.map_map, Function.comp_def] using (h.layersInv K hK).distinct
    simpa [layerOf, List.map_map, Function.comp_def] using (List.Nodup.of_map lower hd).map ofStr_inj

end containers

/-! ## source-level tie: the extracted gate table of the glif writer, probed on the model encoder

`Generated.RoundTrip.glifWriter` (from `src/glyph/serialize.rs`) names, per element and attribute, the value
at which the attribute is omitted.  `probe` evaluates the model encoder of C02 (`Model/GlifWrite.lean`) on an element
holding that value (the attribute must be absent) and on one holding another value (it must be present). -/

namespace Source
open Glif Generated.RoundTrip

def PF : Fmt := { shw := fun _ => ['0'], fmt3 := fun _ => "0.000".toList, indent := [] }
def has (k : String) (as : List Attr) : Bool := as.any (fun a => a.1 == k.toList)

def pt0 : Point := { x := 0, y := 0, typ := .line, smooth := true, name := some ['n'], ident := some ['i'] }
def an0 : Anchor := { x := 0, y := 0, name := some ['n'], color := some ⟨0, 0, 0, 0⟩, ident := some ['i'] }
def gd0 : Guideline := { line := .angle 0 0 0, name := some ['n'], color := some ⟨0, 0, 0, 0⟩, ident := some ['i'] }
/-- every coefficient away from its identity value -/
def tr0 : Transform := { xScale := 0, xyScale := f64One, yxScale := f64One, yScale := 0, xOffset := f64One, yOffset := f64One }
def cp0 : Component := { base := ['b'], transform := tr0, ident := some ['i'] }
def im0 : Image := { fileName := ['f'], color := some ⟨0, 0, 0, 0⟩, transform := tr0 }

/-- the transform with the coefficient `a` at the value `v` named by the table (`0` / `1`) -/
def trAt (a v : String) : Transform :=
  let b : Nat := if v == "1" then f64One else 0
  match a with
  | "xScale" => { tr0 with xScale := b } | "xyScale" => { tr0 with xyScale := b } | "yxScale" => { tr0 with yxScale := b }
  | "yScale" => { tr0 with yScale := b } | "xOffset" => { tr0 with xOffset := b } | _ => { tr0 with yOffset := b }

def isCoeff (a : String) : Bool := ["xScale", "xyScale", "yxScale", "yScale", "xOffset", "yOffset"].contains a

/-- does the model encoder omit `attr` of `elem` exactly at `omitted` (and write it otherwise)? -/
def probe (w : WRow) : Bool :=
  let a := w.attr
  let om := w.omitted
  match w.elem with
  | "point" =>
    has a (pointAttrs PF pt0) &&
    (match a, om with
     | "name", "none" => !has a (pointAttrs PF { pt0 with name := none })
     | "identifier", "none" => !has a (pointAttrs PF { pt0 with ident := none })
     | "smooth", "false" => !has a (pointAttrs PF { pt0 with smooth := false })
     | "type", "offcurve" => !has a (pointAttrs PF { pt0 with typ := .off, smooth := false }) &&
         [C11.PT.move, .line, .curve, .qcurve].all (fun t => has a (pointAttrs PF { pt0 with typ := t }))
     | "x", "-" => true | "y", "-" => true
     | _, _ => false)
  | "anchor" =>
    has a (anchorAttrs PF an0) &&
    (match a, om with
     | "name", "none" => !has a (anchorAttrs PF { an0 with name := none })
     | "color", "none" => !has a (anchorAttrs PF { an0 with color := none })
     | "identifier", "none" => !has a (anchorAttrs PF { an0 with ident := none })
     | "x", "-" => true | "y", "-" => true
     | _, _ => false)
  | "guideline" =>
    has a (guidelineAttrs PF gd0) &&
    (match a, om with
     | "name", "none" => !has a (guidelineAttrs PF { gd0 with name := none })
     | "color", "none" => !has a (guidelineAttrs PF { gd0 with color := none })
     | "identifier", "none" => !has a (guidelineAttrs PF { gd0 with ident := none })
     | "x", "none" => !has a (guidelineAttrs PF { gd0 with line := .horizontal 0 })
     | "y", "none" => !has a (guidelineAttrs PF { gd0 with line := .vertical 0 })
     | "angle", "none" => !has a (guidelineAttrs PF { gd0 with line := .vertical 0 })
     | _, _ => false)
  | "component" =>
    has a (componentAttrs PF cp0) &&
    (if isCoeff a then (om == "0" || om == "1") && !has a (componentAttrs PF { cp0 with transform := trAt a om })
     else match a, om with
       | "base", "-" => true
       | "identifier", "none" => !has a (componentAttrs PF { cp0 with ident := none })
       | _, _ => false)
  | "image" =>
    has a (imageAttrs PF im0) &&
    (if isCoeff a then (om == "0" || om == "1") && !has a (imageAttrs PF { im0 with transform := trAt a om })
     else match a, om with
       | "fileName", "-" => true
       | "color", "none" => !has a (imageAttrs PF { im0 with color := none })
       | _, _ => false)
  | "contour" =>
    (match a, om with
     | "identifier", "none" =>
       (match contourEvs PF { points := [], ident := some ['i'] }, contourEvs PF { points := [], ident := none } with
        | .start _ (some as1) :: _, .start _ (some as0) :: _ => has a as1 && !has a as0
        | _, _ => false)
     | _, _ => false)
  | "advance" =>
    has a (advanceAttrs PF f64One f64One) &&
    (match a, om with
     | "width", "0" => !has a (advanceAttrs PF 0 f64One)
     | "height", "0" => !has a (advanceAttrs PF f64One 0)
     | _, _ => false)
  | "unicode" =>
    (match a, om, encodeGlif PF { name := ['g'], codepoints := [65] } with
     | "hex", "-", _ :: _ :: .empty n (some as) :: _ => n == sUnicode && has a as
     | _, _, _ => false)
  | "glyph" =>
    (match om, encodeGlif PF { name := ['g'] } with
     | "-", _ :: .start n (some as) :: _ => n == sGlyph && has a as
     | _, _ => false)
  | _ => false

def evName : Ev → Option Str
  | .start n _ => some n
  | .empty n _ => some n
  | .startLib _ _ => some sLib
  | _ => none

def hasEv (n : Str) (g : Glyph) : Bool := (encodeGlif PF g).any (fun e => evName e == some n)

def g0 : Glyph := { name := ['g'] }

/-- does the model encoder leave the element out exactly under the extracted gate? -/
def probeElement (r : String × String) : Bool :=
  match r.1, r.2 with
  | "advance", "neither-normal" =>
    !hasEv sAdvance g0 && hasEv sAdvance { g0 with width := f64One } && hasEv sAdvance { g0 with height := f64One } &&
    !hasEv sAdvance { g0 with width := 1, height := 0x7FF0000000000000 }
  | "image", "none" => !hasEv sImage g0 && hasEv sImage { g0 with image := some im0 }
  | "lib", "empty" => !hasEv sLib g0 && hasEv sLib { g0 with lib := [(['k'], PV.atom "b1")] }
  | "note", "none" => !hasEv sNote g0 && hasEv sNote { g0 with note := some ['n'] }
  | "outline", "both-empty" =>
    !hasEv sOutline g0 && hasEv sOutline { g0 with components := [cp0] } &&
    hasEv sOutline { g0 with contours := [{ points := [pt0], ident := none }] }
  | "contour", "each" => !hasEv sContour g0 && hasEv sContour { g0 with contours := [{ points := [pt0], ident := none }] }
  | "component", "each" => !hasEv sComponent g0 && hasEv sComponent { g0 with components := [cp0] }
  | "anchor", "each" => !hasEv sAnchor g0 && hasEv sAnchor { g0 with anchors := [an0] }
  | "guideline", "each" => !hasEv sGuideline g0 && hasEv sGuideline { g0 with guidelines := [gd0] }
  | "unicode", "each" => !hasEv sUnicode g0 && hasEv sUnicode { g0 with codepoints := [65] }
  | _, _ => false

end Source

open Generated.RoundTrip Source in
/-- **every row of the gate table read from `serialize.rs` passes its probe on the model encoder** (`Glif.pointAttrs`,
    `anchorAttrs`, `guidelineAttrs`, `componentAttrs`, `imageAttrs`, `contourEvs`, `advanceAttrs`, `encodeGlif`): the encoder
    omits the attribute at the value the row names and writes it at ONE other value (`pt0`, `an0`, `tr0` …) — a two-point
    test per row, not equality of the gate predicates -/
theorem source_glif_gates_match_model_encoder : glifWriter.all probe = true := by decide +kernel

open Generated.RoundTrip Source in
/-- the same for whole elements (advance, image, outline, lib, note, the lists) -/
theorem source_glif_element_gates_match_model_encoder : glifElementGates.all probeElement = true := by
  decide +kernel

open Generated.RoundTrip in
/-- the sizes of `Generated.RoundTrip.glifWriter` / `glifElementGates` as extracted from `serialize.rs`: the two gate
    theorems above are `all` over these tables and hold of a truncated extraction too; it fails here -/
theorem source_glif_writer_table_size : glifWriter.length = 39 ∧ glifElementGates.length = 10 := by decide

end RT.Bridge
