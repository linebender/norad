import Norad.Lemmas.Kerning
import Norad.Lemmas.SortCanon
import Norad.Generated.Upconv
import Norad.Generated.UpconvSite
/-!
# C15 / C10 — the passes themselves inside the source-level tie

`Kern.Gen.*` (`Norad/Generated/Upconv.lean`, written by `tools/extract_upconv.py` on every run from `validate_groups` in
`src/groups.rs` and `make_unique_group_name`, `find_known_kerning_groups`, `upconvert_kerning` in `src/upconversion.rs`)
ARE the model functions of `Model/Kerning.lean`, for all inputs; the `source_gen_*` theorems of `Props/C15.lean` and
`Props/C10.lean` rewrite with that.  The generated code keeps what the Rust does where the model abstracts: the two sets
are built by `BTreeSet::insert` in loop order (`setInsert`; the model: `sortDedup` of a filtered list), both maps are
updated with `insert` (the model: `cons`, justified here by freshness of the generated name and by the absence of
repetitions in a set).
-/
namespace Kern
open StrMap

/-! The generated code carries the literals of the source as character lists; `pfx1_chars` … `mmkR_chars`
(`Lemmas/Kerning.lean`) spell the model's literals out the same way. -/

theorem source_validateLoop_eq_model : Gen.validateLoop = validateLoop := by
  funext g
  induction g with
  | nil => funext a b; rfl
  | cons e rest ih =>
    funext a b
    obtain ⟨n, ms⟩ := e
    simp only [Gen.validateLoop, validateLoop, ih, pfx1_chars, pfx2_chars] <;> rfl

/-- the validator as regenerated from `src/groups.rs` is the model's, on every map -/
theorem source_validate_eq_model : Gen.validateGroups = validateGroups := by
  funext g
  simp only [Gen.validateGroups, validateGroups, source_validateLoop_eq_model]

theorem source_tryNames_eq_model : Gen.tryNames = tryNames := by
  funext sfx name g fuel
  induction fuel with
  | zero => funext c; rfl
  | succ f ih => funext c; simp only [Gen.tryNames, tryNames, ih]; rfl

theorem source_makeUnique_eq_model : Gen.makeUnique = makeUnique := by
  funext sfx name g fuel
  simp only [Gen.makeUnique, makeUnique, source_tryNames_eq_model]
  cases hasKey name g <;> rfl

/-- a `BTreeSet` after inserting the elements of `l` one by one -/
def insertMany (l acc : List Str) : List Str := l.foldl (fun a x => setInsert x a) acc

theorem insertMany_append (l₁ l₂ acc : List Str) : insertMany (l₁ ++ l₂) acc = insertMany l₂ (insertMany l₁ acc) :=
  List.foldl_append

theorem insertMany_nil_eq_sortDedup (l : List Str) : insertMany l [] = sortDedup l :=
  List.foldr_reverse.symm.trans (sortDedup_perm (List.reverse_perm l))

theorem insertMany_filter_cons (p : Str → Bool) (x : Str) (r acc : List Str) :
    insertMany ((x :: r).filter p) acc = insertMany (r.filter p) (if p x then setInsert x acc else acc) := by
  rw [List.filter_cons]; split <;> rfl

theorem source_findKnownLoop (ks a b : List Str) :
    Gen.findKnownLoop ks a b =
      (insertMany (ks.filter (fun n => mmkL.isPrefixOf n)) a,
       insertMany (ks.filter (fun n => !mmkL.isPrefixOf n && mmkR.isPrefixOf n)) b) := by
  induction ks generalizing a b with
  | nil => rfl
  | cons n r ih =>
    rw [insertMany_filter_cons, insertMany_filter_cons, mmkL_chars, mmkR_chars, Gen.findKnownLoop]
    simp only [ih, mmkL_chars, mmkR_chars]
    -- by cases on the Boolean atoms (here and in the two loops below), so that the order in which the Rust writes
    -- them does not matter
    cases ['@', 'M', 'M', 'K', '_', 'L', '_'].isPrefixOf n <;>
      cases ['@', 'M', 'M', 'K', '_', 'R', '_'].isPrefixOf n <;> rfl

theorem source_findKnown_eq_model (g : Groups) :
    Gen.findKnown g = (insertMany (knownFirst g) [], insertMany (knownSecond g) []) := by
  simp only [Gen.findKnown, source_findKnownLoop, knownFirst, knownSecond]

theorem source_collectSeconds (g : Groups) (S ss b : List Str) :
    Gen.collectSeconds g S ss b =
      insertMany (ss.filter (fun s => hasKey s g && !S.contains s && !pfx2.isPrefixOf s)) b := by
  induction ss generalizing b with
  | nil => rfl
  | cons s r ih =>
    rw [insertMany_filter_cons, pfx2_chars, Gen.collectSeconds]
    simp only [ih, pfx2_chars]
    cases hasKey s g <;> cases S.contains s <;>
      cases ['p', 'u', 'b', 'l', 'i', 'c', '.', 'k', 'e', 'r', 'n', '2', '.'].isPrefixOf s <;> rfl

theorem source_collectLoop (g : Groups) (S : List Str) (k : Kerning) (a b : List Str) :
    Gen.collectLoop g S k a b =
      (insertMany (referencedFirst g k S) a, insertMany (referencedSecond g k S) b) := by
  induction k generalizing a b with
  | nil => rfl
  | cons e r ih =>
    obtain ⟨f, secs⟩ := e
    have hs : referencedSecond g ((f, secs) :: r) S =
        (keys secs).filter (fun s => hasKey s g && !S.contains s && !pfx2.isPrefixOf s) ++ referencedSecond g r S :=
      List.filter_append ..
    rw [hs, insertMany_append, referencedFirst, keys, List.map_cons, insertMany_filter_cons, pfx1_chars,
      Gen.collectLoop]
    simp only [ih, source_collectSeconds, referencedFirst, keys, pfx1_chars]
    cases hasKey f g <;> cases S.contains f <;>
      cases ['p', 'u', 'b', 'l', 'i', 'c', '.', 'k', 'e', 'r', 'n', '1', '.'].isPrefixOf f <;> rfl

/-- the two `BTreeSet`s the Rust has built when the collection loops are through, read as
    their iteration order, are the model's visiting orders -/
theorem source_sets_eq_model (g : Groups) (k : Kerning) (S : List Str) :
    (let (a, b) := Gen.findKnown g; Gen.collectLoop g S k a b) =
      (sortDedup (firstSet g k S), sortDedup (secondSet g k S)) := by
  simp only [source_findKnown_eq_model, source_collectLoop, firstSet, secondSet]
  rw [← insertMany_append, ← insertMany_append, insertMany_nil_eq_sortDedup, insertMany_nil_eq_sortDedup]

/-- one side, as the model has it (`cons`), equals the loop with `insert` whenever the visited list has no
    repetition and none of its elements is in the table yet — which is what iterating a set gives -/
theorem renameSide_insert_eq (sfx : Nat → Str) (pfx legacy : Str)
    (gen : List Str → Groups → Table → Res (Groups × Table))
    (hnil : ∀ g t, gen [] g t = .ok (g, t))
    (hcons : ∀ n ns g t, gen (n :: ns) g t =
      match mkName (pfx ++ removeAll legacy n) with
      | none => .panic "upconvert_kerning: Name::new(..).unwrap()"
      | some base =>
        match makeUnique sfx base g (g.length + 1) with
        | .panic s => .panic s
        | .outOfFuel => .outOfFuel
        | .ok u =>
          match lookup n g with
          | none => .panic "upconvert_kerning: groups_new.get(..).unwrap()"
          | some members => gen ns (insert u members g) (insert n u t))
    (ns : List Str) (g : Groups) (t : Table) (hn : ns.Nodup) (ht : ∀ n ∈ ns, hasKey n t = false) :
    gen ns g t = renameSide sfx pfx legacy ns g t := by
  induction ns generalizing g t with
  | nil => rw [hnil]; rfl
  | cons n r ih =>
    obtain ⟨hnr, hr⟩ := List.nodup_cons.mp hn
    rw [hcons, renameSide]
    cases mkName (pfx ++ removeAll legacy n) with
    | none => rfl
    | some base =>
      simp only []  -- reduces the `match` on the constructor just introduced (so everywhere below)
      cases hu : makeUnique sfx base g (g.length + 1) with
      | panic s => rfl
      | outOfFuel => rfl
      | ok u =>
        cases lookup n g with
        | none => rfl
        | some members =>
          -- the generated name is fresh and `n` is not yet in the table, so both `insert`s are `cons`
          simp only [insert_eq_cons_of_absent (makeUnique_ok hu).1, insert_eq_cons_of_absent (ht n List.mem_cons_self)]
          refine ih _ _ hr fun m hm => ?_
          rw [hasKey_cons, ht m (List.mem_cons_of_mem _ hm), Bool.or_false]
          exact decide_eq_false fun e => hnr (e ▸ hm)

theorem source_renameFirst_eq_model (sfx : Nat → Str) (ns : List Str) (g : Groups) (t : Table)
    (hn : ns.Nodup) (ht : ∀ n ∈ ns, hasKey n t = false) :
    Gen.renameFirst sfx ns g t = renameSide sfx pfx1 mmkL ns g t := by
  refine renameSide_insert_eq sfx pfx1 mmkL (Gen.renameFirst sfx) (fun _ _ => rfl) (fun n ns g t => ?_) ns g t hn ht
  rw [Gen.renameFirst, source_makeUnique_eq_model, pfx1_chars, mmkL_chars]
  rfl

theorem source_renameSecond_eq_model (sfx : Nat → Str) (ns : List Str) (g : Groups) (t : Table)
    (hn : ns.Nodup) (ht : ∀ n ∈ ns, hasKey n t = false) :
    Gen.renameSecond sfx ns g t = renameSide sfx pfx2 mmkR ns g t := by
  refine renameSide_insert_eq sfx pfx2 mmkR (Gen.renameSecond sfx) (fun _ _ => rfl) (fun n ns g t => ?_) ns g t hn ht
  rw [Gen.renameSecond, source_makeUnique_eq_model, pfx2_chars, mmkR_chars]
  rfl

theorem source_rewriteSecondsLoop_eq_model (t2 : Table) (secs acc : Seconds) :
    Gen.rewriteSecondsLoop t2 secs acc = secs.foldl (fun acc e => insert (rn t2 e.1) e.2 acc) acc := by
  induction secs generalizing acc with
  | nil => rfl
  | cons e r ih => obtain ⟨s, v⟩ := e; simp only [Gen.rewriteSecondsLoop, ih, List.foldl_cons, rn]

theorem source_rewriteLoop_eq_model (t1 t2 : Table) (k acc : Kerning) :
    Gen.rewriteLoop t1 t2 k acc = k.foldl (fun acc e => insert (rn t1 e.1) (rewriteSeconds t2 e.2) acc) acc := by
  induction k generalizing acc with
  | nil => rfl
  | cons e r ih =>
    obtain ⟨f, secs⟩ := e
    simp only [Gen.rewriteLoop, ih, List.foldl_cons, rn, source_rewriteSecondsLoop_eq_model, rewriteSeconds]

theorem source_rewrite_eq_model (t1 t2 : Table) (k : Kerning) :
    Gen.rewriteLoop t1 t2 k [] = rewriteKerning t1 t2 k := by
  rw [source_rewriteLoop_eq_model]; rfl

/-- `upconvert_kerning` as regenerated from `src/upconversion.rs` — sets built by
    insertion, both renaming loops, the rewriting of the pairs, in the statement order of the Rust — is the model
    function, for every groups map, kerning map, glyph set and counter rendering -/
theorem source_upconvert_eq_model : Gen.upconvertKerning = upconvertKerning := by
  funext sfx g k S
  have hsets := source_sets_eq_model g k S
  unfold Gen.upconvertKerning upconvertKerning upconvertWith
  generalize Gen.findKnown g = p at hsets ⊢
  obtain ⟨a0, b0⟩ := p
  simp only [] at hsets ⊢
  rw [hsets]
  rw [source_renameFirst_eq_model sfx _ g [] (nodup_sortDedup _) (fun _ _ => rfl)]
  cases renameSide sfx pfx1 mmkL (sortDedup (firstSet g k S)) g [] with
  | panic s => rfl
  | outOfFuel => rfl
  | ok p =>
    simp only []
    rw [source_renameSecond_eq_model sfx _ p.1 [] (nodup_sortDedup _) (fun _ _ => rfl)]
    cases renameSide sfx pfx2 mmkR (sortDedup (secondSet g k S)) p.1 [] with
    | panic s => rfl
    | outOfFuel => rfl
    | ok q => simp only [source_rewrite_eq_model]

/-! ## the call site in `Font::load_impl` (`tools/extract_upconv_site.py`, `Generated/UpconvSite.lean`)

The arm of `load_impl` that converts is regenerated as a step table; `runSteps` gives every known step the meaning the model's
`loadGroupsKerning` gives it (an unknown step, a missing glyph set, a missing value are `panic`s, which the model never returns
here), so a table with a step missing, reordered or changed no longer computes the model's function. -/

structure SiteSt where
  glyphSet : Option (List Str) := none
  conv : Option UpOut := none

inductive Step | arm | glyphSetOfLayers | upconvert | validateReturned | value | unknown
  deriving DecidableEq, Repr

/-- the meaning of a row of the regenerated table; every row that is not literally one of the five is `unknown` -/
def decodeStep (r : String × String) : Step :=
  if r.1 = "arm" then .arm
  else if r = ("let glyph_set", "names of the glyphs of the loaded layers") then .glyphSetOfLayers
  else if r = ("let groups,kerning", "upconvert_kerning(g, k.unwrap_or_default, glyph_set)") then .upconvert
  else if r = ("validate_groups(groups)", "GroupsUpconversionFailure returned") then .validateReturned
  else if r = ("value", "Some(groups),Some(kerning)") then .value
  else .unknown

def runSteps (sfx : Nat → Str) (g : Groups) (k : Option Kerning) (layerNames : List Str) :
    List Step → SiteSt → Res (Except LoadErr (Groups × Kerning))
  | [], _ => .panic "call site: the arm has no value"
  | .arm :: rest, st => runSteps sfx g k layerNames rest st
  | .glyphSetOfLayers :: rest, st => runSteps sfx g k layerNames rest { st with glyphSet := some layerNames }
  | .upconvert :: rest, st =>
    match st.glyphSet with
    | none => .panic "call site: glyph_set is not built yet"
    | some S =>
      match upconvertKerning sfx g (k.getD []) S with
      | .panic s => .panic s
      | .outOfFuel => .outOfFuel
      | .ok o => runSteps sfx g k layerNames rest { st with conv := some o }
  | .validateReturned :: rest, st =>
    match st.conv with
    | none => .panic "call site: nothing converted yet"
    | some o =>
      match validateGroups (sortEntries o.groups) with
      | .error _ => .ok (.error .upconversionFailure)
      | .ok () => runSteps sfx g k layerNames rest st
  | .value :: _, st =>
    match st.conv with
    | none => .panic "call site: nothing converted yet"
    | some o => .ok (.ok (o.groups, o.kerning))
  | .unknown :: _, _ => .panic "call site: unknown step"

theorem source_call_site_steps :
    Generated.UpconvSite.armSteps.map decodeStep = [.arm, .glyphSetOfLayers, .upconvert, .validateReturned, .value] := by
  simp [Generated.UpconvSite.armSteps, decodeStep]

/-- the statements of the converting arm of `load_impl`, as the source has them
    now, compute the model's `loadGroupsKerning` on every legacy font with a (valid) groups file: the glyph set handed to
    `upconvert_kerning` is the set of glyph names of the loaded layers, the validator runs on the converted groups and its
    error is what the load returns, groups and kerning are both replaced by the results.  The other arms (format 3: untouched;
    no groups file: nothing converted) and the two other validator calls (`load_groups`, `save_impl`, both `?`-propagated)
    are the model's as tables. -/
theorem source_upconversion_call_site_matches_model :
    Generated.UpconvSite.matchArms =
      [("bind", "groups,kerning <- groups,kerning"), ("(FormatVersion::V3,g,k)", "(g,k)"), ("(_,None,k)", "(None,k)"),
       ("(_,Some(g),k)", "block")] ∧
    Generated.UpconvSite.validators =
      [("load_groups", "read groups; validate_groups(groups) InvalidGroups returned; Ok(groups)"),
       ("save_impl", "validate_groups(self.groups) InvalidGroups returned")] ∧
    ∀ (sfx : Nat → Str) (fmt : Nat) (g : Groups) (k : Option Kerning) (layerNames : List Str),
      fmt ≠ 3 → validateGroups g = .ok () →
      runSteps sfx g k layerNames (Generated.UpconvSite.armSteps.map decodeStep) {} = loadGroupsKerning sfx fmt (some g) k layerNames := by
  refine ⟨rfl, rfl, ?_⟩
  intro sfx fmt g k S hf hv
  have hfmt : (fmt == 3) = false := by simpa using hf
  rw [source_call_site_steps]
  simp only [runSteps, loadGroupsKerning, hv, hfmt, Bool.false_eq_true, ↓reduceIte]
  cases upconvertKerning sfx g (k.getD []) S with
  | panic s => rfl
  | outOfFuel => rfl
  | ok o =>
    cases validateGroups (sortEntries o.groups) <;> rfl

-- non-vacuity: the table of the source runs, and refuses a conversion whose result is invalid (two legacy groups sharing a glyph)
example : runSteps decimal [("@MMK_L_A".toList, ["a".toList]), ("@MMK_L_B".toList, ["a".toList])] none []
    (Generated.UpconvSite.armSteps.map decodeStep) {} = .ok (.error .upconversionFailure) := by
  repeat rw [String.toList_ofList]
  rw [source_call_site_steps]; rfl

end Kern
