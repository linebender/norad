import Norad.Props.C06
import Norad.Props.C11
import Norad.Props.C07
import Norad.Props.C13
import Norad.Props.C15
import Norad.Props.C18
import Norad.Props.C20
/-!
# C03 — every public entry point is total: errors are returned, never panics

In the models a place where the Rust can panic (`unwrap`, `expect`, slicing, `unreachable!`) is an explicit outcome, so
totality is a family of theorems "the panic outcome is unreachable", one per modelled entry point.  Three sites are
totalised instead (`C11.wrap`'s `.move` arm returns `.ok ()`; `C16.cellResult .notLoaded` and the `getD` of `C16.iterFrom`
return `.error .io`): for the first the theorem is about the input that would reach the site (`end_path_unreachable_arm`),
the two of C16 are classed `guard` / `constr` in `C03Sites.table`.  This file collects them (and states the ones that are
false on the tree as `_counterexample`s, recorded in `known_findings.txt`).  What no model can exhibit —
panics inside quick-xml / plist / serde on inputs the models never see, stack exhaustion, allocation
failure — is sampled by the support streams of `harness/src/c03.rs` and labelled as a test.
-/

namespace Layers

/-- one step of any container operation from a state satisfying the invariant (which every state of every history from
    such a state does: `inv_reachable`): the only panic is the documented one (more than 99 file-name clashes) -/
theorem layer_ops_no_panic (lower : Str → Str) (assignG assignL : Str → List Str → Option Str)
    (valid : Str → Bool) (S : LayerSet) (op : Op) (site : String) (hS : SInv lower S)
    (h : (step lower assignG assignL valid S op).2 = .panic site) :
    site = "99 file-name clashes (documented)" :=
  no_undocumented_panic lower assignG assignL valid S op site hS h

/-- `Font::save` does not hit `expect("all glyphs in contents must exist")` when the indices are in step … -/
theorem save_no_panic_partial (lower : Str → Str) (S : LayerSet) (hS : SInv lower S) (hs : AllSync S) :
    ∃ t, saveTree S = .ok t := by
  obtain ⟨t, h, _⟩ := save_load_reloaded lower S hS hs
  exact ⟨t, h⟩

/-- … which every history avoiding the `entry` API guarantees; with `entry` it is false (recorded finding) -/
theorem save_no_panic_counterexample :
    saveTree afterEntryRemove = .panic "layer.rs:437 all glyphs in contents must exist" :=
  entry_remove_save_panics_counterexample.2

end Layers

namespace C11

/-- the wrap-around loop of `end_path` runs only for closed contours that passed the per-point checks, and such a
    contour holds no `move` point: the `unreachable!()` arm (`builder.rs:154`) is unreachable -/
theorem end_path_unreachable_arm (pts : List Pt) (n : Nat) (hf : feed pts true 0 = .ok n)
    (hc : isClosed pts = true) : ∀ q ∈ pts, q.typ ≠ .move :=
  closed_no_move pts hc ((feed_top pts).1 ⟨n, hf⟩)

end C11

/-!
## entry points whose totality theorems live with their own property

They are part of C03's obligations (listed in `Audit/C03.lean`, re-checked on every C03 run); this file imports their
modules only so that `Props/C03Sites.lean` and `Audit/C03.lean` see the names:

* `C07.fileName_none_iff_100_rejections` — `user_name_to_file_name` panics only after 100 rejections (the
  documented panic); both `String::truncate` sites sit on character boundaries;
  `C07.backoff_steps_le_3` — the char-boundary back-off loop terminates within three steps.
* `C13.validate_never_panics`, `C13.saveInfo_never_panics`, `C13.loadInfo_never_panics` — the byte slicing of
  the creation date happens only after the all-ASCII check.
* `Kern.upconvert_no_panic_decimal` (from `Kern.upconvertWith_total`, for every visiting order) — the `unwrap`s of
  `upconvert_kerning` are safe and the unique-name loop terminates (fuel `groups.len() + 1` suffices).
* `C18.glue_never_panics`, `C18.glue_never_panics_value` — the `unreachable!` of the plist-in-XML glue is unreachable
  (`C18.glue_never_panics_counterexample`: an unprintable date panics inside the plist crate; recorded).
* `C20.toKurbo_succeeds` — `Contour::to_kurbo` does not fail on any contour the parser accepts.
-/
