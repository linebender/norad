import Norad.Generated.LayerOps
import Norad.Lemmas.LayerSet
/-!
# C06 — source-level tie of the container operations

`Generated/LayerOps.lean` is regenerated from `src/layer.rs` on every run (`tools/extract_layer_ops.py`): the guard chains
of the refusing operations, where the redundant indices are updated, which index `insert_glyph` asks, the loader's
`let path_set = …` statement.  The chains are compared with the model's as SETS of conditions (`sameAtoms`): the ORDER of
the tests and the error VARIANT are not part of the container invariant, so a reordering or a different error on an input
that is refused anyway does not disturb this tie; the correspondence run reports the error kind separately.
-/
namespace Layers
open Generated.LayerOps

theorem any_of_sameAtoms (ev : Atom → Bool) (a b : List (Atom × NErr)) (h : sameAtoms a b = true) :
    a.any (fun g => ev g.1) = b.any (fun g => ev g.1) := by
  simp only [sameAtoms, Bool.and_eq_true, List.all_eq_true, List.any_eq_true, decide_eq_true_eq] at h
  refine Bool.eq_iff_iff.2 (List.any_eq_true.trans (Iff.trans ⟨?_, ?_⟩ List.any_eq_true.symm))
  · exact fun ⟨g, hg, hev⟩ => let ⟨k, hk, hkg⟩ := h.1 g hg; ⟨k, hk, hkg ▸ hev⟩
  · exact fun ⟨g, hg, hev⟩ => let ⟨k, hk, hkg⟩ := h.2 g hg; ⟨k, hk, hkg ▸ hev⟩

theorem source_layer_consts_match_model :
    defaultLayerName = defaultName ∧ defaultGlyphsDir = glyphsDir := ⟨rfl, rfl⟩

theorem source_guard_atoms_match_model :
    sameAtoms newLayerGuards modelNewLayerGuards = true ∧
    sameAtoms renameLayerGuards modelRenameLayerGuards = true ∧
    sameAtoms renameGlyphGuards modelRenameGlyphGuards = true := by decide

section
variable (lower : Str → Str) (assignG : Str → List Str → Option Str) (assignL : Str → List Str → Option Str)
variable (valid : Str → Bool)

private theorem refuses_iff {α : Type} (ev : Atom → Bool) (src mdl : List (Atom × NErr)) (hs : sameAtoms src mdl = true)
    (st : α) (body : α × Res) (hb : body.2.errOf = none) :
    ((guarded ev mdl st body).2.errOf.isSome = src.any (fun g => ev g.1)) ∧
    ((guarded ev mdl st body).2.errOf.isSome = true → (guarded ev mdl st body).1 = st) := by
  rw [any_of_sameAtoms ev src mdl hs, ← firstErr_isSome, guarded]
  cases firstErr ev mdl with
  | none => simp [hb]
  | some e => simp [Res.errOf]

/-- `new_layer` refuses exactly when a guard of the SOURCE's chain fires, and then changes nothing -/
theorem source_newLayer_refuses_iff (S : LayerSet) (name : Str) :
    ((newLayer lower assignL valid S name).2.errOf.isSome =
        newLayerGuards.any (fun g => evalS valid S [] name false g.1)) ∧
    ((newLayer lower assignL valid S name).2.errOf.isSome = true → (newLayer lower assignL valid S name).1 = S) :=
  model_newLayer_guards S name ▸
    refuses_iff _ _ _ source_guard_atoms_match_model.1 S _ (pushLayer_errOf S name)

theorem source_renameLayer_refuses_iff (S : LayerSet) (old new : Str) (ow : Bool) :
    ((renameLayer lower assignL valid S old new ow).2.errOf.isSome =
        renameLayerGuards.any (fun g => evalS valid S old new ow g.1)) ∧
    ((renameLayer lower assignL valid S old new ow).2.errOf.isSome = true →
        (renameLayer lower assignL valid S old new ow).1 = S) :=
  model_renameLayer_guards S old new ow ▸
    refuses_iff _ _ _ source_guard_atoms_match_model.2.1 S _ (renameLayerCore_errOf _ old new)

theorem source_renameGlyph_refuses_iff (L : Layer) (old new : Str) (ow : Bool) :
    ((renameGlyph lower assignG valid L old new ow).2.errOf.isSome =
        renameGlyphGuards.any (fun g => evalL valid L old new ow g.1)) ∧
    ((renameGlyph lower assignG valid L old new ow).2.errOf.isSome = true →
        (renameGlyph lower assignG valid L old new ow).1 = L) :=
  model_renameGlyph_guards L old new ow ▸
    refuses_iff _ _ _ source_guard_atoms_match_model.2.2 L _ (insertGlyph_errOf _ new)

end

/-- the source updates exactly the indices the model updates, operation by operation, and its `retain` spares the default
    layer as the model's `retainLayers` does (`retainProtectsDefault`) -/
theorem source_index_updates_match_model :
    (∀ r ∈ touches, r ∈ modelTouches) ∧ (∀ r ∈ modelTouches, r ∈ touches) ∧ retainProtectsDefault = true := by
  decide +kernel

/-- what the model's side of that table means where it says an index is NOT touched -/
theorem model_frame_rules (S : LayerSet) (keep : Layer → Bool) (L : Layer) (n : Str) :
    (retainLayers S keep).pathSet = S.pathSet ∧
    (entryOrInsert L n).contents = L.contents ∧ (entryOrInsert L n).pathSet = L.pathSet ∧
    (entryRemove L n).contents = L.contents ∧ (entryRemove L n).pathSet = L.pathSet ∧
    (Layer.default ∈ (retainLayers LayerSet.default keep).layers) := by
  refine ⟨rfl, rfl, rfl, rfl, rfl, ?_⟩
  simp [retainLayers, LayerSet.default, Layer.isDefault, Layer.default, Layer.new]

-- non-vacuity: on the default set, `new_layer "public.default"` fires the first guard, `new_layer "a"` (valid) none
example : (newLayerGuards.any (fun g => evalS (fun _ => true) LayerSet.default [] defaultName false g.1)) = true := by
  decide +kernel
example : (newLayerGuards.any (fun g => evalS (fun _ => true) LayerSet.default [] ['a'] false g.1)) = false := by
  decide +kernel

/-- the model's `insertGlyph` IS `insert_glyph` asking the index the SOURCE asks (`contents`): were the source to ask the
    glyph map, this equality would be false and the proof would fail -/
theorem source_insertGlyph_eq_model (lower : Str → Str) (assignG : Str → List Str → Option Str) :
    insertGlyphBy lower assignG insertGlyphDecidesBy = insertGlyph lower assignG := by
  funext L g
  simp only [insertGlyphBy, insertGlyph, insertGlyphDecidesBy, Index.has, decide_eq_true_eq]
  split
  · rfl
  · cases assignG g L.pathSet <;> rfl

/-- the two readings differ: on a layer whose glyph map has a name the index lacks (after `entry(..).or_insert`), asking
    the glyph map assigns no file name -/
theorem insertGlyphBy_glyphs_differs :
    (insertGlyphBy id (fun g _ => some (g ++ ".glif".toList)) .glyphs (entryOrInsert Layer.default ['z']) ['z']).1.contents = [] ∧
    (insertGlyph id (fun g _ => some (g ++ ".glif".toList)) (entryOrInsert Layer.default ['z']) ['z']).1.contents
      = [(['z'], "z.glif".toList)] := by
  decide +kernel

/-- the model's loader builds the path set the way the SOURCE's `let path_set = …` statement says: from `layers`, skipping
    one, AFTER the default layer has been moved to the front -/
theorem source_load_pathset_eq_model (lower : Str → Str) (f : LFilter) (t : Tree) (S : LayerSet)
    (h : loadTreeF lower f t = some S) :
    loadPathSet.source = "layers" ∧
    ∃ ls ls', loadLayers lower t.dirs (t.layercontents.filter fun e => f.shouldLoad e.1 e.2) = some ls ∧
      defaultFirst (if !f.includesDefault && !ls.any (·.isDefault) then ls ++ [Layer.default] else ls) = some ls' ∧
      S.layers = ls' ∧ S.pathSet = loadPathSetOf lower loadPathSet ls ls' := by
  obtain ⟨ls, ls', hls, hd, rfl⟩ := loadTreeF_some h
  exact ⟨by decide, ls, ls', hls, hd, rfl, rfl⟩

-- non-vacuity: a tree that lists another layer first loads, and that layer's directory is in the path set
example : (loadTreeF id { all := true, loadDefault := false, custom := none }
    { layercontents := [(['b'], "glyphs.b".toList), (defaultName, glyphsDir)],
      dirs := [("glyphs.b".toList, ⟨[], []⟩), (glyphsDir, ⟨[], []⟩)] }).map (·.pathSet) = some ["glyphs.b".toList] := by
  decide +kernel

end Layers
