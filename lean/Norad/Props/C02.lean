import Norad.Spec.C02
import Norad.Props.C12
import Norad.Lemmas.C02
/-!
# C02 — encoding a glyph to glif XML and parsing it back is lossless

`encodeGlif` (`Model/GlifWrite.lean`) is the writer, `parseGlif` (`Model/Glif.lean`) the parser.

Full-strength statement (FALSE on the tree, kept visible):
  glif_roundtrip : ∀ valid g, ∀ f, parseGlif rd (encodeGlif f g) = .ok g' with g' ≈ g and g' independent of f.
It fails for lib text with newlines (options-dependent re-indentation), for notes that are not their own trim,
for subnormal advances and for empty contours; the three `_counterexample`s below (lib text, note, note and empty
contour as written and parsed; the subnormal advance has its guard `hadv` and no counterexample here) are replayed on the real
crate by corpus/C02/witnesses.case.

Main theorem: `glif_roundtrip_partial` — under the guards those findings force, every valid glyph, object libs
included, is read back as `normGL nc g`, whatever the options; `empty_contours_only_loss` says that contours without
points are all that is lost otherwise.  Without any guard, for EVERY valid glyph, `parse_encode` (`Lemmas/C02.lean`):
`parseGlif rd (encodeGlif f g) = loadObjectLibs (preG f nc g)`.
Both `glif_roundtrip_partial` and `glif_roundtrip_partial_no_object_libs` (no object libs, a weaker guard on the lib text) are
readings of `roundtrip_of_fixed_lib`, whose one guard on the lib text is that the re-indentation leaves the WRITTEN lib alone.
-/
namespace Glif

theorem reindent_id_of_no_newline (ind s : Str) (h : '\n' ∉ s) : reindent ind s = s := by
  induction s with
  | nil => rfl
  | cons c r ih =>
    simp only [List.mem_cons, not_or] at h
    have hc : c ≠ '\n' := fun e => h.1 e.symm
    simp [reindent, hc, ih h.2]

/-- with indent width 0 the re-indentation is the identity: the result depends on the options -/
theorem reindent_empty_indent (s : Str) : reindent [] s = s := by
  induction s with
  | nil => rfl
  | cons c r ih => by_cases hc : c = '\n' <;> simp [reindent, hc, ih]

/-- a newline makes the text grow: there is no fixed point under repeated save -/
theorem reindent_length (ind s : Str) :
    (reindent ind s).length = s.length + 2 * ind.length * s.count '\n' := by
  induction s with
  | nil => simp [reindent]
  | cons c r ih =>
    by_cases hc : c = '\n'
    · subst hc
      simp only [reindent, if_true, List.length_cons, List.length_append, ih, List.count_cons_self]
      rw [Nat.mul_add]; omega
    · simp [reindent, hc, ih]
      omega

-- the guard of `glif_roundtrip_partial`, as a predicate: no newline in any string or key, at any depth
open Spec02 in
mutual
theorem reindentPV_id (ind : Str) : ∀ v : PV, pvHasNewline v = false → reindentPV ind v = v
  | .str s, h => by
    have : '\n' ∉ s := by simpa [pvHasNewline] using h
    simp [reindentPV, reindent_id_of_no_newline ind s this]
  | .atom _, _ => by simp [reindentPV]
  | .arr xs, h => by
    have h' : listHasNewline xs = false := by simpa [pvHasNewline] using h
    simp [reindentPV, reindentList_id ind xs h']
  | .dict kvs, h => by
    have h' : dictHasNewline kvs = false := by simpa [pvHasNewline] using h
    simp [reindentPV, reindentDict_id ind kvs h']
theorem reindentList_id (ind : Str) : ∀ xs : List PV, listHasNewline xs = false → reindentList ind xs = xs
  | [], _ => by simp [reindentList]
  | x :: r, h => by
    have h' : pvHasNewline x = false ∧ listHasNewline r = false := by simpa [listHasNewline] using h
    simp [reindentList, reindentPV_id ind x h'.1, reindentList_id ind r h'.2]
theorem reindentDict_id (ind : Str) : ∀ kvs : List (Str × PV), dictHasNewline kvs = false → reindentDict ind kvs = kvs
  | [], _ => by simp [reindentDict]
  | (k, v) :: r, h => by
    have h' : ('\n' ∉ k ∧ pvHasNewline v = false) ∧ dictHasNewline r = false := by
      simpa [dictHasNewline] using h
    simp [reindentDict, reindent_id_of_no_newline ind k h'.1.1, reindentPV_id ind v h'.1.2, reindentDict_id ind r h'.2]
end

/-- **glif_roundtrip_counterexample (lib text)**: "line1\nline2" does not come back, and what comes back depends
    on the options -/
theorem glif_roundtrip_counterexample_lib_newline :
    reindent ['\t'] "line1\nline2".toList ≠ "line1\nline2".toList ∧
    reindent ['\t'] "line1\nline2".toList ≠ reindent [' ', ' '] "line1\nline2".toList := by
  decide +kernel

/-- **glif_roundtrip_counterexample (note)**: blanks at both ends are lost and an empty note disappears -/
theorem glif_roundtrip_counterexample_note :
    trimText "  n \n".toList = "n".toList ∧ trimText [] = [] := by
  decide +kernel

def F0 : Fmt := { shw := fun _ => ['0'], fmt3 := fun _ => "0.000".toList, indent := ['\t'] }
def R0 : Str → Option Nat := fun s => if s = ['0'] then some 0 else none

/-- an empty note and a note of blanks are written without text and read back as no note;
    **(empty contour)** a contour without points is written and dropped by the parser -/
theorem glif_roundtrip_counterexample_written :
    (match parseGlif R0 (encodeGlif F0 { name := ['a'], note := some [' '] }) with
     | .ok g => g.note.isNone
     | .error _ => false) = true ∧
    (match parseGlif R0 (encodeGlif F0 { name := ['a'], contours := [{ points := [], ident := some ['i'] }] }) with
     | .ok g => g.contours.isEmpty
     | .error _ => false) = true := by
  decide +kernel

/-- the transform gates drop a scale only at the four bit patterns within 2^-52 of 1 (or NaN), an offset only at ±0: the
    definitions of `farFromOne` and `nonZero` read backwards (that these patterns are the doubles with
    `(v - 1.0).abs() <= f64::EPSILON` is part of the model's correspondence with `serialize.rs`, not proved) -/
theorem gates_drop_only_defaults (b : Nat) :
    (farFromOne b = false → b = 0x3FEFFFFFFFFFFFFE ∨ b = 0x3FEFFFFFFFFFFFFF ∨ b = f64One ∨ b = 0x3FF0000000000001 ∨ isNaN b = true) ∧
    (nonZero b = false → b = 0 ∨ b = f64NegZero) := by
  simp only [farFromOne, nonZero, f64One, Bool.not_eq_false', Bool.or_eq_true, beq_iff_eq, or_assoc]
  exact ⟨id, id⟩

/-- **encode_no_objectlibs_leak**: without object libs the written lib is the glyph lib itself -/
theorem encode_no_objectlibs_leak (g : Glyph) (h : dumpObjectLibs g = []) : writtenLib g = g.lib := by
  simp [writtenLib, h]

/-- whatever is read back, no `public.objectLibs` key is left in the lib (C12's `returned_glyph_wellformed`
    applied to the writer's output) -/
theorem encode_then_parse_no_objectlibs_key (rd : Str → Option Nat) (f : Fmt) (g g' : Glyph)
    (h : parseGlif rd (encodeGlif f g) = .ok g') : dictGet objectLibsKey g'.lib = none :=
  (returned_glyph_wellformed rd h).no_objectlibs_key

def anchorWithLib : Anchor :=
  { x := 0, y := 0, name := none, color := none, ident := some ['i'], lib := some [(['k'], PV.atom "b1")] }

-- non-vacuity: a glyph with an anchor lib is written with the key and read back with the lib on the anchor
example :
    (match parseGlif R0 (encodeGlif F0 { name := ['a'], anchors := [anchorWithLib] }) with
     | .ok g => (match g.anchors with | [a] => a.lib.isSome && g.lib.isEmpty | _ => false)
     | .error _ => false) = true := by
  decide +kernel

theorem pNote_of_trimmed {note : Option Str} (h : ∀ n, note = some n → trimText n = n ∧ n ≠ []) :
    pNote note = note := by
  cases note with
  | none => rfl
  | some n =>
    obtain ⟨h1, h2⟩ := h n rfl
    simp [pNote, h1, h2]

theorem isNormal_nonZero {b : Nat} (h : isNormal b = true) : nonZero b = true := by
  cases hz : nonZero b with
  | true => rfl
  | false =>
    simp only [nonZero, Bool.not_eq_false', Bool.or_eq_true, beq_iff_eq] at hz
    rcases hz with rfl | rfl
    · exact absurd h (by decide)
    · exact absurd h (by decide)

theorem advance_gates {w h : Nat} (hw : isNormal w = true ∨ w = 0) (hh : isNormal h = true ∨ h = 0) :
    (if isNormal w || isNormal h then (if nonZero w then w else 0) else 0) = w ∧
    (if isNormal w || isNormal h then (if nonZero h then h else 0) else 0) = h := by
  have gate : ∀ {x : Nat} {c : Bool}, isNormal x = true ∨ x = 0 → (isNormal x = true → c = true) →
      (if c then (if nonZero x then x else 0) else 0) = x := by
    intro x c hx hc
    rcases hx with hx | rfl
    · simp [hc hx, isNormal_nonZero hx]
    · cases c <;> simp
  exact ⟨gate hw fun h => by simp [h], gate hh fun h => by simp [h]⟩

section
open Spec02

theorem dictHasNewline_append (a b : Dict) : dictHasNewline (a ++ b) = (dictHasNewline a || dictHasNewline b) := by
  induction a with
  | nil => simp [dictHasNewline]
  | cons e r ih =>
    obtain ⟨k, v⟩ := e
    simp [dictHasNewline, ih, Bool.or_assoc]

theorem dictHasNewline_flatMap {α : Type} (e : α → Dict) (xs : List α) (h : ∀ x, x ∈ xs → dictHasNewline (e x) = false) :
    dictHasNewline (xs.flatMap e) = false := by
  induction xs with
  | nil => simp [dictHasNewline]
  | cons x r ih =>
    rw [List.flatMap_cons, dictHasNewline_append, h x List.mem_cons_self,
      ih (fun y hy => h y (List.mem_cons_of_mem _ hy))]
    rfl

theorem validIdent_no_newline {i : Str} (h : validIdent i = true) : '\n' ∉ i := by
  simp only [validIdent, Bool.and_eq_true, List.all_eq_true, decide_eq_true_eq] at h
  intro hm
  exact absurd (h.2 _ hm) (by decide)

theorem ent_no_newline {id : Option Str} {lib : Option Dict} (hi : ∀ i, id = some i → validIdent i = true)
    (hl : dictHasNewline (optDict lib) = false) : dictHasNewline (ent id lib) = false := by
  cases lib with
  | none => cases id <;> rfl
  | some l =>
    cases id with
    | none => rfl
    | some i => simpa [ent, optDict, dictHasNewline, pvHasNewline, validIdent_no_newline (hi i rfl)] using hl

theorem objs_valid {ok : Nat → Prop} {g : Glyph} (hv : ValidGlyph ok g) :
    ∀ o ∈ objs g, ∀ i, o.1 = some i → validIdent i = true :=
  forall_objs (P := fun id _ => ∀ i, id = some i → validIdent i = true).2
    ⟨fun a ha => (hv.anchors a ha).ident, fun a ha => (hv.guidelines a ha).ident,
      fun c hc => ⟨(hv.contours c hc).ident, fun p hp => ((hv.contours c hc).points p hp).ident⟩,
      fun a ha => (hv.components a ha).ident⟩

theorem allLibs_objs (g : Glyph) : allLibs g = g.lib :: (objs g).map (optDict ·.2) := by
  simp only [allLibs, objs, List.map_append, List.map_map, List.map_flatMap, List.map_cons, Function.comp_def]

/-- the guard of `glif_roundtrip_partial` from the oracle's own feature test: if no lib of the glyph (its own or an
    object's) has a newline in a string or key, the lib that is written has none either -/
theorem writtenLib_no_newline {ok : Nat → Prop} {g : Glyph} (hv : ValidGlyph ok g)
    (hkey : dictGet objectLibsKey g.lib = none)
    (h : (allLibs g).any dictHasNewline = false) : dictHasNewline (writtenLib g) = false := by
  rw [allLibs_objs, List.any_cons, Bool.or_eq_false_iff, List.any_map, List.any_eq_false] at h
  obtain ⟨h0, hO⟩ := h
  have hol : dictHasNewline (dumpObjectLibs g) = false := by
    rw [dumpObjectLibs_eq hv.idents]
    exact dictHasNewline_flatMap _ _ fun o ho => ent_no_newline (objs_valid hv o ho) (by simpa using hO o ho)
  unfold writtenLib
  simp only
  split
  · exact h0
  · rw [dictInsert_fresh ((dictGet_none_iff _ _).1 hkey), dictHasNewline_append, h0]
    have : '\n' ∉ objectLibsKey := by decide
    simp [dictHasNewline, pvHasNewline, hol, this]
end

section
variable {f : Fmt} {rd : Str → Option Nat} {nc : Color → Color} {ok : Nat → Prop}

/-- the glyph that comes back when no object carries a lib (`pAnchor` … leave `lib := none`): colours as their
    three-decimal strings read, scales within 2^-52 of 1 (or NaN) as 1, any other coefficient `-0` as `0` -/
def normG (nc : Color → Color) (g : Glyph) : Glyph :=
  { g with
    guidelines := g.guidelines.map (pGuideline nc)
    anchors := g.anchors.map (pAnchor nc)
    components := g.components.map pComponent
    contours := g.contours.map pContour
    image := g.image.map (pImage nc) }

/-- the same with every lib on its object (`nAnchor` …) -/
def normGL (nc : Color → Color) (g : Glyph) : Glyph :=
  { g with
    guidelines := g.guidelines.map (nGuideline nc)
    anchors := g.anchors.map (nAnchor nc)
    components := g.components.map nComponent
    contours := g.contours.map nContour
    image := g.image.map (pImage nc) }

/-- the round trip under the one guard on the lib text: the re-indentation leaves the WRITTEN lib (the glyph lib plus
    `public.objectLibs`) alone -/
theorem roundtrip_of_fixed_lib (hc : Codec f rd nc ok) {g : Glyph} (hv : ValidGlyph ok g) (hl : LibsIdentified g)
    (hkey : dictGet objectLibsKey g.lib = none) (hlib : reindentDict f.indent (writtenLib g) = writtenLib g)
    (hnote : ∀ n, g.note = some n → trimText n = n ∧ n ≠ [])
    (hadv : (isNormal g.width = true ∨ g.width = 0) ∧ (isNormal g.height = true ∨ g.height = 0))
    (hne : ∀ c, c ∈ g.contours → c.points ≠ []) :
    parseGlif rd (encodeGlif f g) = .ok (normGL nc g) := by
  -- the objects of `preG` are the stripped copies by definition (`rfl`); its lib is the re-indented written lib: the one use of `hlib`
  rw [parse_encode hc hv, encode_then_parse_restores_object_libs (nc := nc) hv.idents hl hkey (preG f nc g) rfl rfl
    (by simp only [preG]; exact keepContours_of_nonempty hne) rfl
    (show (preG f nc g).lib = writtenLib g from hlib)]
  simp only [preG, normGL, pNote_of_trimmed hnote, advance_gates hadv.1 hadv.2]

/-- **glif_roundtrip_partial**: for every valid glyph — object libs included, each on an object with an identifier —
    under the guards the recorded findings force (no newline in any string or key of any lib of the glyph: the oracle's
    own `lib-newline` feature test `Spec02.guardFeatures`; a note that is its own non-empty trim; an advance that is
    normal or `+0`; the reserved key unused; no contour without points) the parser accepts what the writer produces,
    for ANY options, and returns `normGL nc g`, which does not mention the options. -/
theorem glif_roundtrip_partial (hc : Codec f rd nc ok) {g : Glyph} (hv : ValidGlyph ok g) (hl : LibsIdentified g)
    (hkey : dictGet objectLibsKey g.lib = none)
    (hnl : (Spec02.allLibs g).any Spec02.dictHasNewline = false)
    (hnote : ∀ n, g.note = some n → trimText n = n ∧ n ≠ [])
    (hadv : (isNormal g.width = true ∨ g.width = 0) ∧ (isNormal g.height = true ∨ g.height = 0))
    (hne : ∀ c, c ∈ g.contours → c.points ≠ []) :
    parseGlif rd (encodeGlif f g) = .ok (normGL nc g) := by
  exact roundtrip_of_fixed_lib hc hv hl hkey (reindentDict_id _ _ (writtenLib_no_newline hv hkey hnl)) hnote hadv hne

theorem normGL_of_noLibs {g : Glyph} (h : NoObjectLibs g) : normGL nc g = normG nc g := by
  obtain ⟨e1, e2, e3, e4⟩ := nForms_of_noLibs (nc := nc) h
  simp only [normGL, normG, e1, e2, e3, e4]

/-- **glif_roundtrip_partial** (glyphs without object libs): the guard on the lib text is only that the re-indentation
    leaves the glyph lib alone; what comes back is `normG nc g`. -/
theorem glif_roundtrip_partial_no_object_libs (hc : Codec f rd nc ok) {g : Glyph} (hv : ValidGlyph ok g)
    (hobj : NoObjectLibs g)
    (hkey : dictGet objectLibsKey g.lib = none)
    (hlib : reindentDict f.indent g.lib = g.lib)
    (hnote : ∀ n, g.note = some n → trimText n = n ∧ n ≠ [])
    (hadv : (isNormal g.width = true ∨ g.width = 0) ∧ (isNormal g.height = true ∨ g.height = 0))
    (hne : ∀ c, c ∈ g.contours → c.points ≠ []) :
    parseGlif rd (encodeGlif f g) = .ok (normG nc g) := by
  rw [← normGL_of_noLibs hobj]
  exact roundtrip_of_fixed_lib hc hv hobj.identified hkey
    (by rw [encode_no_objectlibs_leak g (dump_empty_of_no_libs hobj)]; exact hlib) hnote hadv hne

end

section
variable {f : Fmt} {rd : Str → Option Nat} {nc : Color → Color} {ok : Nat → Prop}

def dropEmpty (g : Glyph) : Glyph := { g with contours := g.contours.filter (fun c => !c.points.isEmpty) }

theorem foldl_filter_skip {α β : Type} (fn : β → α → β) (p : α → Bool) (l : List α) (b : β)
    (h : ∀ a, a ∈ l → p a = false → ∀ b, fn b a = b) : l.foldl fn b = (l.filter p).foldl fn b := by
  induction l generalizing b with
  | nil => rfl
  | cons a r ih =>
    rw [List.forall_mem_cons] at h
    rw [List.filter_cons, List.foldl_cons]
    split
    · exact ih _ h.2
    · rw [h.1 (by simpa using ‹¬p a = true›), ih _ h.2]

theorem dump_dropEmpty {g : Glyph} (hnolib : ∀ c, c ∈ g.contours → c.points = [] → c.lib = none) :
    dumpObjectLibs (dropEmpty g) = dumpObjectLibs g := by
  unfold dumpObjectLibs dropEmpty
  simp only
  rw [← foldl_filter_skip _ (fun c : Contour => !c.points.isEmpty) g.contours _ ?_]
  intro c hc hp b
  have he : c.points = [] := by
    cases hpp : c.points with
    | nil => rfl
    | cons _ _ => simp [hpp] at hp
  rw [hnolib c hc he, he, dumpOne_none]
  rfl

theorem valid_dropEmpty {g : Glyph} (hv : ValidGlyph ok g) : ValidGlyph ok (dropEmpty g) := by
  refine ⟨hv.name, hv.width, hv.height, hv.codepoints, hv.codepointsNodup, hv.image, hv.anchors, hv.guidelines,
    fun c hc => hv.contours c (List.mem_filter.1 hc).1, hv.components, ?_⟩
  refine List.Nodup.sublist ?_ hv.idents
  simp only [Spec.glyphIdents, dropEmpty]
  exact List.Sublist.append (List.Sublist.append (List.Sublist.refl _) (flatMap_sublist List.filter_sublist fun _ _ => .refl _)) (List.Sublist.refl _)

/-- **empty_contours_only_loss**: the writer model writes every contour (skip-and-continue is the parser's `end_path`, not
    a `break` in the writer), and a glyph with contours that have no points (carrying no lib of their own) is read back
    exactly as the same glyph without them.  What comes back of `dropEmpty g` is a separate statement
    (`glif_roundtrip_partial` applies to it: it has no contour without points). -/
theorem empty_contours_only_loss (hc : Codec f rd nc ok) {g : Glyph} (hv : ValidGlyph ok g)
    (hnolib : ∀ c, c ∈ g.contours → c.points = [] → c.lib = none) :
    parseGlif rd (encodeGlif f g) = parseGlif rd (encodeGlif f (dropEmpty g)) := by
  rw [parse_encode hc hv, parse_encode hc (valid_dropEmpty hv)]
  have hw : writtenLib (dropEmpty g) = writtenLib g := by
    unfold writtenLib
    rw [dump_dropEmpty hnolib]
    rfl
  have hk : keepContours (dropEmpty g).contours = keepContours g.contours := by
    simp [keepContours, dropEmpty, List.filter_filter]
  simp only [preG, hw, hk]
  rfl
end

def ok0 : Nat → Prop := fun b => b = 0
def nc0 : Color → Color := fun _ => ⟨0, 0, 0, 0⟩

theorem codec0 : Codec F0 R0 nc0 ok0 := by
  constructor
  · intro b hb
    cases hb
    rfl
  · intro c
    -- `F0` writes every channel as "0.000": the text does not depend on `c`
    change readCol R0 (showColor F0 ⟨0, 0, 0, 0⟩) = some ⟨0, 0, 0, 0⟩
    decide +kernel

/-! Test vectors: the proofs follow the literal item by item (`of_cons … of_nil` a list, `of_some`/`of_none` an option). -/

theorem of_some {α : Type} {P : α → Prop} {a : α} (h : P a) : ∀ n, some a = some n → P n :=
  fun _ e => Option.some.inj e ▸ h
theorem of_none {α : Type} {P : α → Prop} : ∀ n, (none : Option α) = some n → P n := nofun
theorem of_nil {α : Type} {P : α → Prop} : ∀ a ∈ ([] : List α), P a := nofun
theorem of_cons {α : Type} {P : α → Prop} {a : α} {l : List α} (h : P a) (t : ∀ x ∈ l, P x) : ∀ x ∈ a :: l, P x :=
  List.forall_mem_cons.2 ⟨h, t⟩

def g0 : Glyph :=
  { name := ['a'], codepoints := [65],
    anchors := [{ x := 0, y := 0, name := some ['t'], color := some ⟨0, 0, 0, 0⟩, ident := some ['i'] }],
    contours := [{ points := [{ x := 0, y := 0, typ := .line, smooth := false, name := none, ident := some ['p'] }], ident := none }],
    components := [{ base := ['b'], transform := { xScale := 0, xyScale := 0, yxScale := 0, yScale := 0, xOffset := 0, yOffset := 0 }, ident := some ['k'] }],
    lib := [(['k'], PV.str ['v'])] }

theorem valid_g0 : ValidGlyph ok0 g0 :=
  ⟨by decide, rfl, rfl, of_cons ⟨by decide, by decide⟩ of_nil, by decide, of_none,
    of_cons ⟨rfl, rfl, of_some (by decide), of_some (by decide)⟩ of_nil, of_nil,
    of_cons ⟨of_cons ⟨rfl, rfl, of_none, of_some (by decide)⟩ of_nil, by decide, of_none⟩ of_nil,
    of_cons ⟨by decide, ⟨rfl, rfl, rfl, rfl, rfl, rfl⟩, of_some (by decide)⟩ of_nil, by decide⟩

-- the round-trip theorem applies to `g0` (its hypotheses are satisfiable) and the glyph comes back
example : parseGlif R0 (encodeGlif F0 g0) = .ok (normG nc0 g0) :=
  glif_roundtrip_partial_no_object_libs codec0 valid_g0
    ⟨of_cons rfl of_nil, of_nil, of_cons ⟨rfl, of_cons rfl of_nil⟩ of_nil, of_cons rfl of_nil⟩
    (by decide) (by simp [g0, F0, reindentDict, reindentPV, reindent]) of_none ⟨.inr rfl, .inr rfl⟩
    (by simp [g0])

def g1 : Glyph :=
  { g0 with anchors := [{ x := 0, y := 0, name := some ['t'], color := some ⟨0, 0, 0, 0⟩, ident := some ['i'],
                          lib := some [(['z'], PV.atom "b1")] }] }

theorem valid_g1 : ValidGlyph ok0 g1 :=
  have h := valid_g0
  ⟨h.name, h.width, h.height, h.codepoints, h.codepointsNodup, h.image,
    of_cons ⟨rfl, rfl, of_some (by decide), of_some (by decide)⟩ of_nil, h.guidelines, h.contours, h.components,
    by decide⟩

-- with an object lib: it travels under `public.objectLibs` and comes back on the anchor
example : parseGlif R0 (encodeGlif F0 g1) = .ok (normGL nc0 g1) :=
  glif_roundtrip_partial codec0 valid_g1
    ⟨of_cons (fun _ => rfl) of_nil, of_nil, of_cons ⟨nofun, of_cons nofun of_nil⟩ of_nil, of_cons nofun of_nil⟩
    (by decide) (by decide +kernel) of_none ⟨.inr rfl, .inr rfl⟩ (by simp [g1, g0])

/-! ### non-vacuity of `legal_accepted` (C12): items out of canonical order, comments everywhere -/

def d0 : GDoc :=
  { prolog := [.decl, .comment], name := ['a'], minor := true,
    items := [.comment,
      .anchor { x := 0, y := 0, name := none, color := none, ident := some ['i'] },
      .unicode 65,
      .outline [.comment,
        .contour none [.point { x := 0, y := 0, typ := .line, smooth := false, name := none, ident := some ['p'] }, .comment],
        .emptyContour none,
        .component { base := ['b'], transform := { xScale := 0, xyScale := 0, yxScale := 0, yScale := 0, xOffset := 0, yOffset := 0 }, ident := none }],
      .note (some ['n']),
      .advance 0 0,
      .comment],
    trailer := [.other] }

theorem legal_d0 : LegalItems ok0 d0.items :=
  ⟨of_cons trivial <| of_cons ⟨rfl, rfl, of_none, of_some (by decide)⟩ <| of_cons ⟨by decide, by decide⟩ <|
    of_cons (of_cons trivial <|
        of_cons ⟨of_cons ⟨rfl, rfl, of_none, of_some (by decide)⟩ <| of_cons trivial of_nil, by decide, of_none⟩ <|
        of_cons trivial <| of_cons ⟨by decide, ⟨rfl, rfl, rfl, rfl, rfl, rfl⟩, of_none⟩ of_nil) <|
    of_cons trivial <| of_cons ⟨rfl, rfl⟩ <| of_cons trivial of_nil,
   by decide, by decide, by decide, by decide, by decide, by decide⟩

example : ∃ g, parseGlif R0 (render F0 d0) = .ok g ∧ loadObjectLibs (interp nc0 d0) = .ok g :=
  legal_accepted codec0 d0 (by decide) (by decide) legal_d0 (by
      have h0 : dictGet objectLibsKey (interp nc0 d0).lib = none := by decide
      intro v hv; rw [h0] at hv; cases hv) (evs := render F0 d0)
    (by
      have refl : ∀ l : List Ev, EvsPerm l l := by
        intro l; induction l with
        | nil => exact EvsPerm.nil
        | cons e r ih => exact EvsPerm.cons (EvPerm.refl e) ih
      exact refl _)

/-! ### non-vacuity of `legal_accepted_gdoc_v1`, the format-1 half of `legal_accepted_v1` (C12) -/

def d1 : GDoc :=
  { prolog := [.decl], name := ['a'], minor := false,
    items := [.comment, .unicode 65,
      .outline [.contour none [.point { x := 0, y := 0, typ := .move, smooth := false, name := some ['t'], ident := none }],
        .comment,
        .contour none [.point { x := 0, y := 0, typ := .line, smooth := false, name := none, ident := none }, .comment],
        .component { base := ['b'], transform := { xScale := 0, xyScale := 0, yxScale := 0, yScale := 0, xOffset := 0, yOffset := 0 }, ident := none }],
      .advance 0 0],
    trailer := [] }

theorem legal_d1 : LegalItemsV1 ok0 d1.items :=
  ⟨of_cons trivial <| of_cons ⟨by decide, by decide⟩ <|
    of_cons (of_cons ⟨of_cons ⟨rfl, rfl, of_some (by decide), of_none⟩ of_nil, by decide, of_none⟩ <|
        of_cons trivial <|
        of_cons ⟨of_cons ⟨rfl, rfl, of_none, of_none⟩ <| of_cons trivial of_nil, by decide, of_none⟩ <|
        of_cons ⟨by decide, ⟨rfl, rfl, rfl, rfl, rfl, rfl⟩, of_none⟩ of_nil) <|
    of_cons ⟨rfl, rfl⟩ of_nil,
   of_cons trivial <| of_cons trivial <|
    of_cons (of_cons ⟨rfl, of_cons rfl of_nil⟩ <| of_cons trivial <|
        of_cons ⟨rfl, of_cons rfl <| of_cons trivial of_nil⟩ <| of_cons rfl of_nil) <|
    of_cons trivial of_nil,
   by decide, by decide, by decide⟩

-- the format-1 document is read as `interpV1 d1`, in which the single named `move` point has become an anchor
example : parseGlif R0 (renderV1 F0 d1) = loadObjectLibs (interpV1 d1) ∧
    ((interpV1 d1).anchors.length = 1 ∧ (interpV1 d1).contours.length = 1) :=
  ⟨legal_accepted_gdoc_v1 codec0 d1 (by decide) (by decide) legal_d1, by decide⟩

end Glif
