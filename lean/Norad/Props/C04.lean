import Norad.Props.C01
import Mathlib.Data.List.Perm.Basic
import Mathlib.Data.List.Nodup
/-!
# C04 — load, save, load again: input is normalised without loss

On the model of `Model/RoundTrip.lean`.  What `loadFont` returns after norad's own `saveFont` is again a valid font
inside the number guards (`rtFont_valid`, `rtFont_numbers`), so one more save + load returns the same font
(`norad_output_is_fixed_point`); whatever is written says creator norad / format 3 (`output_is_v3`).

The full-strength statement for arbitrary accepted trees,
  `loadFont t = .ok f → ∃ t' f', saveFont f = .ok t' ∧ loadFont t' = .ok f' ∧ FontEquiv L f f'`,
is FALSE on the tree: `objectlibs_key_without_fontinfo_counterexample` (recorded finding).  Under the guards of
`loaded_is_representable` and the number guards it holds (`load_save_load_fixed_point`).
Glif format 2 of what is written is below this model (glyphs are tokens): checked by the oracle.
-/
namespace RT

variable {P : Parts} (L : PartLaws P)

theorem sortGuide_id (g : Guide) : (sortGuide g).id = g.id := rfl

theorem numOK_ofInt (k : ℤ) : NumOK (NumV.ofInt k) := by
  intro q hq
  cases hq
  by_cases h : k = 0
  · exact .inl (by simp [h])
  · exact .inr (lt_of_lt_of_le (eps_small.trans (by norm_num)) (one_le_abs_intCast h))

theorem numOK_roundtrip (w : ℚ → Num) (v : NumV) (hv : NumOK v) : NumOK (readNum (writeWith w v)) := by
  rcases readNum_writeWith w v with e | ⟨_, k, _, _, e⟩ <;> rw [e]
  exacts [hv, numOK_ofInt k]

theorem rtFont_numbers (f : (Font P)) (hn : NumbersOK f) : NumbersOK (rtFont L f) where
  info := by
    intro e he hl
    rw [show (rtFont L f).info.nums = loadNums (saveNums f.info.nums) from rfl, loadNums_saveNums] at he
    obtain ⟨e0, he0, rfl⟩ := List.mem_map.1 he
    rw [if_neg (by simpa using hl)]
    exact numOK_roundtrip infoWrite e0.2 (hn.info e0 he0 hl)
  upm := by
    intro v hv
    simp only [rtFont, rtInfo, Option.map_map, Option.map_eq_some_iff, Function.comp] at hv
    obtain ⟨v0, hu, rfl⟩ := hv
    obtain ⟨h1, h2⟩ := hn.upm v0 hu
    refine ⟨numOK_roundtrip upmWrite v0 h1, fun q hq => ?_⟩
    rcases readNum_writeWith upmWrite v0 with e | ⟨q0, k, hq0, hw, e⟩ <;> rw [e] at hq
    · exact h2 q hq
    · cases hq
      -- the integer written for a non-negative value inside the i32 range is its truncation
      unfold upmWrite at hw
      split at hw <;> cases hw
      rename_i hc
      obtain ⟨hlo, hhi⟩ := truncQ_bounds q0 0 i32Max le_rfl (by decide) (by exact_mod_cast h2 q0 hq0) hc.2
      rw [sat32_id _ (le_trans (by decide) hlo) hhi]
      exact_mod_cast hlo
  kerning := by
    intro e he p hp
    rw [show (rtFont L f).kerning = loadKerning (saveKerning f.kerning) from rfl, loadKerning_saveKerning] at he
    obtain ⟨e0, he0, rfl⟩ := List.mem_map.1 he
    obtain ⟨p0, hp0, rfl⟩ := List.mem_map.1 hp
    exact numOK_roundtrip kernWrite p0.2 (hn.kerning e0 he0 p0 hp0)
  colours := by
    intro l hl c hc
    obtain ⟨l0, _, rfl⟩ := List.mem_map.1 hl
    obtain ⟨c0, _, rfl⟩ := Option.map_eq_some_iff.1 hc
    trivial

/-- whatever font is saved (also one that came from a format 1 or 2 tree: `load_impl` sets the format
    version to 3 before returning), the written metainfo says creator norad, formatVersion 3 -/
theorem output_is_v3 (f : (Font P)) (t : (Tree P)) (h : saveFont f = .ok t) :
    t.creator = some defaultCreator ∧ t.fv = 3 := metainfo_roundtrip f t h

theorem loadFont_ok (t : Tree P) (f : Font P) (h : loadFont t = .ok f) :
    f.fv = 3 ∧
    (t.fontinfo = none ∧ f.info = {} ∧ f.lib = t.lib.getD [] ∨
      ∃ i, t.fontinfo = some i ∧ loadInfo i (t.lib.getD []) = .ok (f.info, f.lib)) ∧
    ∃ ls, loadLayers t t.layercontents = .ok ls ∧ defaultFirst ls = .ok f.layers := by
  revert h
  fun_cases loadFont t <;> intro h <;> try (cases h; done)
  -- left is the one success: the font info (or its default), the layers, and the default layer found
  next lib0 infoR info lib hinfo ls hls layers hdf =>
    cases h
    refine ⟨rfl, ?_, ls, hls, hdf⟩
    cases hfi : t.fontinfo with
    | none => simp only [infoR, hfi] at hinfo; cases hinfo; exact .inl ⟨rfl, rfl, rfl⟩
    | some i => simp only [infoR, hfi] at hinfo; exact .inr ⟨i, rfl, hinfo⟩

theorem loaded_is_v3 (t : Tree P) (f : Font P) (h : loadFont t = .ok f) : f.fv = 3 :=
  (loadFont_ok t f h).1

theorem attachLibs_ids (gs : List GuideF) (d : Dict) (gs' : List Guide) (h : attachLibs gs d = .ok gs') :
    gs'.map (·.id) = gs.map (·.id) ∧ LibsHaveIds gs' := by
  have step : ∀ {c : Guide} {g : GuideF} {r : List GuideF} {gs0 : List Guide},
      gs0.map (·.id) = r.map (·.id) ∧ LibsHaveIds gs0 → c.id = g.id → (∀ l, c.lib = some l → ∃ i, c.id = some i) →
      (c :: gs0).map (·.id) = (g :: r).map (·.id) ∧ LibsHaveIds (c :: gs0) := by
    intro c g r gs0 ih hc hl
    refine ⟨by simp [ih.1, hc], fun x hx => ?_⟩
    rcases List.mem_cons.1 hx with rfl | hx
    exacts [hl, ih.2 x hx]
  -- an identifier with an entry that is no dictionary is refused; otherwise, per guideline, the rest of the list is read
  -- (`hr`) or stops the reader (`hx`)
  fun_induction attachLibs gs d generalizing gs' <;> try (cases h; done)
  next => cases h; exact ⟨rfl, fun _ hg => nomatch hg⟩                                       -- no guideline left
  next hid _ hr ih => cases h; exact step (ih _ hr) hid.symm fun _ hl => nomatch hl           -- no identifier
  next hx _ => exact (hx _ h).elim
  next hid _ _ hr ih => cases h; exact step (ih _ hr) hid.symm fun _ hl => nomatch hl         -- identifier without an entry
  next hx _ => exact (hx _ h).elim
  next hid _ _ _ hr ih => cases h; exact step (ih _ hr) hid.symm fun _ _ => ⟨_, rfl⟩          -- identifier with a dictionary
  next hx _ => exact (hx _ h).elim

theorem restOK_of_loadRest (r : Option P.RestFile) (i : Info P) (h : loadRest r = some i.rest) : restOK i = true := by
  unfold restOK
  generalize i.rest = rest at h ⊢
  revert h
  fun_cases loadRest r <;> intro h <;> cases h
  · rfl
  · assumption

theorem plainGuides_ids (o : Option (List GuideF)) :
    ((o.map plainGuides).getD []).map (·.id) = (o.getD []).map (·.id) ∧ LibsHaveIds ((o.map plainGuides).getD []) := by
  cases o with
  | none => exact ⟨rfl, fun _ hg => nomatch hg⟩
  | some gs =>
    refine ⟨by simp [plainGuides, List.map_map, Function.comp_def], fun g hg l hl => ?_⟩
    obtain ⟨g0, _, rfl⟩ := List.mem_map.1 hg
    cases hl

theorem loadInfo_valid (i : InfoF P) (lib : Dict) (info : Info P) (lib' : Dict)
    (h : loadInfo i lib = .ok (info, lib')) :
    idsNodup ((info.guides.getD []).map (·.id)) = true ∧ LibsHaveIds (info.guides.getD []) ∧
    lookupKV objectLibsKey lib' = none ∧ restOK info = true := by
  revert h
  -- the refusals (repeated identifiers, invalid other fields, reserved key not a dictionary, `attachLibs` failed) go first
  fun_cases loadInfo i lib <;> intro h <;> try (cases h; done)
  next hn _ hr _ hk =>                     -- the lib does not hold the reserved key
    obtain ⟨rfl, rfl⟩ := Prod.mk.inj (Out.ok.inj h)
    exact ⟨(congrArg idsNodup (plainGuides_ids i.guides).1).trans (by simpa using hn), (plainGuides_ids i.guides).2, hk,
      restOK_of_loadRest _ _ hr⟩
  next hn _ hr _ _ _ _ =>                  -- reserved key, no guidelines: the key is dropped
    obtain ⟨rfl, rfl⟩ := Prod.mk.inj (Out.ok.inj h)
    exact ⟨(congrArg idsNodup (plainGuides_ids i.guides).1).trans (by simpa using hn), (plainGuides_ids i.guides).2,
      lookupKV_erase_self _ _, restOK_of_loadRest _ _ hr⟩
  next hn _ hr _ _ _ gs hg gs' ha =>       -- reserved key and guidelines `gs`: `attachLibs` returned `gs'`
    obtain ⟨rfl, rfl⟩ := Prod.mk.inj (Out.ok.inj h)
    obtain ⟨h1, h2⟩ := attachLibs_ids gs _ gs' ha
    exact ⟨by simpa [h1, hg] using hn, h2, lookupKV_erase_self _ _, restOK_of_loadRest _ _ hr⟩

theorem loadGlyphs_files (d : LayerDirF P) (c : List (String × String)) (gs : List (GlyphE P))
    (h : loadGlyphs d c = some gs) : gs.map (·.file) = c.map (·.2) := by
  fun_induction loadGlyphs d c generalizing gs
  case case1 => cases h; rfl
  case case2 hr _ ih => cases h; simp [ih _ hr]
  case case3 => cases h

theorem loadLayers_shape (t : Tree P) (lc : List (String × String)) (ls : List (Layer P))
    (h : loadLayers t lc = .ok ls) :
    ls.map (·.dir) = lc.map (·.2) ∧
    ∀ l ∈ ls, ∃ d, lookupS l.dir t.dirs = some d ∧ l.glyphs.map (·.file) = d.contents.map (·.2) := by
  -- a missing layer directory and a missing glif are refusals
  fun_induction loadLayers t lc generalizing ls <;> try (cases h; done)
  next => cases h; exact ⟨rfl, fun _ hl => nomatch hl⟩
  next n dir r d hd l ls0 hr hl ih =>       -- directory `d` found, layer `l` and the other layers `ls0` read
    cases h
    obtain ⟨h1, h2⟩ := ih ls0 hr
    have hld : l.dir = dir ∧ l.glyphs.map (·.file) = d.contents.map (·.2) := by
      revert hl
      fun_cases loadLayer n dir d <;> intro hl <;> cases hl
      next gs hgs => exact ⟨rfl, loadGlyphs_files d _ gs hgs⟩
    refine ⟨by simp [h1, hld.1], fun x hx => ?_⟩
    rcases List.mem_cons.1 hx with rfl | hx'
    · exact ⟨d, hld.1 ▸ hd, hld.2⟩
    · exact h2 x hx'
  next h1 h2 _ =>                           -- the other layers failed: `h` cannot be a success
    cases hl : loadLayer _ _ _ with
    | none => exact (h1 hl).elim
    | some l => exact (h2 l _ hl h).elim

theorem defaultFirst_shape (ls ls' : List (Layer P)) (h : defaultFirst ls = .ok ls') :
    ls'.Perm ls ∧ ∃ l r, ls' = l :: r ∧ l.dir = glyphsDir := by
  unfold defaultFirst at h
  cases hf : findDefault ls with
  | none => simp [hf] at h
  | some i =>
    obtain ⟨d, h1, h2⟩ := findDefault_spec ls i hf
    simp only [hf, h1] at h
    cases h
    obtain ⟨hi, rfl⟩ := List.getElem?_eq_some_iff.1 h1
    exact ⟨List.getElem_cons_eraseIdx_perm hi, _, _, rfl, h2⟩

/-- **C04, arbitrary accepted trees.**  Whatever `loadFont` returns for a tree that lists every layer
    directory once, every glif file once per layer, and holds the reserved lib key only together with
    a fontinfo.plist, is a font `saveFont` accepts (the structural half of "everything accepted by the
    reader is representable by the writer"; the number guards are separate).  `hglyphs`: the loaded glyphs are inside
    the guard of the glif round trip; `saveFont` does not ask for it, `ValidFont` carries it for `font_roundtrip` -/
theorem loaded_is_representable (t : (Tree P)) (f : (Font P)) (h : loadFont t = .ok f)
    (hdirs : nodupS (t.layercontents.map (·.2)) = true)
    (hfiles : ∀ e ∈ t.dirs, nodupS (e.2.contents.map (·.2)) = true)
    (hkey : t.fontinfo.isSome = true ∨ lookupKV objectLibsKey (t.lib.getD []) = none)
    (hglyphs : ∀ l ∈ f.layers, ∀ g ∈ l.glyphs, L.glyphOK g.tok) :
    ValidFont L f := by
  obtain ⟨hfv, hinfo, ls, hl, hd⟩ := loadFont_ok t f h
  obtain ⟨h1, h2⟩ := loadLayers_shape t _ ls hl
  obtain ⟨hp, hfirst⟩ := defaultFirst_shape ls f.layers hd
  obtain ⟨ids, libIds, noKey, rest⟩ : idsNodup ((f.info.guides.getD []).map (·.id)) = true ∧
      LibsHaveIds (f.info.guides.getD []) ∧ lookupKV objectLibsKey f.lib = none ∧ restOK f.info = true := by
    rcases hinfo with ⟨hfi, hinfo, hlib⟩ | ⟨i, _, hli⟩
    · rw [hinfo, hlib]
      exact ⟨rfl, (fun _ hg => nomatch hg), hkey.resolve_left (by simp [hfi]), rfl⟩
    · exact loadInfo_valid i _ _ _ hli
  refine { fv := hfv, noKey := noKey, ids := ids, libIds := libIds, dirs := ?_, defFirst := hfirst, files := ?_,
           glyphsOK := hglyphs, restValid := rest }
  · rw [nodupS_iff] at hdirs ⊢
    rw [← h1] at hdirs
    exact (hp.map _).nodup_iff.2 hdirs
  · intro l hl'
    obtain ⟨d, hd1, hd2⟩ := h2 l (hp.subset hl')
    rw [hd2]
    exact hfiles _ (lookupS_is.mem hd1)

theorem rtFont_valid (N : NormLaws L) (f : (Font P)) (hv : ValidFont L f) : ValidFont L (rtFont L f) := by
  obtain ⟨t, hs, hl⟩ := save_load_eq L f hv
  rw [saveFont_ok L f hv] at hs
  cases hs
  refine loaded_is_representable L _ _ hl ?_ ?_ ?_ ?_
  · simpa [mkTree, List.map_map, Function.comp_def] using hv.dirs
  · intro e he
    obtain ⟨l, hl', rfl⟩ := List.mem_map.1 he
    simpa [saveLayerDir, List.map_map, Function.comp_def] using hv.files l hl'
  · rw [mkTree_fontinfo, mkTree_lib]
    by_cases hie : f.info.isEmpty = true
    · -- no fontinfo.plist: no guidelines, so no object libs, and the lib is written as it is
      refine .inr ?_
      rw [guides_of_isEmpty hie]
      show lookupKV objectLibsKey ((if f.lib.isEmpty = true then none else some (sortDict f.lib)).getD []) = none
      rw [getD_gate sortDict rfl, lookup_sortDict, hv.noKey]
      rfl
    · exact .inl (by simp [hie])
  · intro l hl' g hg
    obtain ⟨l0, hl0, rfl⟩ := List.mem_map.1 hl'
    obtain ⟨g0, hg0, rfl⟩ := List.mem_map.1 hg
    exact N.norm_ok g0.tok (hv.glyphsOK l0 hl0 g0 hg0)

/-- **C04, norad's own output.**  The font obtained by save + load can be saved and loaded again, and that returns the
    same font in the sense of `FontEquiv`, not equality (false of the feature text: `crlfToLf_not_idempotent_counterexample`). -/
theorem norad_output_is_fixed_point (N : NormLaws L) (f : (Font P)) (hv : ValidFont L f) (hn : NumbersOK f) :
    ∃ t f', saveFont f = .ok t ∧ loadFont t = .ok f' ∧
      ∃ t' f'', saveFont f' = .ok t' ∧ loadFont t' = .ok f'' ∧ FontEquiv L f' f'' := by
  obtain ⟨t, h1, h2⟩ := save_load_eq L f hv
  exact ⟨t, rtFont L f, h1, h2, font_roundtrip L (rtFont L f) (rtFont_valid L N f hv) (rtFont_numbers L f hn)⟩

/-- **C04, model level**, for every accepted tree inside the guards; `hglyphs` and `hn` are assumed of the LOADED font (of the
    creator `FontEquiv` says only that the second one is norad's) -/
theorem load_save_load_fixed_point (t : (Tree P)) (f : (Font P)) (h : loadFont t = .ok f)
    (hdirs : nodupS (t.layercontents.map (·.2)) = true)
    (hfiles : ∀ e ∈ t.dirs, nodupS (e.2.contents.map (·.2)) = true)
    (hkey : t.fontinfo.isSome = true ∨ lookupKV objectLibsKey (t.lib.getD []) = none)
    (hglyphs : ∀ l ∈ f.layers, ∀ g ∈ l.glyphs, L.glyphOK g.tok)
    (hn : NumbersOK f) :
    ∃ t' f', saveFont f = .ok t' ∧ loadFont t' = .ok f' ∧ FontEquiv L f f' :=
  font_roundtrip L f (loaded_is_representable L t f h hdirs hfiles hkey hglyphs) hn

/-- the tree of the recorded finding: lib.plist with the reserved key, no fontinfo.plist -/
def objLibsNoInfoTree : Tree tokenParts where
  creator := some "x"
  fv := 3
  minor := 0
  fontinfo := none
  lib := some [("public.objectLibs", PV.dict [("g1", PV.dict [("k", PV.str "v")])]), ("other", PV.int 1)]
  groups := none
  kerning := none
  features := none
  layercontents := [("public.default", "glyphs")]
  dirs := [("glyphs", { contents := [], info := none, glifs := [] })]
  data := []
  images := []

/-- the full-strength fixed-point statement is false: this tree loads, and the loaded font is refused
    by `saveFont` (the reserved key is only consumed when fontinfo.plist exists) -/
theorem objectlibs_key_without_fontinfo_counterexample :
    ∃ f, loadFont objLibsNoInfoTree = .ok f ∧ saveFont f = .err .objectLibsKey := by
  exact ⟨_, rfl, rfl⟩

/-! ## source-level tie, reader side (see `Props/C01.lean`, section "source-level tie") -/

/-- what the loader of the model gives for every optional file that is absent -/
def modelAbsentReads : List (String × String) :=
  [("data", "empty"), ("features.fea", "empty"), ("fontinfo.plist", "empty"), ("groups.plist", "empty"),
   ("images", "empty"), ("kerning.plist", "empty"), ("layerinfo.plist", "none+empty"),
   ("layerinfo.plist:color", "none"), ("layerinfo.plist:lib", "empty"), ("lib.plist", "empty")]

/-- what `load_impl` / `Layer::load_impl` / `parse_layer_info` give in the source when a file or key is absent is
    what `loadFont` gives in the model -/
theorem source_absent_reads_match_model : Generated.RoundTrip.absentReads = modelAbsentReads := by decide +kernel

/-- a tree holding only the mandatory files -/
def minimalTree : Tree tokenParts where
  creator := none
  fv := 3
  minor := 0
  fontinfo := none
  lib := none
  groups := none
  kerning := none
  features := none
  layercontents := [("public.default", "glyphs")]
  dirs := [("glyphs", { contents := [], info := none, glifs := [] })]
  data := []
  images := []

/-- `modelAbsentReads` describes the model: loading a tree without the optional files gives the empty value of
    every part (which is exactly the value at which `saveFont` does not write the file: `model_file_gates`) -/
theorem model_absent_files_read_as_empty :
    ∃ f, loadFont minimalTree = .ok f ∧ f.lib = [] ∧ f.groups = [] ∧ f.kerning = [] ∧ f.features = [] ∧
      f.info.isEmpty = true ∧ f.data = [] ∧ f.images = [] ∧
      (f.layers.all fun l => l.color.isNone && l.lib.isEmpty) = true :=
  ⟨_, rfl, rfl, rfl, rfl, rfl, rfl, rfl, rfl, rfl⟩

end RT
