import Norad.Lemmas.FontInfoTie
import Norad.Lemmas.FontInfoDeserTie
import Norad.Generated.FontInfoRules
import Norad.Generated.FontInfoDeser
/-!
# C13 — font info is accepted exactly when it satisfies the specification's rules

The property theorems, the statements they all come from (`validate_verdict`, `saveInfo_eq`, `loadInfo_loaded_iff`)
and the source-level ties.  `validate`, `saveInfo`, `loadInfo` are the transcriptions of
`FontInfo::validate`, the font-info part of `Font::save` and `FontInfo::from_file` (format 3) in
`Model/FontInfo.lean`; `Rules` is the independent per-rule statement in `Spec/FontInfo.lean`.

The model follows the code after the `fix:` commits c432e74 (month and day from 1) and ef7c906 (`validate` checks
guideline angles); the witnesses of the two repaired defects are among the examples at the end.
-/
namespace C13
open FI

theorem rules_iff (i : Info) : Rules i ↔
    whenSome DateOK i.created ∧ whenSome GaspSorted i.gasp ∧ whenSome IdsUnique i.guidelines ∧
    whenSome AnglesOK i.guidelines ∧ whenSome SelectionOK i.selection ∧ whenSome ClassOK i.familyClass ∧
    whenSome (BlueOK 14) i.blueValues ∧ whenSome (BlueOK 10) i.otherBlues ∧ whenSome (BlueOK 14) i.familyBlues ∧
    whenSome (BlueOK 10) i.familyOtherBlues ∧ whenSome StemOK i.stemSnapH ∧ whenSome StemOK i.stemSnapV ∧
    whenSome ExtensionsOK i.woffExtensions ∧ whenSome NonEmpty i.woffCredits ∧ whenSome NonEmpty i.woffCopyright ∧
    whenSome NonEmpty i.woffDescription ∧ whenSome NonEmpty i.woffTrademark :=
  ⟨fun ⟨a, b, c1, c2, d, e, f1, f2, f3, f4, g1, g2, h, w1, w2, w3, w4⟩ =>
    ⟨a, b, c1, c2, d, e, f1, f2, f3, f4, g1, g2, h, w1, w2, w3, w4⟩,
   fun ⟨a, b, c1, c2, d, e, f1, f2, f3, f4, g1, g2, h, w1, w2, w3, w4⟩ =>
    ⟨a, b, c1, c2, d, e, f1, f2, f3, f4, g1, g2, h, w1, w2, w3, w4⟩⟩

/-- **what `validate` returns**: `.ok` exactly on the values that satisfy every rule, otherwise the kind of a
    rule the value violates (which one, when several are, is not stated); never a panic -/
theorem validate_verdict (i : Info) : Verdict (validate i) (Rules i) (KindViolated · i) := by
  -- a refusal of kind `listLen`, `listPairs`, `emptyWoff` denies a conjunction; each check answers for its own member
  have blue {len max} (sel : LenLimits i → lenWithin max len) (sel' : PairLists i → lenEven len) :
      Verdict (checkBlue len max) (whenSome (BlueOK max) len) (KindViolated · i) :=
    (checkBlue_verdict len max).mono fun k _ h => by
      rcases h with ⟨rfl, hn⟩ | ⟨rfl, hn⟩
      · exact kindViolated_listLen fun hh => hn (sel hh)
      · exact kindViolated_listPairs fun hh => hn (sel' hh)
  have stem {len} (sel : LenLimits i → lenWithin 12 len) :
      Verdict (checkStem len) (whenSome StemOK len) (KindViolated · i) :=
    (checkStem_verdict len).mono fun k _ ⟨e, hn⟩ => e ▸ kindViolated_listLen fun hh => hn (sel hh)
  have woff {n} (sel : WoffContent i → whenSome NonEmpty n) :
      Verdict (checkNonEmpty n) (whenSome NonEmpty n) (KindViolated · i) :=
    (checkNonEmpty_verdict n).named fun hn => kindViolated_emptyWoff fun hh => hn (sel hh)
  have h := ((checkDate_verdict i).named (V := (KindViolated · i)) id).andThen <|
    ((checkGasp_verdict i).named id).andThen <|
    ((checkGuidelines_verdict i).mono fun k _ h => by rcases h with ⟨rfl, hn⟩ | ⟨rfl, hn⟩ <;> exact hn).andThen <|
    ((checkSelection_verdict i).named id).andThen <| ((checkFamilyClass_verdict i).named id).andThen <|
    (blue (max := 14) (·.blueValues) (·.blueValues)).andThen <|
    (blue (max := 10) (·.otherBlues) (·.otherBlues)).andThen <|
    (blue (max := 14) (·.familyBlues) (·.familyBlues)).andThen <|
    (blue (max := 10) (·.familyOtherBlues) (·.familyOtherBlues)).andThen <|
    (stem (·.stemSnapH)).andThen <| (stem (·.stemSnapV)).andThen <|
    ((checkExtensions_verdict i).named fun hn => kindViolated_emptyWoff fun hh => hn hh.extensions).andThen <|
    (woff (·.credits)).andThen <| (woff (·.copyright)).andThen <| (woff (·.description)).andThen (woff (·.trademark))
  -- here the chain above is compared with `validate i`, operand by operand
  exact h.congr (by rw [rules_iff, and_assoc])

/-- **C13, full strength**: `validate` accepts a font info exactly when every rule of the
    statement holds of it — for all values, of any size -/
theorem validate_iff_rules (i : Info) : validate i = .ok ↔ Rules i := (validate_verdict i).ok_iff

/-- no slice of the date is ever taken off a character boundary (the ASCII test precedes the slicing) -/
theorem validate_never_panics (i : Info) : validate i ≠ .panic := (validate_verdict i).ne_panic

/-- the executable oracle the driver evaluates on the implementation's verdicts is the rule set -/
theorem violated_nil_iff (i : Info) : violated i = [] ↔ Rules i := by
  simp only [violated, rules_iff, List.append_eq_nil_iff, ite_eq_left_iff, imp_false, Decidable.not_not,
    List.cons_ne_nil, and_assoc]

/-- once `validate` has accepted, the writer of `fontinfo.plist` does not refuse (the hole of the unrepaired
    tree: a guideline angle) -/
theorem saveInfo_eq (i : Info) :
    saveInfo i = match validate i with | .ok => .ok | .err k => .refused k | .panic => .panic := by
  unfold saveInfo
  cases hv : validate i with
  | ok => simp only [(serializeInfo_verdict i).ok_iff.2 ((validate_iff_rules i).1 hv).angles]
  | err k => rfl
  | panic => rfl

/-- **save**: accepted exactly when the rules hold -/
theorem saveInfo_ok_iff (i : Info) : saveInfo i = .ok ↔ Rules i := by
  rw [saveInfo_eq, ← validate_iff_rules]
  cases validate i <;> simp

/-- whatever the writer of `fontinfo.plist` refuses, `validate` has refused before the target
    directory was touched -/
theorem save_never_fails_late (i : Info) (k : Kind) : saveInfo i ≠ .late k := by
  rw [saveInfo_eq]
  cases validate i <;> simp

theorem saveInfo_never_panics (i : Info) : saveInfo i ≠ .panic := by
  rw [saveInfo_eq]
  cases hv : validate i with
  | panic => exact absurd hv (validate_never_panics i)
  | _ => simp

theorem loadInfo_loaded_iff (r : RawInfo) (i : Info) :
    loadInfo r = .loaded i ↔ deser r = some i ∧ validate i = .ok := by
  unfold loadInfo
  cases deser r with
  | none => simp
  | some j =>
    dsimp only
    cases hv : validate j with
    | ok => simp only [LoadResult.loaded.injEq, Option.some.injEq]; exact ⟨fun h => ⟨h, h ▸ hv⟩, fun h => h.1⟩
    | _ => simp only [reduceCtorEq, Option.some.injEq, false_iff]; rintro ⟨rfl, h⟩; rw [hv] at h; cases h

theorem loaded_validates (r : RawInfo) (i : Info) (h : loadInfo r = .loaded i) : validate i = .ok :=
  ((loadInfo_loaded_iff r i).1 h).2

theorem loadInfo_never_panics (r : RawInfo) : loadInfo r ≠ .panic := by
  fun_cases loadInfo r <;> first | exact absurd ‹validate _ = .panic› (validate_never_panics _) | exact nofun

/-- **the three entry points agree** on every value that can reach all three -/
theorem entry_points_agree (i : Info) (ht : WellTyped i) :
    (saveInfo i = .ok ↔ validate i = .ok) ∧ (loadInfo (toRaw i) = .loaded i ↔ validate i = .ok) := by
  refine ⟨by rw [saveInfo_ok_iff, validate_iff_rules], ?_⟩
  rw [loadInfo_loaded_iff]
  exact ⟨fun h => h.2, fun hv => ⟨deser_toRaw i ht ((validate_iff_rules i).1 hv).angles, hv⟩⟩

/-- **a loaded font never holds a font info that violates the rules** -/
theorem loaded_info_satisfies_rules (r : RawInfo) (i : Info) (h : loadInfo r = .loaded i) : Rules i :=
  (validate_iff_rules i).1 (loaded_validates r i h)

/-- **a saved file never contains a font info that violates the rules** -/
theorem saved_info_satisfies_rules (i : Info) (h : saveInfo i = .ok) : Rules i :=
  (saveInfo_ok_iff i).1 h

theorem validate_error_means_violation (i : Info) (k : Kind) (h : validate i = .err k) : ¬ Rules i :=
  ((validate_verdict i).of_err h).1

/-- **which rule a refusal names**: the kind reported by `validate` is the kind of a rule the value
    really violates (the code stops at the first in source order; that it is the first is not stated) -/
theorem validate_error_kind (i : Info) (k : Kind) (h : validate i = .err k) : KindViolated k i :=
  ((validate_verdict i).of_err h).2

/-! ### source-level tie of the rule constants

`Generated.FontInfoRules.*` is regenerated from `src/fontinfo.rs` on every run (tools/extract_fontinfo_rules.py).  The
`source_*` theorems compare it set-wise with the model's literals (`ModelConsts`) and with the rule table of the
statement, so a changed limit breaks an obligation and a reordering does not. -/

open RuleTable in
/-- the mirrored tables say what the model does: the date chain *is* the chain of `ModelConsts.dateOps`,
    the character test and the length test use `dateExtraChars` / `dateLength`, and each list, the selection
    bits, the family class and (integral) angles are accepted by `validate` exactly within the mirrored bounds -/
theorem model_consts_describe_validate :
    (∀ v, dateChain v = chainOf v ModelConsts.dateOps) ∧
    (∀ c, okChar c = (('0' ≤ c && c ≤ '9') || ModelConsts.dateExtraChars.contains c)) ∧
    (∀ v, byteLen v ≠ ModelConsts.dateLength → validateDate v = .err .date) ∧
    (∀ n, validate { blueValues := some n } = .ok ↔
      n ≤ limitOf ModelConsts.listLimits "postscript_blue_values" ∧
      (ModelConsts.pairLists.contains "postscript_blue_values" = true → n % 2 = 0)) ∧
    (∀ n, validate { otherBlues := some n } = .ok ↔
      n ≤ limitOf ModelConsts.listLimits "postscript_other_blues" ∧
      (ModelConsts.pairLists.contains "postscript_other_blues" = true → n % 2 = 0)) ∧
    (∀ n, validate { familyBlues := some n } = .ok ↔
      n ≤ limitOf ModelConsts.listLimits "postscript_family_blues" ∧
      (ModelConsts.pairLists.contains "postscript_family_blues" = true → n % 2 = 0)) ∧
    (∀ n, validate { familyOtherBlues := some n } = .ok ↔
      n ≤ limitOf ModelConsts.listLimits "postscript_family_other_blues" ∧
      (ModelConsts.pairLists.contains "postscript_family_other_blues" = true → n % 2 = 0)) ∧
    (∀ n, validate { stemSnapH := some n } = .ok ↔
      n ≤ limitOf ModelConsts.listLimits "postscript_stem_snap_h" ∧
      (ModelConsts.pairLists.contains "postscript_stem_snap_h" = true → n % 2 = 0)) ∧
    (∀ n, validate { stemSnapV := some n } = .ok ↔
      n ≤ limitOf ModelConsts.listLimits "postscript_stem_snap_v" ∧
      (ModelConsts.pairLists.contains "postscript_stem_snap_v" = true → n % 2 = 0)) ∧
    (∀ l, validate { selection := some l } = .ok ↔ ∀ b ∈ ModelConsts.selectionForbidden, b ∉ l) ∧
    (∀ c s, validate { familyClass := some (c, s) } = .ok ↔
      (ModelConsts.classRange.1 ≤ c ∧ c ≤ ModelConsts.classRange.2) ∧
      (ModelConsts.subclassRange.1 ≤ s ∧ s ≤ ModelConsts.subclassRange.2)) ∧
    (∀ k : Nat, validate { guidelines := some [⟨none, .angle (.fin false k 0 0)⟩] } = .ok ↔
      ModelConsts.angleRange.1 ≤ k ∧ k ≤ ModelConsts.angleRange.2) := by
  refine ⟨fun v => rfl, fun c => ?_, fun v h => ?_, ?_, ?_, ?_, ?_, ?_, ?_, ?_, ?_, ?_⟩
  · simp [okChar, ModelConsts.dateExtraChars, Bool.or_assoc]
    rfl
  · simp only [ModelConsts.dateLength] at h
    simp [validateDate, h]
  -- a record with one attribute: every other rule holds of an absent attribute
  all_goals
    intros
    simp [validate_iff_rules, rules_iff, whenSome, BlueOK, StemOK, SelectionOK, ClassOK, AnglesOK, IdsUnique,
      lineAngleOK, Dbl.in0to360, Dbl.num, Dbl.den, limitOf, ModelConsts.listLimits, ModelConsts.pairLists,
      ModelConsts.selectionForbidden, ModelConsts.classRange, ModelConsts.subclassRange, ModelConsts.angleRange]

open RuleTable in
/-- the independent rule table says what the specification predicates say (of the date only that `DateOK` implies
    the table's length, separators and ranges) -/
theorem spec_table_describes_rules :
    (∀ n, BlueOK 14 n ↔ n ≤ limitOf listLimits "postscript_blue_values" ∧ n % 2 = 0) ∧
    (∀ n, BlueOK 10 n ↔ n ≤ limitOf listLimits "postscript_other_blues" ∧ n % 2 = 0) ∧
    (∀ n, BlueOK 14 n ↔ n ≤ limitOf listLimits "postscript_family_blues" ∧ n % 2 = 0) ∧
    (∀ n, BlueOK 10 n ↔ n ≤ limitOf listLimits "postscript_family_other_blues" ∧ n % 2 = 0) ∧
    (∀ n, StemOK n ↔ n ≤ limitOf listLimits "postscript_stem_snap_h") ∧
    (∀ n, StemOK n ↔ n ≤ limitOf listLimits "postscript_stem_snap_v") ∧
    (∀ l, SelectionOK l ↔ ∀ b ∈ selectionForbidden, b ∉ l) ∧
    (∀ p, ClassOK p ↔ p.1 ≤ classMax ∧ p.2 ≤ subclassMax) ∧
    (∀ k : Nat, lineAngleOK (.angle (.fin false k 0 0)) = true ↔ angleRange.1 ≤ k ∧ k ≤ angleRange.2) ∧
    (∀ v, DateOK v → v.length = dateLength ∧ (∀ pc ∈ dateSeparators, v[pc.1]? = some pc.2) ∧
      (∀ f ∈ dateFields, f.2.1 ≤ num2 v f.1 ∧ num2 v f.1 ≤ f.2.2)) ∧
    (¬ Rules { woffExtensions := some [] } ∧ ¬ Rules { woffCredits := some 0 } ∧
     ¬ Rules { woffCopyright := some 0 } ∧ ¬ Rules { woffDescription := some 0 } ∧
     ¬ Rules { woffTrademark := some 0 } ∧ Rules { woffLicense := some 0 }) := by
  refine ⟨?_, ?_, ?_, ?_, ?_, ?_, ?_, ?_, ?_, ?date, ?woff⟩
  case date =>
    rintro v ⟨hl, _, s4, s7, s10, s13, s16, x5, x8, x11, x14, x17⟩
    have at_ : ∀ {p d c}, p < 19 → v.getD p d = c → v[p]? = some c := fun hp h => by
      rw [List.getElem?_eq_getElem (hl ▸ hp), ← h, getD_of_lt (hl ▸ hp)]
    refine ⟨hl, ?_, ?_⟩
    · simp only [dateSeparators, List.forall_mem_cons, List.not_mem_nil, false_imp_iff, implies_true, and_true]
      exact ⟨at_ (by omega) s4, at_ (by omega) s7, at_ (by omega) s10, at_ (by omega) s13, at_ (by omega) s16⟩
    · simp only [dateFields, List.forall_mem_cons, List.not_mem_nil, false_imp_iff, implies_true, and_true]
      exact ⟨x5, x8, ⟨Nat.zero_le _, x11⟩, ⟨Nat.zero_le _, x14⟩, ⟨Nat.zero_le _, x17⟩⟩
  case woff => simp [rules_iff, whenSome, ExtensionsOK, NonEmpty]
  all_goals
    simp [BlueOK, StemOK, SelectionOK, ClassOK, lineAngleOK, Dbl.in0to360, Dbl.num, Dbl.den, limitOf, listLimits,
      selectionForbidden, classMax, subclassMax, angleRange]

/-- the six list limits and the "must be pairs" set of the source are the model's and the statement's -/
theorem source_limits_match_model :
    sameSet Generated.FontInfoRules.listLimits ModelConsts.listLimits ∧
    sameSet Generated.FontInfoRules.pairLists ModelConsts.pairLists ∧
    sameSet Generated.FontInfoRules.listLimits RuleTable.listLimits ∧
    sameSet Generated.FontInfoRules.pairLists RuleTable.pairLists ∧
    (Generated.FontInfoRules.listLimits.map (·.1)).Nodup := by decide +kernel

/-- date: length, character whitelist and every operand of the chain (slices, separators, ranges) -/
theorem source_date_ranges_match_model :
    Generated.FontInfoRules.dateLength = ModelConsts.dateLength ∧
    sameSet Generated.FontInfoRules.dateExtraChars ModelConsts.dateExtraChars ∧
    sameSet Generated.FontInfoRules.dateOps ModelConsts.dateOps ∧
    Generated.FontInfoRules.dateLength = RuleTable.dateLength ∧
    sameSet (fieldsOf Generated.FontInfoRules.dateOps) RuleTable.dateFields ∧
    sameSet (separatorsOf Generated.FontInfoRules.dateOps) RuleTable.dateSeparators ∧
    yearsOf Generated.FontInfoRules.dateOps = [RuleTable.dateYear] ∧
    (∀ op ∈ Generated.FontInfoRules.dateOps, op.2.2.1 ≤ Generated.FontInfoRules.dateLength) := by
  decide +kernel

theorem source_selection_bits_match_model :
    sameSet Generated.FontInfoRules.selectionForbidden ModelConsts.selectionForbidden ∧
    sameSet Generated.FontInfoRules.selectionForbidden RuleTable.selectionForbidden := by decide +kernel

theorem source_family_class_matches_model :
    Generated.FontInfoRules.classRange = ModelConsts.classRange ∧
    Generated.FontInfoRules.subclassRange = ModelConsts.subclassRange ∧
    Generated.FontInfoRules.classRange = (0, RuleTable.classMax) ∧
    Generated.FontInfoRules.subclassRange = (0, RuleTable.subclassMax) := by decide +kernel

theorem source_angle_range_matches_model :
    Generated.FontInfoRules.angleRange = ModelConsts.angleRange ∧
    Generated.FontInfoRules.angleRange = RuleTable.angleRange := by decide +kernel

/-- the WOFF attributes the source tests for emptiness are the ones the statement demands content of
    (no more: the license text stays optional), and the extension records are tested at all three levels -/
theorem source_woff_checks_match_spec :
    sameSet (Generated.FontInfoRules.woffNonEmpty.map (·.1)) RuleTable.woffNonEmpty ∧
    sameSet Generated.FontInfoRules.woffNested ["items", "names", "values"] := by decide +kernel

/-! ### source-level tie of the typed deserialisers

`Generated.FontInfoDeser.*` is regenerated on every run from `src/fontinfo.rs`, `src/guideline.rs`, `src/shared_types.rs`
and `src/identifier.rs` (tools/extract_fontinfo_deser.py): per typed member of `FontInfo` what its `Deserialize` accepts,
as written in the Rust.  `usedBy` resolves member -> type -> impl the way serde does. -/

def GenDeser : DeserTables :=
  { aliases := Generated.FontInfoDeser.aliases, typedFields := Generated.FontInfoDeser.typedFields,
    styleNamesRead := Generated.FontInfoDeser.styleNamesRead, reprEnums := Generated.FontInfoDeser.reprEnums,
    fixedLen := Generated.FontInfoDeser.fixedLen, records := Generated.FontInfoDeser.records,
    guidelineTable := Generated.FontInfoDeser.guidelineTable,
    guidelineAngleRange := Generated.FontInfoDeser.guidelineAngleRange }

/-- the acceptor the Rust source denotes NOW (a member whose type cannot be resolved accepts nothing) -/
def sourceAccepts (r : RawInfo) : Bool :=
  match usedBy GenDeser with
  | some u => acceptUsed u r
  | none => false

/-- what the source says the typed members accept is what the model's `deser` uses -/
theorem source_deser_tables_match_model : usedBy GenDeser = some ModelUsed := by decide +kernel

theorem sourceAccepts_eq (r : RawInfo) : sourceAccepts r = acceptUsed ModelUsed r := by
  -- by `rw`: `unfold` and `simp only` leave a proof in which the kernel evaluates `usedBy GenDeser` once more
  rw [sourceAccepts, source_deser_tables_match_model]

/-- the acceptor regenerated from the source accepts exactly the file-level values the model's typed layer accepts,
    and a load succeeds with `i` exactly when that acceptor accepts, `i` is the typed value and the rules hold:
    "accepted by load iff the rules hold" is a statement about the regenerated acceptors -/
theorem source_deser_rules_match_model :
    (∀ r, sourceAccepts r = (deser r).isSome) ∧
    (∀ r i, loadInfo r = .loaded i ↔ (sourceAccepts r = true ∧ deser r = some i ∧ Rules i)) := by
  have hs : ∀ r, sourceAccepts r = (deser r).isSome := fun r => (sourceAccepts_eq r).trans (model_deser_tables_describe_deser r)
  refine ⟨hs, fun r i => ?_⟩
  rw [hs, loadInfo_loaded_iff, validate_iff_rules]
  exact ⟨fun h => ⟨by rw [h.1]; rfl, h⟩, fun h => h.2⟩

open DeserRuleTable in
/-- what the source says single values must look like is what the file format demands: enumeration texts and
    ranges, fixed lengths (read at the indices 0..n-1), which members are bit lists / non-negative integers /
    non-negative numbers, the record keys, identifier and colour syntax, the guideline shapes and the angle range;
    what norad writes for an enumeration is what it reads -/
theorem source_deser_rules_match_spec :
    sameSet (Generated.FontInfoDeser.styleNamesRead.map (·.1)) DeserRuleTable.styleNames ∧
    Generated.FontInfoDeser.styleNamesWritten = Generated.FontInfoDeser.styleNamesRead ∧
    (Generated.FontInfoDeser.styleNamesRead.map (·.2)).Nodup ∧
    sameSet (Generated.FontInfoDeser.woffDirsRead.map (·.1)) woffDirections ∧
    Generated.FontInfoDeser.woffDirsWritten = Generated.FontInfoDeser.woffDirsRead ∧
    sameSet (Generated.FontInfoDeser.woffDirHolders.map (·.1)) woffDirRecords ∧
    (lookupS Generated.FontInfoDeser.reprEnums "Os2WidthClass").map (·.2) = some (rangeList widthClass) ∧
    (lookupS Generated.FontInfoDeser.reprEnums "PostscriptWindowsCharacterSet").map (·.2) =
      some (rangeList windowsCharacterSet) ∧
    (lookupS Generated.FontInfoDeser.reprEnums "GaspBehavior").map (·.2) = some (rangeList gaspBehaviorBits) ∧
    (lookupS Generated.FontInfoDeser.fixedLen "Os2FamilyClass").map (·.2) =
      some (familyClassLength, List.range familyClassLength) ∧
    (lookupS Generated.FontInfoDeser.fixedLen "Os2Panose").map (·.2) =
      some (panoseLength, List.range panoseLength) ∧
    (lookupS Generated.FontInfoDeser.fixedLen "Os2PanoseV2").map (·.2) =
      some (panoseLength, List.range panoseLength) ∧
    sameSet ((Generated.FontInfoDeser.typedFields.filter (fun p => (vecElemMax p.2).isSome)).map (·.1)) bitLists ∧
    sameSet ((Generated.FontInfoDeser.typedFields.filter (fun p => (primMax p.2).isSome)).map (·.1))
      nonNegativeIntegers ∧
    sameSet ((Generated.FontInfoDeser.typedFields.filter (fun p => p.2 == "NonNegativeIntegerOrFloat")).map (·.1))
      nonNegativeNumbers ∧
    Generated.FontInfoDeser.nonNegativeTest ∈ nonNegativeTests ∧
    (lookupS Generated.FontInfoDeser.records "NameRecord").map (fun p => (p.1, p.2.map (·.1))) =
      some (true, ["encodingID", "languageID", "nameID", "platformID", "string"]) ∧
    sameSet ["encodingID", "languageID", "nameID", "platformID", "string"] nameRecordKeys ∧
    (lookupS Generated.FontInfoDeser.records "GaspRangeRecord").map (fun p => (p.1, p.2.map (·.1))) =
      some (true, ["rangeGaspBehavior", "rangeMaxPPEM"]) ∧
    sameSet ["rangeGaspBehavior", "rangeMaxPPEM"] gaspRecordKeys ∧
    (Generated.FontInfoDeser.identMaxLen = identMaxLen ∧ Generated.FontInfoDeser.identByteRange = identRange) ∧
    (Generated.FontInfoDeser.colorSeparator = colorSeparator ∧ Generated.FontInfoDeser.colorParsed = colorChannels ∧
      Generated.FontInfoDeser.colorTested = colorChannels ∧ Generated.FontInfoDeser.colorRange = colorRange) ∧
    (∀ x y a : Bool, guideOutcome Generated.FontInfoDeser.guidelineTable x y a = guidelineKind x y a) ∧
    Generated.FontInfoDeser.guidelineAngleRange = angleRange ∧
    (Generated.FontInfoDeser.rawGuidelineDenyUnknown = true ∧
      sameSet (Generated.FontInfoDeser.rawGuidelineMembers.map (·.1)) guidelineKeys) := by
  decide +kernel

def goodDate : List Char := "2020/06/15 12:30:30".toList

def sample : Info :=
  { created := some goodDate, gasp := some [7, 7, 65535], selection := some [1, 2, 7, 9],
    guidelines := some [⟨some "a".toList, .vertical⟩, ⟨none, .angle (.fin false 360 0 0)⟩, ⟨some "b".toList, .horizontal⟩],
    familyClass := some (14, 15), blueValues := some 14, otherBlues := some 10, stemSnapH := some 12,
    woffExtensions := some [[⟨1, 1⟩], [⟨2, 1⟩, ⟨1, 3⟩]], woffCredits := some 1, woffLicense := some 0 }

/-- the kernel decodes a string literal slowly; the examples read the characters here -/
theorem goodDate_chars : goodDate =
    ['2', '0', '2', '0', '/', '0', '6', '/', '1', '5', ' ', '1', '2', ':', '3', '0', ':', '3', '0'] :=
  String.toList_ofList

example : validate sample = .ok := by unfold sample; rw [goodDate_chars]; decide +kernel
example : Rules sample := (validate_iff_rules sample).1 (by unfold sample; rw [goodDate_chars]; decide +kernel)
example : saveInfo sample = .ok := by unfold sample; rw [goodDate_chars]; decide +kernel
example : loadInfo (toRaw sample) = .loaded sample := by unfold sample; rw [goodDate_chars]; decide +kernel
example : WellTyped sample := ⟨by decide, by decide, by decide⟩
-- each rule can fail on its own
example : validate { sample with blueValues := some 15 } = .err .listLen := by
  unfold sample; rw [goodDate_chars]; decide +kernel
example : validate { sample with blueValues := some 16 } = .err .listLen := by
  unfold sample; rw [goodDate_chars]; decide +kernel
example : validate { sample with otherBlues := some 12 } = .err .listLen := by
  unfold sample; rw [goodDate_chars]; decide +kernel
example : validate { sample with blueValues := some 13 } = .err .listPairs := by
  unfold sample; rw [goodDate_chars]; decide +kernel
example : validate { sample with stemSnapH := some 13 } = .err .listLen := by
  unfold sample; rw [goodDate_chars]; decide +kernel
example : validate { sample with selection := some [1, 5] } = .err .selBits := by
  unfold sample; rw [goodDate_chars]; decide +kernel
example : validate { sample with familyClass := some (15, 0) } = .err .familyClass := by
  unfold sample; rw [goodDate_chars]; decide +kernel
example : validate { sample with familyClass := some (0, 16) } = .err .familyClass := by
  unfold sample; rw [goodDate_chars]; decide +kernel
example : validate { sample with gasp := some [1, 3, 2] } = .err .gasp := by
  unfold sample; rw [goodDate_chars]; decide +kernel
example : validate { sample with woffExtensions := some [[⟨1, 1⟩], []] } = .err .emptyWoff := by
  unfold sample; rw [goodDate_chars]; decide +kernel
example : validate { sample with woffCredits := some 0 } = .err .emptyWoff := by
  unfold sample; rw [goodDate_chars]; decide +kernel
example : validate { sample with guidelines := some [⟨some "a".toList, .vertical⟩, ⟨some "a".toList, .horizontal⟩] }
    = .err .dupId := by unfold sample; rw [goodDate_chars]; decide +kernel
example : validate { sample with created := some "2020/06/15 24:30:30".toList } = .err .date := by
  rw [String.toList_ofList]; decide +kernel
example : validate { sample with created := some "2020/02/31 23:59:59".toList } = .ok := by
  rw [String.toList_ofList]; decide +kernel
-- a 19-byte string with a two-byte character is refused by the character test, not by a panic
example : validate { sample with created := some "202é/06/15 12:30:3".toList } = .err .date := by
  rw [String.toList_ofList]; decide +kernel
example : KindViolated .listLen { blueValues := some 15 } := by simp [KindViolated, lenWithin]
-- regression witnesses of the two repaired defects
example : validate { created := some "2020/00/00 00:00:00".toList } = .err .date := by
  rw [String.toList_ofList]; decide +kernel
example : validate { created := some "2020/01/00 00:00:00".toList } = .err .date := by
  rw [String.toList_ofList]; decide +kernel
example : validate { guidelines := some [⟨none, .angle (.fin false 400 0 0)⟩] } = .err .angle := by decide
example : saveInfo { guidelines := some [⟨none, .angle (.fin false 400 0 0)⟩] } = .refused .angle := by decide
example : loadInfo { guidelines := some [⟨true, true, some (.fin false 400 0 0), none⟩] } = .parseErr := by decide

-- the typed layer: witnesses for both sides of every member the tables speak about
example : sourceAccepts (toRaw sample) = true := by rw [sourceAccepts_eq]; decide +kernel
example : sourceAccepts
    { widthClass := some 9, winCharSet := some 20, styleMap := some "bold italic".toList,
      panose := some [0, 1, 2, 3, 4, 5, 6, 7, 8, 4294967295] } = true := by rw [sourceAccepts_eq]; decide +kernel
example : sourceAccepts { widthClass := some 10 } = false := by rw [sourceAccepts_eq]; rfl
example : sourceAccepts { widthClass := some 0 } = false := by rw [sourceAccepts_eq]; rfl
example : sourceAccepts { winCharSet := some 21 } = false := by rw [sourceAccepts_eq]; rfl
example : sourceAccepts { styleMap := some "Bold".toList } = false := by rw [sourceAccepts_eq]; decide +kernel
example : sourceAccepts { panose := some [0, 1, 2, 3, 4, 5, 6, 7, 8] } = false := by rw [sourceAccepts_eq]; rfl
example : sourceAccepts { panose := some [0, 1, 2, 3, 4, 5, 6, 7, 8, -1] } = false := by rw [sourceAccepts_eq]; rfl
example : sourceAccepts { familyClass := some [1, 2, 3] } = false := by rw [sourceAccepts_eq]; rfl
example : sourceAccepts { familyClass := some [1, 256] } = false := by rw [sourceAccepts_eq]; rfl
example : sourceAccepts { selection := some [256] } = false := by rw [sourceAccepts_eq]; rfl
example : sourceAccepts { gasp := some [4294967296] } = false := by rw [sourceAccepts_eq]; rfl
example : sourceAccepts { guidelines := some [⟨true, true, none, none⟩] } = false := by rw [sourceAccepts_eq]; rfl
example : sourceAccepts { guidelines := some [⟨true, true, some (.fin false 361 0 0), none⟩] } = false := by
  rw [sourceAccepts_eq]; rfl
example : sourceAccepts { guidelines := some [⟨true, true, some (.fin false 360 0 0), none⟩] } = true := by
  rw [sourceAccepts_eq]; rfl
example : loadInfo (toRaw sample) = .loaded sample ∧ sourceAccepts (toRaw sample) = true ∧
    deser (toRaw sample) = some sample := by rw [sourceAccepts_eq]; decide +kernel

end C13
