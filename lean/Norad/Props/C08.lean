import Norad.Model.FontSave
import Norad.Lemmas.FontSave
import Norad.Lemmas.Inplace
import Norad.Generated.SaveOrder
import Norad.Lemmas.SaveTable
/-!
# C08 — save validates before it destroys; saving in place keeps lazy data

Model: `FontSave.saveImpl` (`Font::save_impl`, font.rs:423-556) over the abstract file system.
All theorems hold for every content type, every `render`, every entry validator, every font, every
file system and every target path.
-/
namespace C08
open AbsFS FontSave FontLoad

variable {β : Type}

/-- **Structural core.** Any refusal produced by steps 1–5 (format version, `public.objectLibs`, groups,
    font info, a store cell in error state) is the whole result, and comes with the input file system. -/
theorem refusal_has_no_effects (cfg : Cfg β) (f : AFont β) (fs : FS β) (t : APath) (k : Refusal)
    (h : validatePhase cfg f fs = .error k) :
    saveImpl cfg f fs t = (some (.refused k), fs) := by
  simp [saveImpl, h]

/-- Conversely: if the file system was changed at all, every validator had passed and every data and
    image cell had been forced to `loaded` before the first effect. -/
theorem effects_only_after_validation (cfg : Cfg β) (f : AFont β) (fs : FS β) (t : APath)
    (h : (saveImpl cfg f fs t).2 ≠ fs) :
    f.version = 3 ∧ hasObjectLibsKey f.lib = false ∧ f.groupsValid = true ∧ f.info.valid = true ∧
    (forceStore cfg .data fs f.data).isSome ∧ (forceStore cfg .images fs f.images).isSome := by
  cases hv : validatePhase cfg f fs with
  | error k => exact absurd (by simp [saveImpl, hv]) h
  | ok di =>
    obtain ⟨h1, h2, h3, h4, hd, hi⟩ := validatePhase_eq_ok.mp hv
    exact ⟨h1, h2, h3, h4, by rw [hd]; rfl, by rw [hi]; rfl⟩

/-! The five refusal kinds, one theorem each: the save is refused and the file system is the one it was given.  The
format version is checked first, so its refusal is `downgrade`; for the others an earlier check may refuse (`∃ k`). -/

theorem refused_save_leaves_fs_version (cfg : Cfg β) (f : AFont β) (fs : FS β) (t : APath)
    (h : f.version ≠ 3) : saveImpl cfg f fs t = (some (.refused .downgrade), fs) := by
  apply refusal_has_no_effects; simp [validatePhase, h]

theorem refused_of_failing_check (cfg : Cfg β) (f : AFont β) (fs : FS β) (t : APath)
    (h : f.version ≠ 3 ∨ hasObjectLibsKey f.lib = true ∨ f.groupsValid = false ∨ f.info.valid = false ∨
      (forceStore cfg .data fs f.data = none ∨ forceStore cfg .images fs f.images = none)) :
    ∃ k, saveImpl cfg f fs t = (some (.refused k), fs) := by
  cases hv : validatePhase cfg f fs with
  | error k => exact ⟨k, refusal_has_no_effects cfg f fs t k hv⟩
  | ok di =>
    obtain ⟨h1, h2, h3, h4, h5, h6⟩ := validatePhase_eq_ok.mp hv
    simp [h1, h2, h3, h4, h5, h6] at h

theorem refused_save_leaves_fs_objectLibs (cfg : Cfg β) (f : AFont β) (fs : FS β) (t : APath)
    (h : hasObjectLibsKey f.lib = true) : ∃ k, saveImpl cfg f fs t = (some (.refused k), fs) :=
  refused_of_failing_check cfg f fs t (Or.inr (Or.inl h))

theorem refused_save_leaves_fs_groups (cfg : Cfg β) (f : AFont β) (fs : FS β) (t : APath)
    (h : f.groupsValid = false) : ∃ k, saveImpl cfg f fs t = (some (.refused k), fs) :=
  refused_of_failing_check cfg f fs t (Or.inr (Or.inr (Or.inl h)))

/-- "invalid font info" in `FontInfo::validate`'s notion (see `refused_save_leaves_fs_fontinfo_counterexample`
    for the specification's notion) -/
theorem refused_save_leaves_fs_fontinfo_partial (cfg : Cfg β) (f : AFont β) (fs : FS β) (t : APath)
    (h : f.info.valid = false) : ∃ k, saveImpl cfg f fs t = (some (.refused k), fs) :=
  refused_of_failing_check cfg f fs t (Or.inr (Or.inr (Or.inr (Or.inl h))))

theorem refused_save_leaves_fs_store (cfg : Cfg β) (f : AFont β) (fs : FS β) (t : APath)
    (h : forceStore cfg .data fs f.data = none ∨ forceStore cfg .images fs f.images = none) :
    ∃ k, saveImpl cfg f fs t = (some (.refused k), fs) :=
  refused_of_failing_check cfg f fs t (Or.inr (Or.inr (Or.inr (Or.inr h))))

/-- A cell that is in error state, or is still lazy and turns out unreadable or invalid at its first
    access, is detected by step 5: the save is refused with the file system untouched — never later. -/
theorem store_error_detected_before_wipe (cfg : Cfg β) (f : AFont β) (fs : FS β) (t : APath)
    (kind : StoreKind) (k : Path.P) (c : Cell β)
    (hmem : (k, c) ∈ (f.store kind).items)
    (hbad : ∀ b, forceCell cfg kind fs (f.store kind).root ((f.store kind).items.map (·.1)) k c ≠ .loaded b) :
    ∃ r, saveImpl cfg f fs t = (some (.refused r), fs) := by
  apply refused_save_leaves_fs_store
  cases kind with
  | data => exact Or.inl (forceStore_none_of_bad hmem hbad)
  | images => exact Or.inr (forceStore_none_of_bad hmem hbad)

/-! ### what the abstract flags allow: `valid` without `serialisable`

The model keeps `FontInfo::validate` and the serde writer as two independent flags.  With `valid` and not
`serialisable` the save fails while `fontinfo.plist` is being written, after the wipe (counterexample below; in norad: a
guideline angle outside [0, 360] before `validate` checked it).  `Props/C08C13.lean` shows that the flags of a real font
info never have this combination. -/

def cfgN : Cfg Nat := { render := fun _ => 0, entryOk := fun _ _ _ _ => true }

def angleFont : AFont Nat :=
  { version := 3, metaTok := 1, info := { body := 7, guides := [], valid := true, serialisable := false },
    lib := [], groups := 0, groupsValid := true, kerning := 0, features := 0,
    layers := [{ name := "public.default".toList, dir := "glyphs".toList, info := 0, entries := [] }],
    data := { root := [], items := [] }, images := { root := [], items := [] } }

def precious : FS Nat := [(["t".toList], .dir), (["t".toList, "precious".toList], .file 42)]

theorem refused_save_leaves_fs_fontinfo_counterexample :
    (saveImpl cfgN angleFont precious ["t".toList]).1 = some .serialise ∧
    lookup (saveImpl cfgN angleFont precious ["t".toList]).2 ["t".toList, "precious".toList] = none := by
  decide +kernel


/-- The in-place theorem below for ANY request: the files of every store that was requested are kept. -/
theorem inplace_save_keeps_requested_stores (P : Parser β) (cfg : Cfg β) (fs fs' : FS β) (t : APath) (f : AFont β)
    (r : Request) (hwf : WF fs) (hload : loadImpl P fs t r = .ok f) (hsave : saveImpl cfg f fs t = (none, fs')) :
    (∀ kind, ∀ kc ∈ (f.store kind).items, kc.2 = Cell.notLoaded) ∧
    ∀ (kind : StoreKind) (rel : APath) (b : β),
      (match kind with
        | .data => r.data
        | .images => r.images) = true →
      rel ≠ [] → lookup fs (storePath t kind rel) = some (.file b) →
      lookup fs' (storePath t kind rel) = some (.file b) := by
  obtain ⟨_, _, _, hld, hli, _⟩ := loadImpl_ok hload
  constructor
  · intro kind kc hkc
    cases kind with
    | data => exact ((loadStore_ok hld).1 kc hkc).1
    | images => exact ((loadStore_ok hli).1 kc hkc).1
  · intro kind rel b hsw hrel hfile
    have hp0 : storePath t kind rel ≠ [] := by simp [storePath]
    -- the store directory exists: it is an ancestor of the file
    have hdirs : Dirs fs (t ++ [(storeDirName kind).toList]) :=
      hwf.dirs (p := storePath t kind rel) (by rw [hfile]; rfl) (List.prefix_append _ _)
        fun e => hrel (List.self_eq_append_right.mp e)
    have hex : existsAt fs (tC (t ++ [(storeDirName kind).toList])) = true :=
      (existsAt_normal (by simp)).mpr ⟨hdirs.mono (List.dropLast_prefix _), by
        rw [isDir_iff.mp (hdirs _ (List.prefix_refl _) (by simp))]; rfl⟩
    have hmemL := listBelow_mem_file hrel hfile
    have hnode : node fs (storePath t kind rel) = some (.file b) := by
      rw [node_of_ne_nil _ hp0]; exact hfile
    cases kind with
    | data =>
      exact store_block_writes_back hld hli hsave .data rel b (((loadStore_ok hld).2 (Or.inr (by rw [show r.data = true from hsw, hex]; rfl))).2 rel hmemL) hnode
    | images =>
      exact store_block_writes_back hld hli hsave .images rel b (((loadStore_ok hli).2 (Or.inr (by rw [show r.images = true from hsw, hex]; rfl))).2 rel hmemL) hnode

/-- **In-place save.**  Load a font from `t` (everything requested), then save it onto `t`: if the save succeeds,
    every plain file below `t/data` and `t/images` holds afterwards the bytes it held before — although every
    cell of both stores was `notLoaded` when the save started (first conjunct).  It is step 5 that reads them
    before the wipe; without it the statement is false (`inplace_save_without_step5_counterexample`). -/
theorem inplace_save_keeps_store_files (P : Parser β) (cfg : Cfg β) (fs fs' : FS β) (t : APath) (f : AFont β)
    (hwf : WF fs) (hload : loadImpl P fs t Request.everything = .ok f)
    (hsave : saveImpl cfg f fs t = (none, fs')) :
    (∀ kind, ∀ kc ∈ (f.store kind).items, kc.2 = Cell.notLoaded) ∧
    ∀ (kind : StoreKind) (rel : APath) (b : β), rel ≠ [] →
      lookup fs (storePath t kind rel) = some (.file b) →
      lookup fs' (storePath t kind rel) = some (.file b) :=
  have h := inplace_save_keeps_requested_stores P cfg fs fs' t f Request.everything hwf hload hsave
  ⟨h.1, fun kind rel b => h.2 kind rel b (by cases kind <;> rfl)⟩

/-- the model variant **without step 5**: the cells are forced only when the store files are about to be
    written, i.e. from the tree that has just been wiped (the validators 1–4 are irrelevant here) -/
def saveImplNoStep5 (cfg : Cfg β) (f : AFont β) (fs : FS β) (t : APath) : Option SaveErr × FS β :=
  match wipe fs t with
  | .error e => (some (.cleanup e), fs)
  | .ok fs1 =>
    match forceStore cfg .data fs1 f.data, forceStore cfg .images fs1 f.images with
    | some d, some i => runEffs (plan cfg f d i t) fs1
    | _, _ => (some .panic, (runEffs (plan cfg f [] [] t) fs1).2)

def lazyFont : AFont Nat :=
  { angleFont with
    info := { body := 0, guides := [], valid := true, serialisable := true },
    data := { root := ["t".toList], items := [(Path.parse "a".toList, .notLoaded)] } }

def withData : FS Nat :=
  [(["t".toList], .dir), (["t".toList, "data".toList], .dir), (["t".toList, "data".toList, "a".toList], .file 42)]

theorem inplace_save_without_step5_counterexample :
    lookup (saveImpl cfgN lazyFont withData ["t".toList]).2 ["t".toList, "data".toList, "a".toList] = some (.file 42) ∧
    lookup (saveImplNoStep5 cfgN lazyFont withData ["t".toList]).2 ["t".toList, "data".toList, "a".toList] = none := by
  decide +kernel

def parserN : Parser Nat where
  metainfo _ := some (3, 1)
  lib _ := none
  fontinfo _ := none
  groups _ := none
  kerning _ := none
  features _ := none
  layercontents _ := some [("public.default".toList, "glyphs".toList)]
  contents _ := some []
  layerinfo _ := none
  glif _ := none

def ufo : FS Nat :=
  [(["t".toList], .dir), (["t".toList, "metainfo.plist".toList], .file 0),
   (["t".toList, "layercontents.plist".toList], .file 0), (["t".toList, "glyphs".toList], .dir),
   (["t".toList, "glyphs".toList, "contents.plist".toList], .file 0),
   (["t".toList, "data".toList], .dir), (["t".toList, "data".toList, "a".toList], .file 42)]

/-- the hypotheses of the in-place theorem are satisfiable: this tree loads, and the loaded font saves onto it -/
example : ∃ f, loadImpl parserN ufo ["t".toList] Request.everything = .ok f ∧
    (saveImpl cfgN f ufo ["t".toList]).1 = none ∧
    lookup (saveImpl cfgN f ufo ["t".toList]).2 ["t".toList, "data".toList, "a".toList] = some (.file 42) :=
  Except.exists_ok (by decide +kernel)


example : ∃ k, saveImpl cfgN { angleFont with version := 2 } precious ["t".toList] = (some (.refused k), precious) :=
  ⟨_, refused_save_leaves_fs_version _ _ _ _ (by decide)⟩

/-- a valid font does get through: the theorems above are not about a model that always refuses -/
example : (saveImpl cfgN { angleFont with info := { body := 0, guides := [], valid := true, serialisable := true } }
    precious ["t".toList]).1 = none := by decide +kernel

/-! ### source-level tie: the order of `Font::save_impl` as the code says it NOW

`Generated.SaveOrder.saveSteps` is regenerated from `src/font.rs` of the checked tree on every run (tools/
extract_save_order.py; pinned copy when an anchor is missing).  The model is untouched; these `decide` theorems compare
the extracted sequence with what the model does. -/

namespace Source
open Generated.SaveOrder

def pos (l : List (List Char)) (x : String) : Option Nat := l.findIdx? (· == x.toList)

def precedes (l : List (List Char)) (a b : String) : Bool :=
  match pos l a, pos l b with
  | some i, some j => i < j
  | _, _ => false

/-- the steps of `validatePhase`, i.e. everything the model does before its first effect -/
def modelValidators : List String := ["version", "objectlibs", "groups", "fontinfo", "force"]

def isWrite (x : List Char) : Bool := "write:".toList.isPrefixOf x

/-- a font with every part non-empty: its plan shows every write the model can make, in the model's order -/
def probe : AFont Nat :=
  { version := 3, metaTok := 1, info := { body := 1, guides := [], valid := true, serialisable := true },
    lib := [("k".toList, LVal.v 1)], groups := 1, groupsValid := true, kerning := 1, features := 1,
    layers := [{ name := "public.default".toList, dir := "glyphs".toList, info := 1,
                 entries := [{ name := "a".toList, file := "a.glif".toList, glyph := some { tok := 1, encodable := true } }] }],
    data := { root := [], items := [] }, images := { root := [], items := [] } }

def effComps : Eff Nat → List Path.Comp
  | .mkdir cs => cs
  | .mkdirAll cs => cs
  | .write cs _ => cs
  | .fail _ => []

/-- the component right below the target names the part being written -/
def labelOf (cs : List Path.Comp) : Option (List Char) :=
  match cs with
  | _ :: .normal n :: _ => some (if n = "glyphs".toList then "write:layers".toList else "write:".toList ++ n)
  | _ => none

def dedupL (l : List (List Char)) : List (List Char) :=
  l.foldl (fun acc x => if acc.contains x then acc else acc ++ [x]) []

def planOrder : List (List Char) :=
  dedupL ((plan cfgN probe [(Path.parse "a".toList, 1)] [(Path.parse "i.png".toList, 2)] ["t".toList]).filterMap
    fun e => labelOf (effComps e))

def W : List Char := "wipe".toList

def isValidatorName (s : List Char) : Bool := modelValidators.any fun v => v.toList == s

/-- what a validator step of the extracted list checks, in the model's terms (`none`: not a validator step) -/
def checkOf (cfg : Cfg β) (f : AFont β) (fs : FS β) (s : List Char) : Option (Option Refusal) :=
  if s = "version".toList then some (if f.version ≠ 3 then some .downgrade else none)
  else if s = "objectlibs".toList then some (if hasObjectLibsKey f.lib then some .objectLibsKey else none)
  else if s = "groups".toList then some (if !f.groupsValid then some .invalidGroups else none)
  else if s = "fontinfo".toList then some (if !f.info.valid then some .invalidFontInfo else none)
  else if s = "force".toList then
    some (if (forceStore cfg .data fs f.data).isSome && (forceStore cfg .images fs f.images).isSome then none
          else some .invalidStoreEntry)
  else none

/-- The extracted step list run against the model: the validators in SOURCE order; at the wipe the model's wipe and
    plan take over.  A step in front of the wipe that is not a validator (`fs:<call>`, `return-ok`, anything) is an
    effect the model knows nothing about: `unknown` may do to the file system whatever it likes. -/
def execSteps (cfg : Cfg β) (f : AFont β) (t : APath) (unknown : List Char → FS β → FS β) :
    List (List Char) → FS β → Option SaveErr × FS β
  | [], fs => (none, fs)
  | s :: r, fs =>
    if s = W then
      match forceStore cfg .data fs f.data, forceStore cfg .images fs f.images with
      | some d, some i =>
        match wipe fs t with
        | .error e => (some (.cleanup e), fs)
        | .ok fs1 => runEffs (plan cfg f d i t) fs1
      | _, _ => (some .panic, fs)
    else
      match checkOf cfg f fs s with
      | some (some k) => (some (.refused k), fs)
      | some none => execSteps cfg f t unknown r fs
      | none => execSteps cfg f t unknown r (unknown s fs)

theorem checkOf_validators (cfg : Cfg β) (f : AFont β) (fs : FS β) :
    checkOf cfg f fs "version".toList = some (if f.version ≠ 3 then some .downgrade else none) ∧
    checkOf cfg f fs "objectlibs".toList = some (if hasObjectLibsKey f.lib then some .objectLibsKey else none) ∧
    checkOf cfg f fs "groups".toList = some (if !f.groupsValid then some .invalidGroups else none) ∧
    checkOf cfg f fs "fontinfo".toList = some (if !f.info.valid then some .invalidFontInfo else none) ∧
    checkOf cfg f fs "force".toList =
      some (if (forceStore cfg .data fs f.data).isSome && (forceStore cfg .images fs f.images).isSome then none
            else some .invalidStoreEntry) := by
  unfold checkOf
  repeat rw [String.toList_ofList]
  exact ⟨rfl, rfl, rfl, rfl, rfl⟩

theorem checkOf_isSome (cfg : Cfg β) (f : AFont β) (fs : FS β) (s : List Char) (h : isValidatorName s = true) :
    ∃ x, checkOf cfg f fs s = some x := by
  obtain ⟨h1, h2, h3, h4, h5⟩ := checkOf_validators cfg f fs
  simp only [isValidatorName, modelValidators, List.any_cons, List.any_nil, Bool.or_false, Bool.or_eq_true,
    beq_iff_eq] at h
  rcases h with rfl | rfl | rfl | rfl | rfl
  · exact ⟨_, h1⟩
  · exact ⟨_, h2⟩
  · exact ⟨_, h3⟩
  · exact ⟨_, h4⟩
  · exact ⟨_, h5⟩

theorem exec_prefix_refuses (cfg : Cfg β) (f : AFont β) (t : APath) (unknown : List Char → FS β → FS β) (fs : FS β) :
    ∀ (steps : List (List Char)),
      (∀ s ∈ steps.takeWhile (· != W), isValidatorName s = true) →
      (∃ s ∈ steps.takeWhile (· != W), ∃ k, checkOf cfg f fs s = some (some k)) →
      ∃ k, execSteps cfg f t unknown steps fs = (some (.refused k), fs) := by
  intro steps
  induction steps with
  | nil => intro _ h; obtain ⟨s, hs, _⟩ := h; cases hs
  | cons s r ih =>
    intro hall hfail
    by_cases hw : s = W
    · subst hw
      obtain ⟨x, hx, _⟩ := hfail
      simp [List.takeWhile] at hx
    · have hne : (s != W) = true := by simpa using hw
      simp only [List.takeWhile, hne] at hall hfail
      obtain ⟨x, hx⟩ := checkOf_isSome cfg f fs s (hall s (List.mem_cons_self ..))
      unfold execSteps
      simp only [hw, if_false, hx]
      cases x with
      | some k => exact ⟨k, rfl⟩
      | none =>
        apply ih (fun y hy => hall y (List.mem_cons_of_mem _ hy))
        obtain ⟨y, hy, k, hk⟩ := hfail
        rcases List.mem_cons.mp hy with rfl | hy'
        · rw [hx] at hk; cases hk
        · exact ⟨y, hy', k, hk⟩

end Source

open Source Generated.SaveOrder in
/-- **In the source, every validation step stands before `remove_dir_all`** — and nothing else does: the steps in front
    of the wipe are exactly the model's five validators (in any order among themselves), the wipe stands before
    `create_dir(path)`, and every write after that.  The extractor reads the part in front of the wipe strictly (every
    statement is a validator of known shape or a listed pure binding; a file-system call there becomes a step `fs:<call>`,
    an early `return Ok(..)` anywhere a step `return-ok`), so nothing in front of the wipe is silently ignored. -/
theorem source_validators_precede_wipe :
    (modelValidators.all fun v => precedes saveSteps v "wipe") = true ∧
    ((saveSteps.takeWhile (· != "wipe".toList)).all fun s => modelValidators.any fun v => v.toList == s) = true ∧
    precedes saveSteps "wipe" "mkdir" = true ∧
    ((saveSteps.filter isWrite).all fun w => precedes saveSteps "mkdir" (String.ofList w)) = true ∧
    -- no early `return Ok(..)` anywhere (a write behind it would be unreachable), no file-system call in front of the wipe
    (saveSteps.all fun s => s != "return-ok".toList) = true ∧
    ((saveSteps.takeWhile (· != "wipe".toList)).all fun s => !("fs:".toList.isPrefixOf s)) = true := by
  -- literals spelled first (see `saveTable_parses`); the step list, which occurs six times, once, in `hS`
  generalize hS : saveSteps = S
  simp only [modelValidators, List.all_cons, List.all_nil, List.any_cons, List.any_nil, precedes, pos,
    String.toList_ofList]
  unfold saveSteps at hS
  repeat rw [String.toList_ofList] at hS
  subst hS
  decide +kernel

open Source Generated.SaveOrder in
/-- About the step list extracted from the source: every step in front of the
    wipe is a validator, hence (semantic consequence) whenever one of those steps refuses, running the extracted list
    yields a refusal together with the file system it was given; no interpretation of unknown steps can change that. -/
theorem source_plan_refusal_has_no_effect :
    (∀ s ∈ saveSteps.takeWhile (· != W), isValidatorName s = true) ∧
    ∀ {β : Type} (cfg : Cfg β) (f : AFont β) (t : APath) (unknown : List Char → FS β → FS β) (fs : FS β),
      (∃ s ∈ saveSteps.takeWhile (· != W), ∃ k, checkOf cfg f fs s = some (some k)) →
      ∃ k, execSteps cfg f t unknown saveSteps fs = (some (.refused k), fs) := by
  obtain ⟨_, onlyValidators, _⟩ := source_validators_precede_wipe
  have h : ∀ s ∈ saveSteps.takeWhile (· != W), isValidatorName s = true := List.all_eq_true.mp onlyValidators
  exact ⟨h, fun cfg f t unknown fs hf => exec_prefix_refuses cfg f t unknown fs saveSteps h hf⟩

open Source Generated.SaveOrder in
/-- … and the extracted list refuses whenever the model does: each of the model's five validators is one of the steps
    in front of the wipe, so `validatePhase = error` makes one of them fail. -/
theorem source_refuses_whenever_model_does {β : Type} (cfg : Cfg β) (f : AFont β) (t : APath)
    (unknown : List Char → FS β → FS β) (fs : FS β) (k : Refusal) (hv : validatePhase cfg f fs = .error k) :
    ∃ k', execSteps cfg f t unknown saveSteps fs = (some (.refused k'), fs) := by
  have hmem : ∀ v ∈ modelValidators, v.toList ∈ saveSteps.takeWhile (· != W) := by
    generalize hS : saveSteps = S
    unfold W modelValidators
    simp only [List.forall_mem_cons, List.not_mem_nil, false_imp_iff, implies_true, and_true]
    repeat rw [String.toList_ofList]
    unfold saveSteps at hS
    repeat rw [String.toList_ofList] at hS
    subst hS
    decide +kernel
  simp only [modelValidators, List.forall_mem_cons, List.not_mem_nil, false_imp_iff, implies_true, and_true] at hmem
  obtain ⟨m1, m2, m3, m4, m5⟩ := hmem
  obtain ⟨c1, c2, c3, c4, c5⟩ := checkOf_validators cfg f fs
  apply (source_plan_refusal_has_no_effect).2 cfg f t unknown fs
  -- the arm of `validatePhase` that refuses: its check is one of those steps
  revert hv
  fun_cases validatePhase cfg f fs <;> intro hv
  · exact ⟨_, m1, _, by rw [c1, if_pos ‹_›]⟩
  · exact ⟨_, m2, _, by rw [c2, if_pos ‹_›]⟩
  · exact ⟨_, m3, _, by rw [c3, if_pos ‹_›]⟩
  · exact ⟨_, m4, _, by rw [c4, if_pos ‹_›]⟩
  · exact ⟨_, m5, .invalidStoreEntry, by rw [c5, if_neg (by simp [*])]⟩  -- data not forced
  · exact ⟨_, m5, .invalidStoreEntry, by rw [c5, if_neg (by simp [*])]⟩  -- images not forced
  · cases hv

open Source Generated.SaveOrder in
/-- **The write order of the source is the order of the model's `plan`** (metainfo, fontinfo, lib, groups, kerning,
    features, layercontents, layers, data, images), and the source has no write the plan does not make. -/
theorem source_save_order_matches_plan : saveSteps.filter isWrite = planOrder := by
  unfold saveSteps isWrite
  repeat rw [String.toList_ofList]
  decide +kernel

/-! ### source-level tie: the CONDITIONS of the steps of `save_impl`, as the code says them NOW

`saveSteps` above: names and order only, robust against unrecognised steps in front of the wipe.  `saveTable` below: every
statement with its guard, proved EQUAL to `saveImpl` (`source_save_table_eq_model`).

`Generated.SaveOrder.saveTable` holds every top-level statement of `fn save_impl` as rows (guard atoms, step): what is
refused on which test, `path.exists()` -> `remove_dir_all`, the unconditional `create_dir`, every write with its
`if !self.x.is_empty()` gate, the two local variables the lib gate reads.  `Lemmas/SaveTable.lean` gives every atom and
step the model knows its meaning in the model's terms and runs rows against the abstract file system (`execRows`). -/

open Source Generated.SaveOrder in
/-- the regenerated table, word for word, is the model's table (`Lemmas/SaveTable.lean`, kernel-evaluated) -/
theorem source_save_table_parses : parseTable saveTable = some modelRows := saveTable_parses

open Source Generated.SaveOrder in
/-- **`saveImpl` IS the regenerated table**: the table parses (every guard atom and every step is one the model has a
    meaning for) and running its rows - first refusing row in front of the wipe, the wipe under its guard, the rows behind
    it as a plan of effects, each under its guard atoms - gives the outcome and the file system of the model's `saveImpl`,
    for every font, file system and target, and for both values of the two facts the model does not look at (default
    creator, carriage return in the feature text). -/
theorem source_save_table_eq_model {β : Type} (cfg : Cfg β) (f : AFont β) (fs : FS β) (t : APath) (creator cr : Bool) :
    (parseTable saveTable).map (fun rows => execRows rows cfg f fs t creator cr) = some (saveImpl cfg f fs t) := by
  rw [saveTable_parses]
  simp [execRows_model]

open Source Generated.SaveOrder in
/-- what the table says about refusals, spelled out: the rows in front of the `remove_dir_all` row are refusals only (no
    other step, hence no effect), and a refusing row leaves the file system it was given -/
theorem source_table_refusals_precede_wipe :
    ((parseTable saveTable).map fun rows =>
      (rows.takeWhile (!isWipe ·)).all fun r => match r.2 with
        | .refuse _ => true
        | _ => false) = some true ∧
    ∀ {β : Type} (cfg : Cfg β) (f : AFont β) (fs : FS β) (t : APath) (creator cr : Bool) (k : Refusal),
      (parseTable saveTable).map (fun rows => firstRefusal cfg f fs (rows.takeWhile (!isWipe ·))) = some (some k) →
      (parseTable saveTable).map (fun rows => execRows rows cfg f fs t creator cr) = some (some (.refused k), fs) := by
  refine ⟨by rw [saveTable_parses]; decide, ?_⟩
  intro β cfg f fs t creator cr k hk
  rw [saveTable_parses] at hk ⊢
  simp only [Option.map_some, Option.some.injEq] at hk ⊢
  unfold execRows
  rw [hk]

/-- non-vacuity: the interpreter runs - a refused save, and a save that wipes a pre-existing target -/
example :
    (Source.execRows Source.modelRows cfgN angleFont precious ["t".toList] true false).1 = (saveImpl cfgN angleFont precious ["t".toList]).1 ∧
    (Source.execRows Source.modelRows cfgN { angleFont with info := { body := 0, guides := [], valid := true, serialisable := true } }
      precious ["t".toList] true false).1 = none := by decide +kernel

end C08
