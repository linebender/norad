import Norad.Lemmas.Plist
import Norad.Generated.KernConsts
import Norad.Props.KernSource
/-!
# C10 — loading and saving are deterministic

The upconversion of kerning and of the robofab feature text (namespace `Kern`), the key sorting of written property lists
and the store writes (namespace `PlistM`; `written_plists_sorted` and `reorder_implies_eq` stand with their proofs in
`Lemmas/Plist.lean`).  Hash-ordered collections of the Rust are *order parameters* of the model:
`upconvertWith ord1 ord2` visits the two sets in the given orders (before the repair: the iteration
order of two `HashSet`s), `featuresTextWith keysOrder` joins the feature blocks in the given order
(before the repair: the iteration order of a `HashMap`).  The repaired code fixes both orders to the
sorted order (`upconvertKerning`, `featuresText`).
-/
namespace Kern
open StrMap

def collGroups : Groups := [("@MMK_L_A".toList, ["a".toList]), ("A".toList, ["b".toList])]
def collKerning : Kerning := [("A".toList, [("x".toList, 1)])]

/-- the defect repaired by `fix:` 60c865a: two visiting
    orders of the same set `{A, @MMK_L_A}` give different group maps — whoever comes first gets
    `public.kern1.A`, the other `public.kern1.A1`. -/
theorem upconvert_order_dependent_counterexample :
    ∃ o o', upconvertWith decimal ["A".toList, "@MMK_L_A".toList] [] collGroups collKerning = .ok o ∧
      upconvertWith decimal ["@MMK_L_A".toList, "A".toList] [] collGroups collKerning = .ok o' ∧
      lookup "public.kern1.A".toList o.groups = some ["b".toList] ∧
      lookup "public.kern1.A".toList o'.groups = some ["a".toList] := by
  unfold collGroups collKerning
  repeat rw [String.toList_ofList]
  exact exists₂_of_nested (by decide +kernel)

/-- the defect repaired by `fix:` 4c515db: without a
    `featureorder` list two iteration orders of the block map give different texts. -/
theorem features_order_dependent_counterexample :
    featuresTextWith ["kern".toList, "liga".toList] none none
        (some [("kern".toList, "K".toList), ("liga".toList, "L".toList)]) ≠
    featuresTextWith ["liga".toList, "kern".toList] none none
        (some [("kern".toList, "K".toList), ("liga".toList, "L".toList)]) := by
  decide +kernel

/-- the glyph set (`NameList`, a `HashSet`) influences the conversion
    only through `contains`: two sets with the same elements give the same result, whatever their
    internal order. -/
theorem glyphset_membership_only (sfx : Nat → Str) (g : Groups) (k : Kerning) (S S' : List Str)
    (h : ∀ x, x ∈ S ↔ x ∈ S') : upconvertKerning sfx g k S = upconvertKerning sfx g k S' := by
  have hc : ∀ x, S.contains x = S'.contains x := fun x =>
    Bool.eq_iff_iff.mpr (by rw [List.contains_iff_mem, List.contains_iff_mem, h x])
  simp only [upconvertKerning, firstSet, secondSet, referencedFirst, referencedSecond, hc]

/-- C15's `validate_iff` under the name C10 cites it by: no order of a hashed collection occurs in the predicate -/
theorem validator_sets_membership_only (g : Groups) :
    validateGroups g = .ok () ↔ KernSpec.ValidGroups g :=
  validate_iff g

/-- the two old ↦ new `HashMap`s are only looked up (`rn`); a table
    with the same entries in any other order renames every key identically. -/
theorem rename_tables_lookup_only (t t' : Table) (hp : t.Perm t') (hn : (keys t).Nodup) (n : Str) :
    rn t n = rn t' n := by
  rw [rn, rn, lookup_is.perm hp hn]

/-- the full statement, for the code as repaired: whatever order — and however
    often — the names were inserted into the two sets (`ins1`, `ins2`: any lists with the elements of
    the sets, e.g. any permutation), visiting the resulting `BTreeSet`s gives the one result
    `upconvertKerning` computes.  No hash order is left on this path. -/
theorem upconvert_order_independent (sfx : Nat → Str) (g : Groups) (k : Kerning) (S : List Str)
    (ins1 ins2 : List Str) (h1 : ∀ a, a ∈ ins1 ↔ a ∈ firstSet g k S)
    (h2 : ∀ a, a ∈ ins2 ↔ a ∈ secondSet g k S) :
    upconvertWith sfx (sortDedup ins1) (sortDedup ins2) g k = upconvertKerning sfx g k S := by
  unfold upconvertKerning
  rw [sortDedup_congr h1, sortDedup_congr h2]  -- both sides are now `upconvertWith` of the same two lists

theorem upconvert_perm_independent (sfx : Nat → Str) (g : Groups) (k : Kerning) (S : List Str)
    (ins1 ins2 : List Str) (h1 : ins1.Perm (firstSet g k S)) (h2 : ins2.Perm (secondSet g k S)) :
    upconvertWith sfx (sortDedup ins1) (sortDedup ins2) g k = upconvertKerning sfx g k S :=
  upconvert_order_independent sfx g k S ins1 ins2 (fun _ => h1.mem_iff) (fun _ => h2.mem_iff)

/-- the full statement, for the code as repaired: the feature text does not depend
    on the order in which the block map (`HashMap<String, String>`) holds or yields its entries. -/
theorem features_order_independent (classes : Option Str) (order : Option (List Str))
    (b b' : List (Str × Str)) (hp : b.Perm b') (hn : (keys b).Nodup) :
    featuresText classes order (some b) = featuresText classes order (some b') := by
  unfold featuresText featuresTextWith
  have hk : sortDedup (keys b) = sortDedup (keys b') :=
    sortDedup_perm (List.Perm.map (fun e : Str × Str => e.1) hp)
  simp only [Option.getD_some, hk, joinBlocks_perm hp hn]

/-- with a `featureorder` list the text never depended on the map order (the guard of the partial
    theorem before the repair) -/
theorem features_with_order_list (ko ko' : List Str) (classes : Option Str) (ord : List Str)
    (b : Option (List (Str × Str))) :
    featuresTextWith ko classes (some ord) b = featuresTextWith ko' classes (some ord) b := by
  unfold featuresTextWith; simp

example : featuresText none none (some [("liga".toList, "L".toList), ("kern".toList, "K".toList)])
    = "\nKL".toList := by decide +kernel

/-- what `writeMap` writes from a `BTreeMap` (groups.plist, contents.plist) has strictly
    ascending keys, is the same for every insertion history of the map, and looks up as the map does.  For kerning.plist
    (`writeKerning`, both levels) `kerning_plist_sorted` states the ascending keys only. -/
theorem btreemap_plists_sorted {β : Type} (m m' : List (Str × β)) (hn : (keys m).Nodup) (hp : m.Perm m') :
    Sorted (keys (writeMap m)) ∧ writeMap m = writeMap m' ∧ ∀ k, lookup k (writeMap m) = lookup k m :=
  ⟨sorted_keys_sortEntries m hn, sortEntries_perm hp hn, lookup_sortEntries m hn⟩

theorem kerning_plist_sorted (k : Kerning) (hn : (keys k).Nodup) (hs : ∀ e ∈ k, (keys e.2).Nodup) :
    Sorted (keys (writeKerning k)) ∧ ∀ e ∈ writeKerning k, Sorted (keys e.2) := by
  have hk : keys (k.map (fun e => (e.1, sortEntries e.2))) = keys k := by simp [keys]
  refine ⟨sorted_keys_sortEntries _ (by rw [hk]; exact hn), ?_⟩
  intro e he
  have hm := (sortEntries_perm_self _).mem_iff.mp he
  obtain ⟨e0, he0, rfl⟩ := List.mem_map.mp hm
  exact sorted_keys_sortEntries _ (hs e0 he0)

/-! ## source-level tie: which collections the code iterates

`Generated.KernConsts.iteratedCollections` is re-extracted from the source on every run: the declared types of
`groups_first` / `groups_second`, of the feature-block map (and whether its collected keys are `.sort()`ed),
of the `Groups` / `Kerning` aliases and of `Layer.contents`, followed by every walk (`.iter()`, `.keys()`,
`.values()`, `.into_iter()`, `.drain()`, `for .. in`, `.chain(..)`/`.zip(..)`) over an identifier declared as a
`HashSet`/`HashMap` in the four files, labelled with its consumer (`HashMap.iter.find`, `HashSet.for`, … —
or `Hash.sorted` / `Hash.order-insensitive` when the walk order cannot reach the result). -/

/-- every collection the source iterates on a result-affecting path of the
    two upconversions and of the three map-shaped plists is an ordered one.  Re-introducing a `HashSet` /
    an unsorted `HashMap` walk breaks this obligation (and the sampling finds the input). -/
theorem source_iteration_is_ordered :
    ∀ e ∈ Generated.KernConsts.iteratedCollections, e.2 ∈ orderedCollections := by decide +kernel

/-- the table covers every order parameter of the model: the two visiting orders of `upconvertWith`, the
    key order of `featuresTextWith`, and the maps written by `writeMap` / `writeKerning` (it may hold
    more: every walk over a hashed collection the extractor finds is appended) -/
theorem source_iteration_table_complete :
    ∀ n ∈ ["groups_first", "groups_second", "feature_blocks", "Groups", "Kerning", "Kerning.seconds", "Layer.contents"],
      n ∈ Generated.KernConsts.iteratedCollections.map (·.1) := by
  decide +kernel

/-- the lib keys the feature conversion reads are the model's, and every
    key it reads is removed from the lib afterwards -/
theorem source_robofab_keys_match_model :
    Generated.KernConsts.libDataKeys =
      [("ps_hinting_data", robofabHintKey), ("feature_classes", robofabClassesKey),
       ("feature_order", robofabOrderKey), ("features", robofabFeaturesKey)] ∧
    (∀ e ∈ Generated.KernConsts.libDataKeys, e.2 ∈ Generated.KernConsts.removedKeys) := by
  unfold robofabHintKey robofabClassesKey robofabOrderKey robofabFeaturesKey
  repeat rw [String.toList_ofList]
  exact ⟨rfl, by decide⟩

/-- `upconvert_order_independent` stated of the pass as regenerated from
    `src/upconversion.rs` (`Kern.Gen.upconvertKerning`, `tools/extract_upconv.py`).  In the regenerated code the two sets are
    built by `BTreeSet::insert` in loop order (`Gen.findKnown`, `Gen.collectLoop`; `source_sets_eq_model`: their iteration
    order is the sorted duplicate-free list of the inserted names), and whatever order — and however often — the same names
    are inserted, visiting the sets gives this one result. -/
theorem source_gen_upconvert_order_independent (sfx : Nat → Str) (g : Groups) (k : Kerning) (S : List Str)
    (ins1 ins2 : List Str) (h1 : ∀ a, a ∈ ins1 ↔ a ∈ firstSet g k S)
    (h2 : ∀ a, a ∈ ins2 ↔ a ∈ secondSet g k S) :
    upconvertWith sfx (sortDedup ins1) (sortDedup ins2) g k = Gen.upconvertKerning sfx g k S := by
  rw [source_upconvert_eq_model]; exact upconvert_order_independent sfx g k S ins1 ins2 h1 h2

-- non-vacuity: the witness of the repaired defect, names inserted in the opposite order and twice, against the regenerated pass
example : upconvertWith decimal (sortDedup (firstSet collGroups collKerning []).reverse) (sortDedup (secondSet collGroups collKerning []))
      collGroups collKerning = Gen.upconvertKerning decimal collGroups collKerning [] :=
  source_gen_upconvert_order_independent decimal collGroups collKerning [] _ _ (fun _ => List.mem_reverse) (fun _ => Iff.rfl)
example : upconvertWith decimal (sortDedup (firstSet collGroups collKerning [] ++ firstSet collGroups collKerning []))
      (sortDedup (secondSet collGroups collKerning [])) collGroups collKerning = Gen.upconvertKerning decimal collGroups collKerning [] :=
  source_gen_upconvert_order_independent decimal collGroups collKerning [] _ _ (fun _ => by simp) (fun _ => Iff.rfl)
example : ∃ o, Gen.upconvertKerning decimal collGroups collKerning [] = .ok o ∧
    lookup "public.kern1.A".toList o.groups = some ["a".toList] ∧
    lookup "public.kern1.A1".toList o.groups = some ["b".toList] := by
  unfold collGroups collKerning
  repeat rw [String.toList_ofList]
  decide +kernel

end Kern

/-! ## what is written: sorted dictionaries (`recursive_sort_plist_keys`, util.rs:11-18) -/
namespace PlistM
open StrMap

/-- two shapes only (an array at the top; an array as the only value of a dictionary); the general fact is not stated -/
theorem arrays_not_visited (k : Str) (xs : List PV) :
    sortRec (.arr xs) = .arr xs ∧ sortRec (.dict [(k, .arr xs)]) = .dict [(k, .arr xs)] :=
  ⟨rfl, rfl⟩

/-- the written lib is a function of the lib *as a map* at every
    level the sort reaches: two libs that differ only in the insertion order of their dictionaries
    (`Reorder`: at the top and recursively in dictionary values; scalars and arrays identical) are
    written identically — same keys in the same order at every depth. -/
theorem written_lib_function_of_map {v v' : PV} (h : Reorder v v') (hw : WF v) :
    sortRec v = sortRec v' ∧ writtenKeys (sortRec v) = writtenKeys (sortRec v') := by
  have := sortRec_reorder h hw
  exact ⟨this, by rw [this]⟩

/-- the class of `==`-equal libs for which the full
    statement holds — equal by reordering where the sort reaches: they compare equal *and* are written
    identically.  What is left of `==` (reordering inside arrays) is the counterexample below. -/
theorem equal_fonts_by_reorder_written_identically {v v' : PV} (h : Reorder v v') (hw : WFAll v) :
    pvEq v v' = true ∧ sortRec v = sortRec v' :=
  ⟨reorder_implies_eq h hw, sortRec_reorder h (wf_of_wfAll v hw)⟩

def libA : PV := .dict [("a".toList, .arr [.dict [("y".toList, .int 1), ("x".toList, .int 2)]])]
def libB : PV := .dict [("a".toList, .arr [.dict [("x".toList, .int 2), ("y".toList, .int 1)]])]

/-- the full statement "equal fonts are written identically" is FALSE on the tree (finding
    `dict-inside-array-keeps-insertion-order`): the two libs
    compare equal (`plist::Value::eq` ignores insertion order at every depth) but are written with
    different key orders, because the dictionary sits inside an array. -/
theorem written_lib_equal_fonts_counterexample :
    pvEq libA libB = true ∧ writtenKeys (sortRec libA) ≠ writtenKeys (sortRec libB) := by
  decide +kernel

/-- non-vacuity of `written_lib_function_of_map`: a nested dictionary reordered at two levels -/
example : Reorder
    (.dict [("z".toList, .dict [("b".toList, .int 1), ("a".toList, .int 2)]), ("k".toList, .int 0)])
    (.dict [("k".toList, .int 0), ("z".toList, .dict [("a".toList, .int 2), ("b".toList, .int 1)])]) :=
  .dict (es' := [("z".toList, .dict [("a".toList, .int 2), ("b".toList, .int 1)]), ("k".toList, .int 0)])
    (.cons (.dict (es' := [("b".toList, .int 1), ("a".toList, .int 2)])
        (.cons (.refl _) (.cons (.refl _) .nil)) (List.Perm.swap _ _ _))
      (.cons (.refl _) .nil))
    (List.Perm.swap _ _ _)

example : writtenKeys (sortRec
    (.dict [("z".toList, .dict [("b".toList, .int 1), ("a".toList, .int 2)]), ("k".toList, .int 0)])) =
    ["k".toList, "z".toList, "a".toList, "b".toList] := by decide +kernel

/-! ## stores are written in hash order (`font.rs:531-558`) -/

/-- the files written do not depend on the order in which the `HashMap` yields the entries.  Guard: the keys resolve to
    pairwise different files (that they are also not nested — no key a directory of another — is what makes every
    single write succeed and is enforced by the store on insert). -/
theorem store_save_order_independent {l l' : List (Str × Str)} (hp : l.Perm l')
    (hn : (l.map (fun e => normKey e.1)).Nodup) (fs : Files) : writeAll l fs = writeAll l' fs :=
  -- `writeFile p b fs` is the function update `update_comm` speaks of
  foldl_perm_of_nodup_keys _ (fun e => normKey e.1) (fun fs _ _ hne => update_comm fs _ _ hne) hp hn fs

/-- the unguarded statement is FALSE on the tree (finding `store-alias-keys-written-in-hash-order`): `n.txt` and `./n.txt` are different keys of the store
    but the same file; the two iteration orders leave different contents in it. -/
theorem store_save_order_dependent_counterexample :
    writeAll [("n.txt".toList, "0".toList), ("./n.txt".toList, "1".toList)] (fun _ => none) ["n.txt".toList] ≠
    writeAll [("./n.txt".toList, "1".toList), ("n.txt".toList, "0".toList)] (fun _ => none) ["n.txt".toList] := by
  decide +kernel

example : (["a.txt".toList, "b/c.txt".toList].map normKey).Nodup := by decide +kernel

end PlistM
