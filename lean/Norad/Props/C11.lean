import Norad.Lemmas.C11
import Norad.Generated.ContourAutomaton
/-!
# C11 — a contour is accepted exactly when its point sequence is legal

The property theorems and the few lemmas only they use.  `accepts` is the transcription of the builder (`Model/C11.lean`),
`Legal` the independent declarative rule (`Spec/C11.lean`).
-/
namespace C11

/-- **C11, full strength**: the builder accepts a point sequence exactly when it is legal. -/
theorem accepts_iff_legal (pts : List Pt) : accepts pts = true ↔ Legal pts := by
  have hacc : accepts pts = true ↔ ∃ n, feed pts true 0 = .ok n ∧ endPath pts n = .ok () := by
    unfold accepts
    cases feed pts true 0 with
    | error e => simp
    | ok n => dsimp only; cases h : endPath pts n <;> simp [h]
  have hfeed := feed_eq_ok_iff pts []
  simp only [List.isEmpty_nil, trailOffs_nil, List.nil_append] at hfeed
  simp only [hacc, hfeed, and_assoc, exists_and_left, exists_eq_left, endPath_ok_iff]
  refine and_congr_right fun hl => ?_
  cases hc : isClosed pts
  · simp
  · simpa using (cyclicOK_iff_wrap pts hl).symm

/-- the executable oracle used by the driver is the declarative rule -/
theorem legalB_iff_legal (pts : List Pt) : legalB pts = true ↔ Legal pts := by
  unfold legalB Legal
  rw [Bool.and_eq_true, linearB_iff]
  cases isClosed pts <;> simp [cyclicB_iff]

theorem accepts_eq_legalB (pts : List Pt) : accepts pts = legalB pts :=
  Bool.eq_iff_iff.2 ((accepts_iff_legal pts).trans (legalB_iff_legal pts).symm)

theorem parseContours_isSome_iff (cs : List (List Pt)) :
    (parseContours cs).isSome = true ↔ ∀ c ∈ cs, Legal c := by
  induction cs with
  | nil => simp [parseContours]
  | cons c cs ih =>
    rw [parseContours, List.forall_mem_cons, ← ih, ← accepts_iff_legal]
    cases accepts c <;> cases parseContours cs <;> simp

/-- accepted contours are returned in order and unchanged; exactly the empty ones are dropped -/
theorem accepted_points_unchanged (cs r : List (List Pt)) (h : parseContours cs = some r) :
    r = cs.filter (fun c => !c.isEmpty) := by
  revert h
  fun_induction parseContours cs generalizing r with
  | case1 => rintro ⟨⟩; rfl
  | case2 | case4 => nofun
  | case3 c cs _ r' hp ih =>
    rintro ⟨⟩
    rw [List.filter_cons, ← ih r' hp]
    cases c.isEmpty <;> rfl

/-- a closed contour made of off-curve points only is legal, whatever its length -/
theorem all_offcurve_closed_legal (pts : List Pt)
    (h : ∀ p ∈ pts, p.typ = .off ∧ p.smooth = false) : Legal pts := by
  have hc : isClosed pts = true := by
    cases pts with
    | nil => rfl
    | cons q _ => simp [isClosed, (h q List.mem_cons_self).1]
  refine ⟨fun a p b hab => ?_, ?_⟩
  · have hp := h p (by simp [hab])
    simp [pointOK, hp]
  · rw [hc, if_pos rfl]
    intro a p b hab
    simp [(h p (by simp [hab])).1]

/-- point names play no part in acceptance: an outline is accepted iff every contour's type/smooth
    sequence is legal -/
theorem parseOutline_isSome_iff (v1 : Bool) (cs : List (List (Pt × Bool))) :
    (parseOutline v1 cs).isSome = true ↔ ∀ c ∈ cs, Legal (c.map Prod.fst) := by
  rw [← List.forall_mem_map (P := Legal), ← parseContours_isSome_iff, parseOutline]
  cases parseContours (cs.map (·.map Prod.fst)) <;> cases v1 <;> rfl

theorem mem_enumFrom_iff_zipIdx {α : Type} (l : List α) (i n : Nat) (a : α) :
    (n, a) ∈ enumFrom i l ↔ (a, n) ∈ l.zipIdx i := by
  induction l generalizing i with
  | nil => simp [enumFrom]
  | cons b r ih => simp [enumFrom, List.zipIdx_cons, ih, and_comm]

theorem mem_enumFrom {α : Type} (l : List α) (n : Nat) (a : α) :
    (n, a) ∈ enumFrom 0 l ↔ l[n]? = some a := by
  rw [mem_enumFrom_iff_zipIdx, List.mk_mem_zipIdx_iff_getElem?]

theorem isImplicitAnchor_iff (c : List (Pt × Bool)) :
    isImplicitAnchor c = true ↔ ∃ p, c = [(p, true)] ∧ p.typ = .move := by
  unfold isImplicitAnchor; split <;> simp_all

theorem parseOutline_eq_some (v1 : Bool) (cs : List (List (Pt × Bool))) (res)
    (h : parseOutline v1 cs = some res) :
    res = if v1 then
        (((enumFrom 0 cs).filter (fun e => !e.2.isEmpty)).filter (fun e => !isImplicitAnchor e.2),
         (((enumFrom 0 cs).filter (fun e => !e.2.isEmpty)).filter (fun e => isImplicitAnchor e.2)).map (·.1))
      else ((enumFrom 0 cs).filter (fun e => !e.2.isEmpty), []) := by
  unfold parseOutline at h
  split at h
  · cases h
  · cases v1 <;> cases h <;> rfl

/-- **format 2**: every non-empty contour is returned, with every point (named or not) where it was -/
theorem v2_contours_unchanged (cs : List (List (Pt × Bool))) (kept : List (Nat × List (Pt × Bool)))
    (anchors : List Nat) (h : parseOutline false cs = some (kept, anchors)) :
    kept = (enumFrom 0 cs).filter (fun e => !e.2.isEmpty) ∧ anchors = [] :=
  Prod.mk.inj (parseOutline_eq_some false cs _ h)

/-- **format 1**: exactly the contours that consist of one named `move` point become anchors; every other
    non-empty contour is returned unchanged — in particular a named first point of a longer contour stays -/
theorem v1_single_named_move_becomes_anchor (cs : List (List (Pt × Bool)))
    (kept : List (Nat × List (Pt × Bool))) (anchors : List Nat) (h : parseOutline true cs = some (kept, anchors)) :
    (∀ n, n ∈ anchors ↔ ∃ p, cs[n]? = some [(p, true)] ∧ p.typ = .move) ∧
    (∀ n c, (n, c) ∈ kept ↔ cs[n]? = some c ∧ c ≠ [] ∧ isImplicitAnchor c = false) := by
  obtain ⟨rfl, rfl⟩ := Prod.mk.inj (parseOutline_eq_some true cs _ h)
  constructor
  · intro n
    simp only [List.mem_map, List.mem_filter, mem_enumFrom, isImplicitAnchor_iff, Prod.exists,
      exists_and_right, exists_eq_right]
    constructor
    · rintro ⟨c, ⟨hc, _⟩, p, rfl, hp⟩
      exact ⟨p, hc, hp⟩
    · rintro ⟨p, hc, hp⟩
      exact ⟨_, ⟨hc, rfl⟩, p, rfl, hp⟩
  · intro n c
    simp only [List.mem_filter, mem_enumFrom, Bool.not_eq_true', List.isEmpty_eq_false_iff, ne_eq,
      and_assoc]

/-! ## source-level tie: the automaton regenerated from `src/glyph/builder.rs` on every run

`Generated/ContourAutomaton.lean` is written by `tools/extract_contour_automaton.py` from the `match` arms of
`add_point` and of the wrap-around loop of `end_path` as they stand in the working tree.  The three theorems
below say that the regenerated functions ARE the hand-written model's, so `accepts_iff_legal` and everything
above is re-checked against the current source; a changed threshold, error or counter update in the Rust makes
one of them fail to check (and the correspondence run then looks for the concrete contour). -/

theorem source_addPoint_eq_model : Gen.addPoint = addPoint := by
  funext e n p
  unfold Gen.addPoint addPoint
  cases p.typ <;> cases e <;> simp

theorem source_wrap_eq_model : Gen.wrap = wrap := by
  funext pts
  induction pts with
  | nil => funext n; simp [Gen.wrap, wrap]
  | cons p ps ih =>
    funext n
    unfold Gen.wrap wrap
    cases p.typ <;> simp [ih]

theorem source_endPath_eq_model : Gen.endPath = endPath := by
  funext pts n
  unfold Gen.endPath endPath
  rw [source_wrap_eq_model]

/-- the model's loop over the regenerated `add_point`; the generated file holds the arms only, this loop and
    `Gen.accepts` are written here -/
def Gen.feed : List Pt → Bool → Nat → Except Err Nat
  | [], _, n => .ok n
  | p :: ps, e, n =>
    match Gen.addPoint e n p with
    | .error x => .error x
    | .ok n' => Gen.feed ps false n'

def Gen.accepts (pts : List Pt) : Bool :=
  match Gen.feed pts true 0 with
  | .error _ => false
  | .ok n => match Gen.endPath pts n with | .ok _ => true | .error _ => false

/-- the builder over the regenerated arms is `accepts` (the three equalities above), so `accepts_iff_legal` holds of it -/
theorem source_accepts_iff_legal (pts : List Pt) : Gen.accepts pts = true ↔ Legal pts := by
  have hf : Gen.feed = feed := by
    funext ps
    induction ps with
    | nil => rfl
    | cons p ps ih => funext e n; rw [Gen.feed, feed, source_addPoint_eq_model, ih]; rfl
  rw [← accepts_iff_legal, Gen.accepts, accepts, hf, source_endPath_eq_model]
  exact Iff.rfl

-- a closed contour whose off-curves wrap around the end: one at the end and one at the start before a `curve` is
-- legal (run of 2), one at the end and two at the start is not (run of 3)
example : accepts [⟨.off, false⟩, ⟨.curve, false⟩, ⟨.line, false⟩, ⟨.off, false⟩] = true := by decide
example : accepts [⟨.off, false⟩, ⟨.off, false⟩, ⟨.curve, false⟩, ⟨.off, false⟩] = false := by decide
example : accepts [⟨.off, false⟩, ⟨.off, false⟩, ⟨.off, false⟩] = true := by decide
example : Legal [⟨.move, false⟩, ⟨.off, false⟩, ⟨.off, false⟩, ⟨.curve, true⟩] :=
  (accepts_iff_legal _).1 (by decide)
example : ¬ Legal [⟨.move, false⟩, ⟨.line, false⟩, ⟨.off, false⟩] :=
  fun h => absurd ((accepts_iff_legal _).2 h) (by decide)

end C11
