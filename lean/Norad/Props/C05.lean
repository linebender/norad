import Norad.Spec.DSVocab
import Norad.Generated.Vocab
import Norad.Lemmas.C05Order
import Norad.Lemmas.C05Mixed
import Norad.Props.C02
import Norad.Lemmas.StrCode
/-!
# C05 — files are UFO 3 as an independent implementation reads and writes it

**Vocabulary** (`decide` over tables): `Generated.Vocab` is regenerated from norad's Rust source by
`tools/extract_vocab.py` on every run; `Ufo3` is the specification's vocabulary typed in independently.  The
theorems say that every name norad's code uses is the specification's name for that thing — a misspelling shared
by norad's reader and writer passes every round-trip check and fails here.

**Specification-level reader/writer** (`Spec/Ufo3Read`; the reader is what the driver runs on the trees norad saved): it
reads back what it writes, it reads what `encodeGlif` writes, and `parseGlif` reads what it writes.  The tie of these
models to the Rust code itself is behavioural (correspondence check), see docs/notes/C05.md.
-/
namespace C05
open Ufo3 Generated.Vocab

/-- how the Rust types of the `FontInfo` fields read as property-list types -/
def tyOfRust : List (String × Ty) := [
  ("Option<String>", .str), ("Option<StyleMapStyle>", .str),
  ("Option<Integer>", .int), ("Option<NonNegativeInteger>", .int), ("Option<Os2WidthClass>", .int),
  ("Option<PostscriptWindowsCharacterSet>", .int),
  ("Option<f64>", .num), ("Option<IntegerOrFloat>", .num), ("Option<Float>", .num),
  ("Option<NonNegativeIntegerOrFloat>", .num),
  ("Option<bool>", .bool),
  ("Option<Bitlist>", .intList), ("Option<Os2Panose>", .intList), ("Option<Os2FamilyClass>", .intList),
  ("Option<Vec<IntegerOrFloat>>", .numList),
  ("Option<Vec<GaspRangeRecord>>", .dictList), ("Option<Vec<NameRecord>>", .dictList),
  ("Option<Vec<Guideline>>", .dictList), ("Option<Vec<WoffMetadataExtensionRecord>>", .dictList),
  ("Option<WoffMetadataCopyright>", .dict), ("Option<WoffMetadataCredits>", .dict),
  ("Option<WoffMetadataDescription>", .dict), ("Option<WoffMetadataLicense>", .dict),
  ("Option<WoffMetadataLicensee>", .dict), ("Option<WoffMetadataTrademark>", .dict),
  ("Option<WoffMetadataUniqueId>", .dict), ("Option<WoffMetadataVendor>", .dict)]

/-- a field of norad's `FontInfo` (ident, plist key, Rust type) uses a key of the specification with a compatible type -/
def fieldOk (f : String × String × String) : Bool :=
  match fontinfoKeys.lookup f.2.1, tyOfRust.lookup f.2.2 with
  | some t, some t' => t == t'
  | _, _ => false

theorem lookup_codes {β : Type} (l : List (String × β)) (k : String) :
    (l.map fun p => (StrCode.code p.1, p.2)).lookup (StrCode.code k) = l.lookup k := by
  induction l with
  | nil => rfl
  | cons p r ih =>
    by_cases e : k = p.1
    · simp [List.lookup, e]
    · simp [List.lookup, beq_false_of_ne e, beq_false_of_ne fun h => e (StrCode.code_inj h), ih]

/-- the two theorems below with every key and type name read as a number (`StrCode.code`), evaluated together: the
    kernel encodes a literal once per declaration, and the 108 keys are the greater part of either fact -/
theorem fontinfo_keys_checked :
    (∀ f ∈ fontinfoFields,
      (match (fontinfoKeys.map fun p => (StrCode.code p.1, p.2)).lookup (StrCode.code f.2.1),
             (tyOfRust.map fun p => (StrCode.code p.1, p.2)).lookup (StrCode.code f.2.2) with
       | some t, some t' => t == t'
       | _, _ => false) = true) ∧
    StrCode.distinct ((fontinfoFields.map (·.2.1)).map StrCode.code) = true ∧
    ∀ k ∈ fontinfoKeys, ((fontinfoFields.map (·.2.1)).map StrCode.code).contains (StrCode.code k.1) = true := by
  decide +kernel

/-- **every fontinfo.plist key norad reads and writes is a UFO 3 key, with a compatible value type** -/
theorem fontinfo_keys_are_spec_keys : ∀ f ∈ fontinfoFields, fieldOk f = true := by
  intro f hf
  have ok := fontinfo_keys_checked.1 f hf
  rwa [lookup_codes, lookup_codes] at ok

/-- no two fields share a key, and every key of the specification is covered by a field -/
theorem fontinfo_keys_cover_spec :
    (fontinfoFields.map (·.2.1)).Nodup ∧ ∀ k ∈ fontinfoKeys, (fontinfoFields.map (·.2.1)).contains k.1 = true :=
  have ⟨_, distinct, covered⟩ := fontinfo_keys_checked
  ⟨StrCode.nodup_of_distinct_codes distinct, fun k hk => (StrCode.contains_eq_codes _ _).trans (covered k hk)⟩

/-- the record of the specification (`recordKeys`) each struct nested in `FontInfo` stands for -/
def recordSpecName : List (String × String) := [
  ("GaspRangeRecord", "gaspRangeRecord"), ("NameRecord", "nameRecord"),
  ("WoffMetadataCopyright", "woffMetadataCopyright"), ("WoffMetadataCredits", "woffMetadataCredits"),
  ("WoffMetadataCredit", "woffMetadataCredit"), ("WoffMetadataDescription", "woffMetadataDescription"),
  ("WoffMetadataTextRecord", "woffMetadataText"), ("WoffMetadataExtensionRecord", "woffMetadataExtension"),
  ("WoffMetadataExtensionNameRecord", "woffMetadataText"), ("WoffMetadataExtensionItemRecord", "woffMetadataExtensionItem"),
  ("WoffMetadataExtensionValueRecord", "woffMetadataText"), ("WoffMetadataLicense", "woffMetadataLicense"),
  ("WoffMetadataLicensee", "woffMetadataLicensee"), ("WoffMetadataTrademark", "woffMetadataTrademark"),
  ("WoffMetadataUniqueId", "woffMetadataUniqueID"), ("WoffMetadataVendor", "woffMetadataVendor")]

def sameSet (a b : List String) : Bool := a.all b.contains && b.all a.contains

def recordOk (r : String × List (String × String × String)) : Bool :=
  match recordSpecName.lookup r.1 with
  | some n => match recordKeys.lookup n with
    | some ks => sameSet (r.2.map (·.2.1)) ks
    | none => false
  | none => false

/-- the key sets of the nested records, of metainfo.plist and of the font-level guideline (writer and parser) -/
theorem record_keys_are_spec_keys :
    (∀ r ∈ recordFields, recordOk r = true) ∧
    (∀ f ∈ metainfoFields, (metainfoKeys.map (·.1)).contains f.2.1 = true) ∧
    sameSet guidelineWriterKeys ((recordKeys.lookup "guideline").getD []) = true ∧
    sameSet guidelineParserKeys ((recordKeys.lookup "guideline").getD []) = true := by decide +kernel

/-- the statics of font.rs / layer.rs / shared_types.rs that name files, directories or reserved keys -/
def constMeaning : List (String × String) := [
  ("METAINFO_FILE", metainfoFile), ("FONTINFO_FILE", fontinfoFile), ("LIB_FILE", libFile),
  ("GROUPS_FILE", groupsFile), ("KERNING_FILE", kerningFile), ("FEATURES_FILE", featuresFile),
  ("DATA_DIR", dataDir), ("IMAGES_DIR", imagesDir), ("CONTENTS_FILE", contentsFile),
  ("LAYER_INFO_FILE", layerinfoFile), ("LAYER_CONTENTS_FILE", layercontentsFile),
  ("DEFAULT_GLYPHS_DIRNAME", defaultGlyphsDir), ("DEFAULT_LAYER_NAME", defaultLayerName),
  ("PUBLIC_OBJECT_LIBS_KEY", objectLibsKey)]

/-- **every file-name constant of norad has the value the specification gives that file**: the 14 of `constMeaning`, each
present in the extracted `fileConsts`.  The table's other two, `DEFAULT_METAINFO_CREATOR` and `UFO_DIR`, name no file of the
specification; a constant added to norad is not seen here. -/
theorem file_names_are_spec_names : ∀ c ∈ constMeaning, fileConsts.lookup c.1 = some c.2 := by decide +kernel

/-- and every one of those values is one of the specification's names -/
theorem file_names_in_spec_table :
    ∀ c ∈ constMeaning, (fileNames ++ reservedNames).contains c.2 = true := by decide +kernel

/-- layerinfo.plist: the writer's literals and the parser's fields are the specification's keys -/
theorem layerinfo_keys_are_spec_keys :
    sameSet layerinfoWriterKeys (layerinfoKeys.map (·.1)) = true ∧
    sameSet layerinfoParserKeys (layerinfoKeys.map (·.1)) = true := by decide

def subsetOf (a b : List String) : Bool := a.all b.contains

def attrsWithin (tbl : List (String × List String)) : Bool :=
  tbl.all fun e => elementNames.contains e.1 && subsetOf e.2 (attrNames e.1)

def writerWithinParser : Bool :=
  writerAttrs.all fun e => e.2.isEmpty || subsetOf e.2 ((parserAttrs.lookup e.1).getD [])

def parserKnowsRequired : Bool :=
  parserAttrs.all fun e => subsetOf (requiredAttrs e.1) e.2

/-- **the glif vocabulary of norad's writer and of norad's parser is the specification's**: writer ⊆ spec,
parser ⊆ spec, writer ⊆ parser, element names ⊆ spec, parser knows the required attributes -/
theorem glif_attributes_are_spec_attributes :
    attrsWithin writerAttrs = true ∧ attrsWithin parserAttrs = true ∧ writerWithinParser = true ∧
    subsetOf writerElements elementNames = true ∧ subsetOf writerEndElements elementNames = true ∧
    subsetOf parserElements elementNames = true ∧ parserKnowsRequired = true := by decide +kernel

/-- the parser understands *every* attribute of the specification (so that a legal file is not refused for its
vocabulary), element by element -/
theorem parser_knows_all_spec_attributes :
    ∀ e ∈ parserAttrs, subsetOf (attrNames e.1) e.2 = true := by decide +kernel

/-- the struct field each transformation attribute is tied to, by its position in the matrix -/
def transformField : List (String × String) := [
  ("xScale", "x_scale"), ("xyScale", "xy_scale"), ("yxScale", "yx_scale"), ("yScale", "y_scale"),
  ("xOffset", "x_offset"), ("yOffset", "y_offset")]

/-- **the six transformation attributes are tied to the coefficients the specification ties them to**, in the writer
and in both parser sites (a consistent swap of `xyScale`/`yxScale` on both sides fails here) -/
theorem transform_attributes_match_spec :
    sameSet (transformField.map (·.1)) transformAttrs = true ∧
    (∀ p ∈ writerTransform, transformField.lookup p.1 = some p.2) ∧
    (∀ p ∈ parserTransformComponent, transformField.lookup p.1 = some p.2) ∧
    (∀ p ∈ parserTransformImage, transformField.lookup p.1 = some p.2) ∧
    writerTransform.length = 6 ∧ parserTransformComponent.length = 6 ∧ parserTransformImage.length = 6 := by decide

def variantSpelling : List (String × String) := [
  ("Move", "move"), ("Line", "line"), ("OffCurve", "offcurve"), ("Curve", "curve"), ("QCurve", "qcurve")]

/-- point types, `smooth="yes"`, `format="2"` -/
theorem point_vocabulary_is_spec :
    (∀ p ∈ writerPointTypes, variantSpelling.lookup p.1 = some p.2) ∧
    (∀ p ∈ parserPointTypes, variantSpelling.lookup p.1 = some p.2) ∧
    sameSet (variantSpelling.map (·.2)) pointTypes = true ∧
    writerPointTypes.length = 5 ∧ parserPointTypes.length = 5 ∧
    (∀ s ∈ writerSmooth, smoothValues.lookup s = some true) ∧
    (∀ s ∈ parserSmooth, smoothValues.lookup s = some true) ∧
    writerFormat = ["2"] := by decide

/-- the identity defaults leave every point where it is.  (This and `affine_basis` are about the specification's
    `Affine.apply`; the driver evaluates the same function on doubles against `ContourPoint::transform`.) -/
theorem affine_defaults_identity (x y : Int) :
    (Affine.apply ⟨1, 0, 0, 1, 0, 0⟩ x y : Int × Int) = (x, y) := by
  simp [Affine.apply]

/-- which coefficient goes where: the images of the two basis vectors and of the origin -/
theorem affine_basis (t : Affine Int) :
    t.apply 1 0 = (t.xScale + t.xOffset, t.xyScale + t.yOffset) ∧
    t.apply 0 1 = (t.yxScale + t.xOffset, t.yScale + t.yOffset) ∧
    t.apply 0 0 = (t.xOffset, t.yOffset) := by
  simp [Affine.apply]

/-- **what the specification-level writer writes, the specification-level reader finds** — every value of every
glyph description, under the specification's names, for every lexical codec whose reader inverts its writer -/
theorem spec_reader_finds_values (lx : Lex) (rd : Render)
    (hn : ∀ ns, lx.nums (rd.nums ns) = some ns) (hh : ∀ n, lx.hex (rd.hex n) = some n) (g : GlyphD) :
    specRead lx (specWrite rd g) = some g :=
  Ufo3.specRead_specWrite lx rd hn hh g

/-- the reader is strict about the vocabulary: an attribute the specification does not define makes it fail
(here: a point whose `smooth` is spelt `smoth`), and so does a `smooth` value other than yes/no -/
theorem spec_reader_rejects_foreign_names (lx : Lex) :
    readPoint lx (.elem "point" [("x", "1"), ("y", "2"), ("smoth", "yes")] [] "") = none ∧
    readSmooth [("smooth", "true")] = none := by
  constructor
  · simp [readPoint, allowed, attrNames, attrSpecs, elements, List.lookup, req, opt]
  · simp [readSmooth, List.lookup]

/-! non-vacuity of the two codec hypotheses: a concrete lexical codec (unary numerals, `,`-terminated) satisfies them -/

def encU : List Nat → List Char
  | [] => []
  | n :: r => List.replicate n 'a' ++ ',' :: encU r

def decU : List Char → Nat → List Nat
  | [], _ => []
  | c :: r, k => if c = ',' then k :: decU r 0 else decU r (k + 1)

theorem decU_replicate (n k : Nat) (rest : List Char) :
    decU (List.replicate n 'a' ++ rest) k = decU rest (k + n) := by
  induction n generalizing k with
  | zero => simp
  | succ m ih =>
    simp only [List.replicate_succ, List.cons_append, decU]
    rw [if_neg (by decide), ih]; congr 1; omega

theorem decU_encU (ns : List Nat) : decU (encU ns) 0 = ns := by
  induction ns with
  | nil => rfl
  | cons n r ih => simp [encU, decU_replicate, decU, ih]

def unaryLex : Lex := { nums := fun s => some (decU s.toList 0), hex := fun s => some s.length }
def unaryRender : Render :=
  { nums := fun ns => String.ofList (encU ns), hex := fun n => String.ofList (List.replicate n 'a') }

theorem unary_laws : (∀ ns, unaryLex.nums (unaryRender.nums ns) = some ns) ∧
    (∀ n, unaryLex.hex (unaryRender.hex n) = some n) := by
  constructor
  · intro ns; simp [unaryLex, unaryRender, decU_encU]
  · intro n; simp [unaryLex, unaryRender]

example (g : GlyphD) : specRead unaryLex (specWrite unaryRender g) = some g :=
  spec_reader_finds_values unaryLex unaryRender unary_laws.1 unary_laws.2 g

example : fontinfoFields.length = 108 ∧ fontinfoKeys.length = 108 := by decide

/-- the element each struct of `src/designspace.rs` stands for -/
def dsStructElement : List (String × String) := [
  ("DesignSpaceDocument", "designspace"), ("Axis", "axis"), ("AxisMapping", "map"), ("Rules", "rules"),
  ("Rule", "rule"), ("Substitution", "sub"), ("ConditionSet", "conditionset"), ("Condition", "condition"),
  ("Source", "source"), ("Instance", "instance"), ("Dimension", "dimension")]

/-- fields whose Rust identifier is not the name of the attribute / element they stand for; every other field must be
    serialised under its own identifier -/
def dsFieldSpecial : List ((String × String) × String) := [
  (("Rules", "rules"), "rule"), (("Rule", "condition_sets"), "conditionset"), (("Rule", "substitutions"), "sub"),
  (("ConditionSet", "conditions"), "condition")]

def dsExpectedName (struct field : String) : String := (dsFieldSpecial.lookup (struct, field)).getD field

/-- one struct of designspace.rs, a row of `dsFields`: (struct, its `serde(rename)` or `""` when it has none, [(field, serde
    name, attribute (`@x`) rather than child element)]).  Its element, every field under the name the specification gives
    what the field holds (so that two swapped renames fail although the set of names is unchanged), attributes among the
    element's attributes, children among its children, every attribute of the specification covered -/
def dsStructOk (r : String × String × List (String × String × Bool)) : Bool :=
  match dsStructElement.lookup r.1 with
  | none => false
  | some el =>
    (r.2.1 == "" || r.2.1 == el) &&
    (r.2.2.all fun f =>
      f.2.1 == dsExpectedName r.1 f.1 &&
      (if f.2.2 then (DSVocab.attrsOf el).contains f.2.1 else (DSVocab.childrenOf el).contains f.2.1)) &&
    sameSet ((r.2.2.filter (·.2.2)).map (·.2.1)) (DSVocab.attrsOf el) &&
    sameSet ((r.2.2.filter (!·.2.2)).map (·.2.1)) (DSVocab.childrenOf el)

/-- **every attribute and element name of norad's designspace reader/writer (serde renames of `src/designspace.rs`,
regenerated on every run) is the designspace specification's name for what the field holds**, struct by struct
(`dsStructOk`); list wrappers; `processing` spellings.  A symmetric swap of two renames (invisible to a round trip)
fails here.  (Also listed under C18.) -/
theorem designspace_attributes_are_spec_attributes :
    (∀ r ∈ dsFields, dsStructOk r = true) ∧
    sameSet (dsFields.map (·.1)) (dsStructElement.map (·.1)) = true ∧
    (∀ w ∈ dsWrappers, (DSVocab.childrenOf w.1).contains w.2 = true) ∧
    sameSet dsProcessing DSVocab.processingValues = true := by decide +kernel

section
open Glif C05Bridge

/-- **norad's encoder is read by the specification-level reader.**  `encTree f showLib g` is the tree of what
`Glyph::encode_xml` writes — its canonical event list IS `Glif.encodeGlif f g`, event for event — and in it the
independent reader finds, under the names of the UFO 3 specification, exactly the glyph `preG f nc g`, the glyph norad's
own parser arrives at on the same document (`Glif.parse_encode`).  For every valid glyph (`Glif.ValidGlyph`) whose note
does not trim to nothing (recorded C02 guard) and whose contours all have points (`hne`): a contour without points is
written as `<contour></contour>`; the independent reader reports an empty contour, norad's parser drops it. -/
theorem norad_encoder_read_by_spec_reader {f : Fmt} {lx : Lex} {nc : Color → Color} {ok : Nat → Prop}
    (hc : LexCodec f lx nc ok) (showLib : Dict → String) (readLib : String → LibV)
    (hl : ∀ d, readLib (showLib d) = .dict d) {g : Glyph} (hv : ValidGlyph ok g)
    (hnote : ∀ n, g.note = some n → (trimText n).isEmpty = false)
    (hne : ∀ c, c ∈ g.contours → c.points ≠ []) :
    eventsOf readLib (encTree f showLib g) = encodeGlif f g ∧
    specRead lx (encTree f showLib g) = some (descGlyph showLib (preG f nc g)) :=
  ⟨events_of_encTree f showLib readLib hl g, spec_reads_encTree hc showLib hv hnote hne⟩

/-- the same with norad's parser next to it: on what the encoder writes, the specification-level reader and norad's
parser see the same glyph (before the object libs are moved out of the lib) -/
theorem spec_reader_agrees_with_norad_parser {f : Fmt} {lx : Lex} {rd : Str → Option Nat} {nc : Color → Color}
    {ok : Nat → Prop} (hl : LexCodec f lx nc ok) (hr : Codec f rd nc ok) (showLib : Dict → String) {g : Glyph}
    (hv : ValidGlyph ok g) (hnote : ∀ n, g.note = some n → (trimText n).isEmpty = false)
    (hne : ∀ c, c ∈ g.contours → c.points ≠ []) :
    parseGlif rd (encodeGlif f g) = loadObjectLibs (preG f nc g) ∧
    specRead lx (encTree f showLib g) = some (descGlyph showLib (preG f nc g)) :=
  ⟨parse_encode hr hv, spec_reads_encTree hl showLib hv hnote hne⟩

/-- **norad's parser reads the specification-level writer**, element by element: the attribute parsers `parseGlif` is
made of return exactly the described values on the attribute lists `Ufo3.specWrite` produces (its own attribute order;
defaults spelt out: `type="offcurve"`, `smooth="no"`, all six coefficients).  The composition over a whole document is
`norad_parser_reads_spec_document` below. -/
theorem norad_parser_reads_spec_writer {rd : Str → Option Nat} {rdr : Render} {ok : Nat → Prop}
    (hc : ParseCodec rd rdr ok) (seen : List Str) :
    (∀ a : AnchorD, ok a.x → ok a.y → (∀ n, a.name = some n → validName (L n) = true) → okColor ok a.color →
      FreshId seen (a.identifier.map L) →
      parseAnchor rd 2 seen (nodeAttrs (writeAnchor rdr a)) =
        some { x := a.x, y := a.y, name := a.name.map L, color := a.color.map colG, ident := a.identifier.map L }) ∧
    (∀ (g : GuidelineD) (l : Line), lineOf g = some l → (∀ v, g.x = some v → ok v) → (∀ v, g.y = some v → ok v) →
      (∀ v, g.angle = some v → ok v ∧ angleOk v = true) → (∀ n, g.name = some n → validName (L n) = true) →
      okColor ok g.color → FreshId seen (g.identifier.map L) →
      parseGuideline rd 2 seen (nodeAttrs (writeGuideline rdr g)) =
        some { line := l, name := g.name.map L, color := g.color.map colG, ident := g.identifier.map L }) ∧
    (∀ p : PointD, ok p.x → ok p.y → (∀ n, p.name = some n → validName (L n) = true) →
      FreshId seen (p.identifier.map L) →
      parsePoint rd 2 seen (nodeAttrs (writePoint rdr p)) =
        some { x := p.x, y := p.y, typ := ptG p.typ, smooth := p.smooth, name := p.name.map L,
               ident := p.identifier.map L }) ∧
    (∀ k : ComponentD, validName (L k.base) = true → okAffine ok k.t → FreshId seen (k.identifier.map L) →
      parseComponent rd 2 seen (nodeAttrs (writeComponent rdr k)) =
        some { base := L k.base, transform := trG k.t, ident := k.identifier.map L }) ∧
    (∀ i : ImageD, imageNameOk (L i.fileName) = true → okAffine ok i.t → okColor ok i.color →
      parseImage rd (nodeAttrs (writeImage rdr i)) =
        some { fileName := L i.fileName, color := i.color.map colG, transform := trG i.t }) ∧
    (∀ w h : Nat, ok w → ok h →
      parseAdvance rd (attrsL [("width", rdr.nums [w]), ("height", rdr.nums [h])]) = some (w, h)) ∧
    (∀ (cps : List Nat) (c : Nat), ValidCodepoint c →
      parseUnicode cps (nodeAttrs (writeUnicode rdr c)) = some (cpInsert cps c)) ∧
    (∀ cid : Option String, FreshId seen (cid.map L) →
      parseContourAttrs 2 seen (attrsL (optA "identifier" cid)) = some (cid.map L)) ∧
    (∀ name : String, validName (L name) = true →
      parseGlyphAttrs (some (attrsL [("name", name), ("format", "2")])) = .ok (L name, 2)) :=
  ⟨fun _ hx hy hn hcol hi => norad_parses_spec_anchor hc seen hx hy hn hcol hi,
   fun _ _ hl hx hy ha hn hcol hi => norad_parses_spec_guideline hc seen hl hx hy ha hn hcol hi,
   fun _ hx hy hn hi => norad_parses_point_with hc ⟨true, true⟩ hx hy hn (readIdent_fresh hi),
   fun _ hb ht hi => norad_parses_component_with hc (fun _ => true) hb ht (readIdent_fresh hi),
   fun _ hf ht hcol => norad_parses_image_with hc (fun _ => true) hf ht hcol,
   fun _ _ hw hh => norad_parses_advance_with hc true true hw hh,
   fun cps _ hv => norad_parses_spec_unicode hc cps hv,
   fun cid hi => norad_parses_spec_contour_attrs seen cid hi,
   fun _ hn => norad_parses_spec_glyph_attrs hn⟩

/-- **norad's parser on a WHOLE document of the specification-level writer** (`Ufo3.specWrite` itself: every attribute
spelt out, also the defaults `type="offcurve"`, `smooth="no"`, all six coefficients, both advance attributes; its own
attribute and element order), **with hypotheses on the description only**.  `eventsOf rl (specWrite rdr d)` is the
canonical event list of the written tree; `glyphOf nc libD d` the glyph the description describes, in closed form.  The
statement is an equation with `load_object_libs` of that glyph: both sides are an error when `d.lib` holds a
`public.objectLibs` that is not a dictionary of dictionaries (the hypothesis `hol` of the two theorems below excludes it).
`DescLegal ok nc d`: the rules of a legal glyph stated on `GlyphD` (decidable, `desc_legal_decidable`).  `hF` is not used
(no second rendering is involved); this is `norad_parser_reads_mixed_document` at "everything spelt out". -/
theorem norad_parser_reads_spec_document {F : Fmt} {rd : Str → Option Nat} {rdr : Render} {nc : Color → Color}
    {ok : Nat → Prop} (hF : Codec F rd nc ok) (hP : ParseCodec rd rdr ok) (rl : String → LibV) (libD : Dict) (d : GlyphD)
    (hd : DescLegal ok nc d) (hl : ∀ t, d.lib = some t → rl t = .dict libD) :
    parseGlif rd (eventsOf rl (specWrite rdr d)) = loadObjectLibs (glyphOf nc libD d) :=
  parse_specWrite_legal hP rl libD d hd hl

theorem desc_legal_decidable (ok : Nat → Prop) [DecidablePred ok] (nc : Color → Color) (d : GlyphD) :
    descLegalB ok nc d = true ↔ DescLegal ok nc d := descLegalB_iff ok nc d

/-- the element order of `specWrite`: the instance `.refl` of `norad_parser_reads_spec_document_any_order` below, which see
for what kind of document this is. -/
theorem norad_parser_reads_other_spellings {F : Fmt} {rd : Str → Option Nat} {nc : Color → Color} {ok : Nat → Prop}
    (hF : Codec F rd nc ok) (libD : Dict) (d : GlyphD) (hd : DescLegal ok nc d) (pro tr : List Ev) (minor : Bool)
    (hp : ∀ e, e ∈ pro → isProlog e = true)
    (hol : ∀ v, dictGet objectLibsKey (glyphOf nc libD d).lib = some v → ∃ ol, v = PV.dict ol ∧ AllDicts ol)
    {evs : List Ev}
    (hperm : EvsPerm (render F { prolog := pro, name := L d.name, minor := minor, items := itemsOf libD d, trailer := tr }) evs) :
    ∃ g, parseGlif rd evs = .ok g ∧ loadObjectLibs (glyphOf nc libD d) = .ok g :=
  parse_other_spellings hF libD d hd pro tr minor hp hol hperm

/-- **any element order, comments anywhere.**  For a legal description `d` and ANY item list `items` with
`ItemsPerm (itemsOf libD d) items` — top-level elements of different kinds exchanged in any way (the relative order inside
`unicode`, `anchor`, `guideline` kept; inside `outline` contours and components interleaved freely), comments between
elements, inside `outline` and between points — and any attribute order (`EvsPerm`), prolog, `formatMinor="0"` or not,
trailer: norad's parser accepts it and returns the SAME glyph, `load_object_libs (glyphOf nc libD d)`; `hol` serves only to
make this `.ok`.  In particular `<lib>` may stand BEFORE the objects whose libs it carries (example with `d1` below).
The document is the GRAMMAR's rendering `render F` of the items: the model's own attribute functions and names, defaults
omitted, numbers in any spelling `F` that reads back; it is not a tree of the specification-level writer, so a misspelling
shared by model writer and model parser passes here (the independent names are in the mixed theorem below). -/
theorem norad_parser_reads_spec_document_any_order {F : Fmt} {rd : Str → Option Nat} {nc : Color → Color}
    {ok : Nat → Prop} (hF : Codec F rd nc ok) (libD : Dict) (d : GlyphD) (hd : DescLegal ok nc d)
    {items : List BIt} (hi : ItemsPerm (itemsOf libD d) items)
    (pro tr : List Ev) (minor : Bool) (hp : ∀ e, e ∈ pro → isProlog e = true)
    (hol : ∀ v, dictGet objectLibsKey (glyphOf nc libD d).lib = some v → ∃ ol, v = PV.dict ol ∧ AllDicts ol)
    {evs : List Ev}
    (hperm : EvsPerm (render F { prolog := pro, name := L d.name, minor := minor, items := items, trailer := tr }) evs) :
    ∃ g, parseGlif rd evs = .ok g ∧ loadObjectLibs (glyphOf nc libD d) = .ok g :=
  parse_any_order hF libD d hd hi pro tr minor hp hol hperm

/-- **documents that MIX spelt-out and omitted defaults**: `specWriteWith ch rdr d` is `specWrite` with an independent
choice `ch` at every attribute SITE whose value is the specification's default — `type` of an off-curve point, `smooth` of
a point that is not smooth, each of the six coefficients of each component and of the image, `width` / `height` of the
advance — whether the attribute is written or left out (a value that is not the default is always written).  All-true is
`specWrite`, all-false the minimal spelling; every mixture in between gives the same equation.  Hypotheses and reading as
for `norad_parser_reads_spec_document` (`hF` unused). -/
theorem norad_parser_reads_mixed_document {F : Fmt} {rd : Str → Option Nat} {rdr : Render} {nc : Color → Color}
    {ok : Nat → Prop} (hF : Codec F rd nc ok) (hP : ParseCodec rd rdr ok) (ch : Choice) (rl : String → LibV) (libD : Dict)
    (d : GlyphD) (hd : DescLegal ok nc d) (hl : ∀ t, d.lib = some t → rl t = .dict libD) :
    parseGlif rd (eventsOf rl (specWriteWith ch rdr d)) = loadObjectLibs (glyphOf nc libD d) :=
  parse_specWriteWith hP ch rl libD d hd hl

-- OPEN (not reached), kept as a statement: format 1.
--   norad_parser_reads_spec_document_v1 : for a description without identifiers, anchors, guidelines, image and note
--   (what a format-1 glif can hold), written with `format="1"`, `parseGlif` returns the described glyph with the single
--   named `move` contours turned into anchors.  Missing: a format-1 specification writer, `LegalItemsV1` derived from
--   `DescLegal` plus the format-1 restrictions, `interpV1` of the described document in closed form (the glif builder's
--   `legal_accepted_v1` would conclude).

/-! non-vacuity of the two codec hypotheses (the glif builder's `F0`, `R0`, `nc0`, `ok0`: every number is 0) -/

def lex0 : Lex :=
  { nums := fun s => if s = "0" then some [0] else if s = "0,0,0,0" then some [0, 0, 0, 0] else none,
    hex := fun s => parseHex s.toList }

theorem lexCodec0 : LexCodec F0 lex0 nc0 ok0 := by
  refine ⟨?_, ?_, ?_⟩
  · intro b hb; cases hb; decide +kernel
  · intro c
    have e : dropTrailing '.' (dropTrailing '0' "0.000".toList) = ['0'] := by decide +kernel
    have h : showColor F0 c = "0,0,0,0".toList := by
      simp only [showColor, F0, e]; decide +kernel
    rw [h]
    show lex0.nums (S "0,0,0,0".toList) = some [0, 0, 0, 0]
    decide +kernel
  · intro c hv; simpa [lex0] using parseHex_showCodepoint hv.1 hv.2

def render0 : Render :=
  { nums := fun ns => if ns.length = 1 then "0" else "0,0,0,0", hex := fun c => String.ofList (showCodepoint c) }

theorem parseCodec0 : ParseCodec R0 render0 ok0 := by
  refine ⟨?_, ?_, ?_⟩
  · intro n hn; cases hn; decide
  · intro c h1 h2 h3 h4
    obtain ⟨r, g, b, a⟩ := c
    obtain ⟨h1, _⟩ := h1; obtain ⟨h2, _⟩ := h2; obtain ⟨h3, _⟩ := h3; obtain ⟨h4, _⟩ := h4
    cases h1; cases h2; cases h3; cases h4; decide
  · intro c hv; simpa [render0] using parseHex_showCodepoint hv.1 hv.2

def d0 : GlyphD :=
  { name := "a", width := 0, height := 0, unicodes := [65], note := none, image := none, guidelines := [],
    anchors := [⟨0, 0, some "t", none, some "i"⟩],
    contours := [⟨none, [⟨0, 0, .line, false, none, some "p"⟩]⟩],
    components := [⟨"b", ⟨0, 0, 0, 0, 0, 0⟩, some "k"⟩], lib := none }

instance : DecidablePred ok0 := fun b => by unfold ok0; infer_instance

theorem descLegal_d0 : DescLegal ok0 nc0 d0 := (desc_legal_decidable ok0 nc0 d0).1 (by decide)

-- the document theorem applies: its hypotheses are satisfiable together
example : parseGlif R0 (eventsOf (fun _ => .bad) (specWrite render0 d0)) = loadObjectLibs (glyphOf nc0 [] d0) :=
  norad_parser_reads_spec_document codec0 parseCodec0 (fun _ => .bad) [] d0 descLegal_d0 (by intro t ht; cases ht)

-- and so does the corollary, at the grammar's own rendering of the described document (no permutation)
example : ∃ g, parseGlif R0 (render F0 (gdocOf [] d0)) = .ok g ∧ loadObjectLibs (glyphOf nc0 [] d0) = .ok g :=
  norad_parser_reads_other_spellings codec0 [] d0 descLegal_d0 [.decl] [] false (by intro e he; simp at he; subst he; rfl)
    (by intro v hv; simp [glyphOf, d0, dictGet] at hv) (evsPerm_refl _)

/-- `d0` with a lib whose `public.objectLibs` carries a lib for the anchor `i` -/
def d1 : GlyphD := { d0 with lib := some "t" }
def libD1 : Dict := [(objectLibsKey, .dict [("i".toList, .dict [(['k'], PV.atom "b1")])])]

/-- the same document with `<lib>` FIRST and `<outline>` LAST -/
def itemsLibFirst : List BIt :=
  [.lib libD1, .advance 0 0, .unicode 65, .anchor (anchorG ⟨0, 0, some "t", none, some "i"⟩), .outline (oitsOf d1)]

theorem itemsPerm_d1 : ItemsPerm (itemsOf libD1 d1) itemsLibFirst := by
  have e : itemsOf libD1 d1 =
      [.advance 0 0, .unicode 65, .anchor (anchorG ⟨0, 0, some "t", none, some "i"⟩), .outline (oitsOf d1), .lib libD1] := rfl
  rw [e]
  exact (ItemsPerm.cons _ (.cons _ (.cons _ (.swap _ _ _ (by decide))))).trans
    ((ItemsPerm.cons _ (.cons _ (.swap _ _ _ (by decide)))).trans
      ((ItemsPerm.cons _ (.swap _ _ _ (by decide))).trans (.swap _ _ _ (by decide))))

-- `<lib>` before the anchor whose lib it carries: accepted, and the anchor gets its lib
example : ∃ g, parseGlif R0 (render F0 { prolog := [.decl], name := L d1.name, minor := false, items := itemsLibFirst, trailer := [] }) = .ok g ∧
    loadObjectLibs (glyphOf nc0 libD1 d1) = .ok g :=
  norad_parser_reads_spec_document_any_order codec0 libD1 d1 ((desc_legal_decidable ok0 nc0 d1).1 (by decide)) itemsPerm_d1
    [.decl] [] false (by intro e he; simp at he; subst he; rfl)
    (by
      intro v hv
      have : v = PV.dict [("i".toList, .dict [(['k'], PV.atom "b1")])] := by
        simp [glyphOf, d1, d0, libD1, dictGet] at hv; exact hv.symm
      subst this
      exact ⟨_, rfl, by intro e he; simp at he; subst he; exact ⟨_, rfl⟩⟩)
    (evsPerm_refl _)

example : (match loadObjectLibs (glyphOf nc0 libD1 d1) with
    | .ok g => g.anchors.all (fun a => a.lib.isSome) && g.lib.isEmpty
    | .error _ => false) = true := by decide +kernel

-- a mixed document: defaults spelt out at some sites, omitted at others
example : parseGlif R0 (eventsOf (fun _ => .bad)
      (specWriteWith ⟨true, false, fun k => k == .xScale, fun ci pi => ⟨ci % 2 == 0, pi % 2 == 1⟩, fun ki k => (ki % 2 == 0) && k != .yOffset⟩
        render0 d0)) = loadObjectLibs (glyphOf nc0 [] d0) :=
  norad_parser_reads_mixed_document codec0 parseCodec0 _ (fun _ => .bad) [] d0 descLegal_d0 (by intro t ht; cases ht)

-- the element theorems apply (their codec hypothesis is satisfiable)
example := norad_parser_reads_spec_writer parseCodec0 []

-- the encoder theorem applies to the glif builder's sample glyph `g0` (its hypotheses are satisfiable)
example : specRead lex0 (encTree F0 (fun _ => "lib") g0) = some (descGlyph (fun _ => "lib") (preG F0 nc0 g0)) :=
  spec_reads_encTree lexCodec0 (fun _ => "lib") valid_g0 (by intro n hn; cases hn)
    (by intro c hc; simp [g0] at hc; subst hc; simp)

end

end C05
