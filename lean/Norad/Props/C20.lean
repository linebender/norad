import Norad.Lemmas.C20
import Norad.Generated.KurboConv
import Norad.Props.C11
/-!
# C20 — contour → Bézier path and transform conversions follow the glif drawing rules

The property theorems, and the two views they are proved from: `Walk` (a contour with an on-curve point, open or
closed) and `AllOff`.  `toKurbo` transcribes `Contour::to_kurbo` (`Model/C20.lean`, the code after the three
`fix: to_kurbo …` commits), `specPath` is the outline the glif rules define (`Spec/C20.lean`), `C11.Legal` what the
parser accepts (`C11.accepts_iff_legal`); all over an arbitrary coordinate type `α` and midpoint function `mid`.
On the unrepaired tree `toKurbo_eq_spec` and `toKurbo_succeeds` are false: `line, curve, line` gave `Err(BadPoint)`,
`line, qcurve, line` lost a corner, four off-curves a lone `MoveTo` (`corpus/C20/fixed-defects.case`, `known_findings.txt`).
-/
namespace C20
open C11 (PT)

variable {α : Type} (mid : α → α → α)

abbrev Legal (pts : List (Pt α)) : Prop := C11.Legal (pts.map (·.base))

/-- A contour with an on-curve point is drawn as a walk: `moveTo` the start point `st`, then the segments of `w`.
    Open: `st` is the `move`, `w` the rest.  Closed: `st` is the last on-curve point, `w` leads from behind it round
    to it again.  Conversion and specification are functions of `(st, w)`; the theorems below are proved from these
    equations and do not look at the two cases again (`path`, `segs`, `start`, `visit`, `drawn` undo one case split that
    the five functions of the specification each repeat). -/
structure Walk (pts : List (Pt α)) (st : Pt α) (w : List (Pt α)) : Prop where
  kurbo (mid : α → α → α) : toKurbo mid pts = drawWalk mid (st :: w)
  path (mid : α → α → α) : specPath mid pts = .moveTo st.pos :: (segments [] w).flatMap (specEls mid)
  segs : specSegments pts = segments [] w
  start (mid : α → α → α) : expectedStart mid pts = some st.pos
  visit : visitOrder pts = st :: w
  drawn : drawnOnCurves pts = w.filter (fun p => p.typ != .off)
  mem : st ∈ pts
  on : st.typ ≠ .off
  opened : isClosed pts = false → pts.head? = some st
  closed : isClosed pts = true → w.getLast? = some st
  good : Legal pts → ∀ s ∈ segments [] w, SegGood s
  lastOn : Legal pts → ∀ q, w.getLast? = some q → q.typ ≠ .off

theorem walk_open {f : Pt α} {rest : List (Pt α)} (hf : f.typ = .move) : Walk (f :: rest) f rest where
  kurbo mid := by simp only [toKurbo, isClosed, hf, bne_self_eq_false, Bool.false_eq_true, if_false, cycleSkipTake_zero]
  path mid := by rw [specPath, if_pos hf]
  segs := by rw [specSegments, if_pos hf]
  start mid := by rw [expectedStart, if_pos hf]
  visit := by rw [visitOrder, if_pos hf]
  drawn := by rw [drawnOnCurves, if_pos hf]
  mem := List.mem_cons_self
  on := by simp [hf]
  opened _ := rfl
  closed hc := by simp [isClosed, hf] at hc
  good := fun ⟨hl, _⟩ => by
    -- the linear rule with `f` in front
    refine segments_run rest [] [f.base] ?_ fun a p b hab => ?_
    · rw [← List.nil_append [f.base], C11.trailOffs_snoc, if_neg (by rw [show f.base.typ = _ from hf]; decide)]
      rfl
    · obtain ⟨hmv, hline, hcurve, -⟩ :=
        hl (f.base :: a.map (·.base)) p.base (b.map (·.base)) (by simp [hab])
      exact ⟨fun hc => List.cons_ne_nil _ _ (hmv hc), hline, hcurve⟩
  lastOn := fun ⟨_, hend⟩ q hq hqo => by
    -- an open legal contour does not end in an off-curve
    obtain ⟨l, rfl⟩ := List.getLast?_eq_some_iff.1 hq
    rw [← isClosed_eq, isClosed, show f.typ = _ from hf, ← List.cons_append, List.map_append, List.map_singleton,
      C11.trailOffs_snoc, if_pos hqo] at hend
    simp at hend

theorem walk_closed {f s : Pt α} {rest pre post : List (Pt α)} (hf : f.typ ≠ .move)
    (hsp : splitLastOn (f :: rest) = some (pre, s, post)) : Walk (f :: rest) s (post ++ pre ++ [s]) := by
  obtain ⟨hd, hs, hpost⟩ := splitLastOn_some _ _ _ _ hsp
  have hcl : isClosed (f :: rest) = true := by simpa [isClosed] using hf
  exact {
    kurbo := fun mid => by
      rw [toKurbo, if_pos hcl, hd, rotateIdx_split pre post s hs hpost]
      simp only [cycleSkipTake_split]
    path := fun mid => by rw [specPath, if_neg hf, hsp]
    segs := by rw [specSegments, if_neg hf, hsp]
    start := fun mid => by rw [expectedStart, if_neg hf, hsp]
    visit := by rw [visitOrder, if_neg hf, hsp]
    drawn := by
      rw [drawnOnCurves, if_neg hf, hd]
      simp only [List.filter_append, List.filter_cons, List.filter_nil, bne_iff_ne.2 hs, if_true,
        filter_offs post hpost, List.nil_append]
    mem := hd ▸ List.mem_append_right _ List.mem_cons_self
    on := hs
    opened := fun ho => absurd (ho.symm.trans hcl) Bool.false_ne_true
    closed := fun _ => by simp
    lastOn := fun _ q hq => by simp at hq; exact hq ▸ hs
    good := fun ⟨hl, hend⟩ => by
      -- `post` fills the queue (the run at the end of the contour), then the cyclic rule
      have hc : C11.isClosed ((f :: rest).map (·.base)) = true := isClosed_eq _ ▸ hcl
      rw [hc, if_pos rfl] at hend
      rw [hd] at hc hl hend
      rw [List.append_assoc, segments_offs_prefix post _ [] hpost, List.nil_append]
      refine segments_run (pre ++ [s]) _ ((pre ++ s :: post).map (·.base)) ?_ fun a p b hab => ?_
      · rw [List.append_cons, List.map_append, C11.trailOffs_append_offs _ _ (List.forall_mem_map.2 hpost),
          List.map_append, List.map_singleton, C11.trailOffs_snoc, if_neg hs, Nat.zero_add, List.length_map,
          List.length_map]
      · have hsplit : (pre ++ s :: post).map (·.base)
            = a.map (·.base) ++ p.base :: (b ++ post).map (·.base) := by
          rw [List.append_cons, hab, List.append_assoc, List.map_append]; rfl
        exact ⟨C11.closed_no_move _ hc hl p.base (hsplit ▸ List.mem_append_right _ List.mem_cons_self),
          hend _ _ _ hsplit⟩ }

/-- A closed contour of off-curves only is one chain of quadratics through all its points, from the implied point
    between the last and the first. -/
structure AllOff (pts : List (Pt α)) : Prop where
  all : ∀ q ∈ pts, q.typ = .off
  closed : isClosed pts = true
  kurbo (mid : α → α → α) : toKurbo mid pts = .ok (specPath mid pts)
  path (mid : α → α → α) : ∃ st, impliedStart mid pts = some st ∧ expectedStart mid pts = some st ∧
    specPath mid pts = .moveTo st :: quads mid (pts.map (·.pos)) st
  segs : specSegments pts = []
  visit : visitOrder pts = pts
  drawn : drawnOnCurves pts = []

theorem allOff_closed {f : Pt α} {rest : List (Pt α)} (hf : f.typ ≠ .move)
    (hsp : splitLastOn (f :: rest) = none) : AllOff (f :: rest) := by
  have hall := splitLastOn_none _ hsp
  have hcl : isClosed (f :: rest) = true := by simpa [isClosed] using hf
  have hlast : (f :: rest).getLast? = some (rest.getLast?.getD f) := List.getLast?_cons
  have hst (mid : α → α → α) : impliedStart mid (f :: rest) = some (mid (rest.getLast?.getD f).pos f.pos) := by
    rw [impliedStart, hlast]; rfl
  exact {
    all := hall
    closed := hcl
    kurbo := fun mid => by
      -- both sides start at `impliedStart` (`hlast`); the zip partner `drop 1` of one lap is `rest ++ [f]` (`allOff_zip`)
      simp only [toKurbo, hcl, if_true, rotateIdx_none _ hall, specPath, hf, if_false, hsp, allOffPath, hst,
        List.head?_cons, hlast, List.drop_one, List.tail_cons, List.take_succ_cons,
        List.take_zero, allOff_zip mid f f rest _ hlast]
    path := fun mid => ⟨_, hst mid, by rw [expectedStart, if_neg hf, hsp, hst], by rw [specPath, if_neg hf, hsp, hst]⟩
    segs := by rw [specSegments, if_neg hf, hsp]
    visit := by rw [visitOrder, if_neg hf, hsp]
    drawn := by
      rw [drawnOnCurves, if_neg hf, filter_offs _ hall] }

theorem shape (pts : List (Pt α)) : pts = [] ∨ (∃ st w, Walk pts st w) ∨ AllOff pts := by
  cases pts with
  | nil => exact .inl rfl
  | cons f rest =>
    by_cases hf : f.typ = .move
    · exact .inr (.inl ⟨_, _, walk_open hf⟩)
    · cases hsp : splitLastOn (f :: rest) with
      | some t => exact .inr (.inl ⟨_, _, walk_closed hf hsp⟩)
      | none => exact .inr (.inr (allOff_closed hf hsp))

theorem exists_walk (pts : List (Pt α)) (hon : ∃ q ∈ pts, q.typ ≠ .off) : ∃ st w, Walk pts st w := by
  obtain ⟨q, hq, hqo⟩ := hon
  rcases shape pts with rfl | hw | ha
  · cases hq
  · exact hw
  · exact absurd (ha.all q hq) hqo

theorem legal_specSegments (pts : List (Pt α)) (h : Legal pts) :
    ∀ s ∈ specSegments pts, SegGood s := by
  rcases shape pts with rfl | ⟨st, w, hw⟩ | ha
  · exact List.forall_mem_nil _
  · exact hw.segs ▸ hw.good h
  · exact ha.segs ▸ List.forall_mem_nil _

/-- **C20, full strength (path)**: for every legal contour the conversion succeeds and returns
    exactly the outline of the specification. -/
theorem toKurbo_eq_spec (pts : List (Pt α)) (h : Legal pts) :
    toKurbo mid pts = .ok (specPath mid pts) := by
  rcases shape pts with rfl | ⟨st, w, hw⟩ | ha
  · rfl
  · rw [hw.kurbo, hw.path, drawWalk, go_eq_spec mid w [] fun s hs => (hw.good h s hs).1]
    rfl
  · exact ha.kurbo mid

/-- for every contour the parser accepts, conversion to a path succeeds -/
theorem toKurbo_succeeds (pts : List (Pt α)) (h : Legal pts) :
    ∃ els, toKurbo mid pts = .ok els :=
  ⟨_, toKurbo_eq_spec mid pts h⟩

/-- `starts_at_move_or_oncurve` stated of the specification: its outline of a legal non-empty contour begins with its
    only `moveTo`, at `expectedStart` -/
theorem specPath_start (pts : List (Pt α)) (h : Legal pts) (hne : pts ≠ []) :
    ∃ st rest, expectedStart mid pts = some st ∧ specPath mid pts = .moveTo st :: rest ∧
      (∀ e ∈ rest, e.isMove = false) ∧
      (isClosed pts = false → pts.head?.map (·.pos) = some st) ∧
      (isClosed pts = true →
        (∃ q ∈ pts, q.typ ≠ .off ∧ q.pos = st) ∨
        ((∀ q ∈ pts, q.typ = .off) ∧ impliedStart mid pts = some st)) := by
  rcases shape pts with rfl | ⟨st, w, hw⟩ | ha
  · exact absurd rfl hne
  · refine ⟨st.pos, _, hw.start mid, hw.path mid, fun e he => ?_, fun ho => by rw [hw.opened ho]; rfl,
      fun _ => .inl ⟨st, hw.mem, hw.on, rfl⟩⟩
    obtain ⟨s, hs, hes⟩ := List.mem_flatMap.1 he
    exact (specEls_good mid s (hw.good h s hs)).2.1 e hes
  · obtain ⟨st, hi, hst, hp⟩ := ha.path mid
    exact ⟨st, _, hst, hp, quads_noMove mid _ _, fun ho => absurd (ho.symm.trans ha.closed) Bool.false_ne_true,
      fun _ => .inr ⟨ha.all, hi⟩⟩

/-- **start**: the path of a legal non-empty contour begins with its only `MoveTo`; an open contour
    starts at its move point, a closed one at one of its on-curve points, a closed contour of
    off-curves only at the implied point between its last and first point. -/
theorem starts_at_move_or_oncurve (pts : List (Pt α)) (els : List (El α)) (h : Legal pts)
    (hk : toKurbo mid pts = .ok els) (hne : pts ≠ []) :
    ∃ st rest, els = .moveTo st :: rest ∧ (∀ e ∈ rest, e.isMove = false) ∧
      (isClosed pts = false → pts.head?.map (·.pos) = some st) ∧
      (isClosed pts = true →
        (∃ q ∈ pts, q.typ ≠ .off ∧ q.pos = st) ∨
        ((∀ q ∈ pts, q.typ = .off) ∧ impliedStart mid pts = some st)) := by
  cases (toKurbo_eq_spec mid pts h).symm.trans hk
  obtain ⟨st, rest, -, hp⟩ := specPath_start mid pts h hne
  exact ⟨st, rest, hp⟩

theorem specSegments_endpoints (pts : List (Pt α)) : (specSegments pts).map (·.2) = drawnOnCurves pts := by
  rcases shape pts with rfl | ⟨st, w, hw⟩ | ha
  · rfl
  · rw [hw.segs, hw.drawn, segments_endpoints]
  · rw [ha.segs, ha.drawn]; rfl

/-- **one segment per on-curve point, of the kind its off-curves call for**: after the `MoveTo`
    the path is the concatenation of one drawing per on-curve point (all of them for a closed
    contour, all after the `move` for an open one); a `line` point has no pending off-curves, a
    `curve` point at most two (`segment_kinds` says what each combination draws). -/
theorem one_segment_per_oncurve (pts : List (Pt α)) (els : List (El α)) (h : Legal pts)
    (hk : toKurbo mid pts = .ok els) (hon : ∃ q ∈ pts, q.typ ≠ .off) :
    ∃ st, els = .moveTo st :: (specSegments pts).flatMap (specEls mid) ∧
      (specSegments pts).length = (drawnOnCurves pts).length ∧
      ∀ s ∈ specSegments pts, s.2.typ ≠ .off ∧ s.2.typ ≠ .move ∧
        (s.2.typ = .line → s.1 = []) ∧ (s.2.typ = .curve → s.1.length ≤ 2) := by
  cases (toKurbo_eq_spec mid pts h).symm.trans hk
  obtain ⟨st, w, hw⟩ := exists_walk pts hon
  refine ⟨st.pos, by rw [hw.path, hw.segs], by rw [← specSegments_endpoints, List.length_map], fun s hs => ?_⟩
  obtain ⟨⟨hline, hcurve⟩, hoff, hmv⟩ := legal_specSegments pts h s hs
  exact ⟨hoff, hmv, fun hl => hline (.inl hl), hcurve⟩

/-- what a well-formed segment draws, case by case -/
theorem segment_kinds (o : List α) (p : Pt α) :
    (p.typ = .line → specEls mid (o, p) = [.lineTo p.pos]) ∧
    (p.typ = .curve → o = [] → specEls mid (o, p) = [.lineTo p.pos]) ∧
    (p.typ = .curve → ∀ a, o = [a] → specEls mid (o, p) = [.quadTo a p.pos]) ∧
    (p.typ = .curve → ∀ a b, o = [a, b] → specEls mid (o, p) = [.curveTo a b p.pos]) ∧
    (p.typ = .qcurve → o = [] → specEls mid (o, p) = [.lineTo p.pos]) ∧
    (p.typ = .qcurve → ∀ a, o = [a] → specEls mid (o, p) = [.quadTo a p.pos]) ∧
    (p.typ = .qcurve → ∀ a b r, o = a :: b :: r →
      specEls mid (o, p) = .quadTo a (mid a b) :: specEls mid (b :: r, p)) := by
  refine ⟨specEls_line mid o, ?_, ?_, ?_, ?_, ?_, ?_⟩
  · rintro h rfl; simp [specEls, h]
  · rintro h a rfl; simp [specEls, h]
  · rintro h a b rfl; simp [specEls, h]
  · rintro h rfl; rw [specEls_qcurve mid _ h]; rfl
  · rintro h a rfl; rw [specEls_qcurve mid _ h]; rfl
  · rintro h a b r rfl; rw [specEls_qcurve mid _ h, specEls_qcurve mid _ h]; rfl

/-- **order**: the segments end at the on-curve points, in contour order (a closed contour starts
    at its last on-curve point, so its segments end at the on-curve points exactly as listed). -/
theorem oncurves_in_order (pts : List (Pt α)) (els : List (El α)) (h : Legal pts)
    (hk : toKurbo mid pts = .ok els) (hon : ∃ q ∈ pts, q.typ ≠ .off) :
    ∃ st, els = .moveTo st :: (specSegments pts).flatMap (specEls mid) ∧
      (specSegments pts).map (·.2) = drawnOnCurves pts ∧
      ∀ s ∈ specSegments pts, (specEls mid s).getLast?.bind El.endPt = some s.2.pos := by
  cases (toKurbo_eq_spec mid pts h).symm.trans hk
  obtain ⟨st, w, hw⟩ := exists_walk pts hon
  exact ⟨st.pos, by rw [hw.path, hw.segs], specSegments_endpoints pts,
    fun s hs => (specEls_good mid s (legal_specSegments pts h s hs)).1⟩

/-- **closed contours return to their start** -/
theorem closed_returns_to_start (pts : List (Pt α)) (els : List (El α)) (h : Legal pts)
    (hk : toKurbo mid pts = .ok els) (hc : isClosed pts = true) (hne : pts ≠ []) :
    ∃ st rest, els = .moveTo st :: rest ∧ rest.getLast?.bind El.endPt = some st := by
  cases (toKurbo_eq_spec mid pts h).symm.trans hk
  rcases shape pts with rfl | ⟨st, w, hw⟩ | ha
  · exact absurd rfl hne
  · -- the walk ends in `st`, so the last segment is the one of `st`
    obtain ⟨w', rfl⟩ := List.getLast?_eq_some_iff.1 (hw.closed hc)
    obtain ⟨o, ho⟩ := segments_snoc w' st [] hw.on
    refine ⟨st.pos, _, hw.path mid, ?_⟩
    rw [ho, List.flatMap_append]
    exact getLast?_append_bind (by simpa using (specEls_good mid (o, st) (hw.good h _ (by simp [ho]))).1)
  · obtain ⟨st, -, -, hp⟩ := ha.path mid
    exact ⟨st, _, hp, quads_last mid _ _⟩

/-- **no point is lost**: the input points, in the order the outline visits them (`visitOrder`:
    as written for an open contour and for off-curves only; from the last on-curve point round to
    it again for a closed one), are control points or end points of the path, in that order. -/
theorem no_point_lost (pts : List (Pt α)) (els : List (El α)) (h : Legal pts)
    (hk : toKurbo mid pts = .ok els) :
    List.Sublist ((visitOrder pts).map (·.pos)) (els.flatMap El.points) := by
  cases (toKurbo_eq_spec mid pts h).symm.trans hk
  rcases shape pts with rfl | ⟨st, w, hw⟩ | ha
  · exact .slnil
  · -- the segments cover the walk, every segment's drawing covers the segment
    rw [hw.visit, hw.path, List.map_cons, List.flatMap_cons]
    refine List.Sublist.cons_cons st.pos ?_
    rw [← List.nil_append (w.map _), ← segments_cover w [] (hw.lastOn h) fun _ => rfl, List.flatMap_assoc]
    exact flatMap_sublist (.refl _) fun s hs => (specEls_good mid s (hw.good h s hs)).2.2
  · obtain ⟨st, -, -, hp⟩ := ha.path mid
    rw [ha.visit, hp, List.flatMap_cons]
    exact ((List.sublist_append_left _ _).trans (quads_sublist mid _ _)).cons _

/-- **the executable rules the driver evaluates on the implementation's path are true of the
    outline of every legal contour** (so they cannot raise an alarm on correct behaviour, and each
    of them is a consequence of `toKurbo_eq_spec`). -/
theorem oracle_accepts_outline [DecidableEq α] (pts : List (Pt α)) (h : Legal pts) :
    startOK mid pts (specPath mid pts) = true ∧ segCountOK pts (specPath mid pts) = true ∧
    orderOK pts (specPath mid pts) = true ∧ kindOK mid pts (specPath mid pts) = true ∧
    closedOK pts (specPath mid pts) = true ∧ noPointLostOK pts (specPath mid pts) = true := by
  have hk := toKurbo_eq_spec mid pts h
  -- with an on-curve point, the elements after the `MoveTo` fall into the drawings of the segments
  have hseg : segCountOK pts (specPath mid pts) = true ∧ orderOK pts (specPath mid pts) = true ∧
      kindOK mid pts (specPath mid pts) = true := by
    unfold segCountOK orderOK kindOK
    cases hsp : splitLastOn pts with
    | none => exact ⟨rfl, rfl, rfl⟩
    | some t =>
      obtain ⟨pre, s, post⟩ := t
      obtain ⟨hd, hs, -⟩ := splitLastOn_some _ _ _ _ hsp
      obtain ⟨st, w, hw⟩ := exists_walk pts ⟨s, hd ▸ List.mem_append_right _ List.mem_cons_self, hs⟩
      have hwd : segWidth = fun s : List α × Pt α => (specEls mid s).length :=
        funext fun s => (specEls_length mid s).symm
      simp only [hw.path, ← hw.segs, List.drop_one, List.tail_cons, hwd, chunks_flatMap, List.length_flatMap,
        beq_iff_eq, List.map_map, ← specSegments_endpoints, beq_self_eq_true, true_and, and_true]
      exact List.map_congr_left fun s hs => (specEls_good mid s (legal_specSegments pts h s hs)).1
  refine ⟨?_, hseg.1, hseg.2.1, hseg.2.2, ?_, isSublist_of_sublist _ _ (no_point_lost mid pts _ h hk)⟩
  · by_cases hne : pts = []
    · subst hne; rfl
    · obtain ⟨st, rest, h1, h2, h3, -⟩ := specPath_start mid pts h hne
      simp only [startOK, h1, h2, decide_true, Bool.true_and, List.all_eq_true]
      intro e he
      simp [h3 e he]
  · unfold closedOK
    by_cases hc : isClosed pts = true
    · by_cases hne : pts = []
      · subst hne; rfl
      · obtain ⟨st, rest, h1, h2⟩ := closed_returns_to_start mid pts _ h hk hc hne
        simp [hc, h1, h2, hne]
    · simp [hc]

/-- **the transform formula** of the property, over any type with `+` and `*` (so also `Float`); `rfl`: the model's
    `transform` is this formula (tied to the source by `source_transform_eq_model`) -/
theorem transform_formula {β : Type} [Add β] [Mul β] (t : Affine β) (x y : β) :
    transform t x y =
      (t.xScale * x + t.yxScale * y + t.xOffset, t.xyScale * x + t.yScale * y + t.yOffset) := rfl

/-- applying the transform is the same expression as `kurbo::Affine * Point` on the converted
    transform (term for term, hence bit for bit in floating point) -/
theorem transform_eq_kurbo {β : Type} [Add β] [Mul β] (t : Affine β) (x y : β) :
    (toK t).apply x y = transform t x y := rfl

/-- converting a transform to kurbo and back is the identity, in both directions (`rfl`: both are written field by
    field) -/
theorem affine_roundtrip {β : Type} (t : Affine β) (k : KAffine β) :
    ofK (toK t) = t ∧ toK (ofK k) = k := ⟨rfl, rfl⟩

/-- the kurbo conversion maps the coefficients `[xScale, xyScale, yxScale, yScale, xOffset, yOffset]`
    in this order (a consistent swap in both conversions would keep `affine_roundtrip` true) -/
theorem toK_coeffs {β : Type} (t : Affine β) :
    toK t = ⟨t.xScale, t.xyScale, t.yxScale, t.yScale, t.xOffset, t.yOffset⟩ := rfl

/-! ## source-level tie: the conversion regenerated from `src/glyph/mod.rs` on every run

`Generated/KurboConv.lean` is written by `tools/extract_kurbo_conv.py` from `Contour::is_closed`, `Contour::to_kurbo`
(start-point selection, the two walks, the off-curve-only block, the five arms of `match pt.typ`, the slice-pattern
arms of the `Curve` arm with the error returned, the `QCurve` loop, every `close_path` call), `ContourPoint::transform`
(expression structure preserved), both `From` impls, and kurbo's `Affine * Point` from the vendored crate, as they
stand in the working tree.  The theorems below say that the regenerated definitions ARE the hand-written model's, so
`toKurbo_eq_spec` and everything above is re-checked against the current source; a changed arm, threshold, error,
rotation constant, midpoint pair, cross term or coefficient order makes one of them fail to check (and the
correspondence run then supplies the concrete contour or transform). -/

theorem source_isClosed_eq_model : @Gen.isClosed = @isClosed := by
  funext α pts
  cases pts <;> rfl

theorem source_rotateIdx_eq_model : @Gen.rotateIdx = @rotateIdx := rfl

theorem source_curveArm_eq_model : @Gen.curveArm = @curveArm := by
  funext α offs e
  rcases offs with _ | ⟨a, _ | ⟨b, _ | ⟨c, r⟩⟩⟩ <;> rfl

theorem source_qcurveLoop_eq_model : @Gen.qcurveLoop = @qcurveLoop := by
  funext α mid l
  induction l with
  | nil => funext e; simp [Gen.qcurveLoop, qcurveLoop]
  | cons a r ih =>
    cases r with
    | nil => funext e; simp [Gen.qcurveLoop, qcurveLoop]
    | cons b r' => funext e; simp [Gen.qcurveLoop, qcurveLoop, ih]

theorem source_qcurveArm_eq_model : @Gen.qcurveArm = @qcurveArm := by
  funext α mid offs e
  simp [Gen.qcurveArm, qcurveArm, source_qcurveLoop_eq_model]

theorem source_go_eq_model : @Gen.go = @go := by
  funext α mid offs ps
  induction ps generalizing offs with
  | nil => simp [Gen.go, go]
  | cons p ps ih =>
    unfold Gen.go go
    rw [source_curveArm_eq_model, source_qcurveArm_eq_model]
    cases p.typ <;> simp [ih]
    cases curveArm offs p.pos <;> rfl

theorem source_drawWalk_eq_model : @Gen.drawWalk = @drawWalk := by
  funext α mid pts
  cases pts <;> simp [Gen.drawWalk, drawWalk, source_go_eq_model]

theorem source_allOffPath_eq_model : @Gen.allOffPath = @allOffPath := rfl

/-- the conversion as regenerated from the source is the model the theorems are about -/
theorem source_toKurbo_eq_model : @Gen.toKurbo = @toKurbo := by
  funext α mid pts
  unfold Gen.toKurbo toKurbo
  rw [source_isClosed_eq_model, source_rotateIdx_eq_model, source_drawWalk_eq_model,
    source_allOffPath_eq_model]
  cases isClosed pts <;> cases rotateIdx pts <;> rfl

/-- **the property, stated of the regenerated source**: for every legal contour it succeeds with the outline -/
theorem source_toKurbo_eq_spec {α : Type} (mid : α → α → α) (pts : List (Pt α)) (h : Legal pts) :
    Gen.toKurbo mid pts = .ok (specPath mid pts) := by
  rw [source_toKurbo_eq_model]
  exact toKurbo_eq_spec mid pts h

theorem prepend_eq_ok {α : Type} {a : List (El α)} {r : Except Err (List (El α))} {els : List (El α)} :
    prepend a r = .ok els ↔ ∃ b, r = .ok b ∧ els = a ++ b := by
  cases r <;> simp [prepend, eq_comm]

theorem quads_never_close {α : Type} (mid : α → α → α) (o : List α) (e : α) : El.close ∉ quads mid o e := by
  fun_induction quads mid o e <;> simp [*]

/-- the model never produces `close` … -/
theorem go_never_closes {α : Type} (mid : α → α → α) (ps : List (Pt α)) (offs : List α) (els : List (El α))
    (h : go mid offs ps = .ok els) : El.close ∉ els := by
  induction ps generalizing offs els with
  | nil => cases h; nofun
  | cons p ps ih =>
    have hpre : ∀ a q, El.close ∉ a → prepend a (go mid q ps) = .ok els → El.close ∉ els := by
      intro a q ha hp
      obtain ⟨b, hb, rfl⟩ := prepend_eq_ok.1 hp
      exact fun hm => (List.mem_append.1 hm).elim ha (ih q b hb)
    rw [go] at h
    cases ht : p.typ with
    | move => simp only [ht] at h; exact hpre _ _ (by simp) h
    | line => simp only [ht] at h; exact hpre _ _ (by simp) h
    | off => simp only [ht] at h; exact ih _ _ h
    | curve =>
      simp only [ht] at h
      cases hc : curveArm offs p.pos with
      | error e => simp [hc] at h
      | ok a =>
        rw [hc] at h
        refine hpre _ _ ?_ h
        unfold curveArm at hc
        split at hc <;> cases hc <;> simp
    | qcurve =>
      simp only [ht] at h
      exact hpre _ _ (by rw [qcurveArm_eq_quads]; exact quads_never_close mid _ _) h

/-- … and the source has no `close_path` call: "returns to its start" is the end point of the last segment -/
theorem source_never_closes {α : Type} (mid : α → α → α) (pts : List (Pt α)) (els : List (El α))
    (h : Gen.toKurbo mid pts = .ok els) : Gen.emitsClose = false ∧ El.close ∉ els := by
  refine ⟨rfl, ?_⟩
  rw [source_toKurbo_eq_model] at h
  have hdw : ∀ w, drawWalk mid w = .ok els → El.close ∉ els := by
    intro w hw
    cases w with
    | nil => cases hw; nofun
    | cons s r =>
      obtain ⟨b, hb, rfl⟩ := prepend_eq_ok.1 hw
      simpa using go_never_closes mid r [] b hb
  revert h
  fun_cases toKurbo mid pts with
  | case1 => rintro ⟨⟩; unfold allOffPath; split <;> simp
  | case2 | case3 => exact hdw _

/-- the transform formula of the source is the model's (structure of `+` and `*` included) -/
theorem source_transform_eq_model : @Gen.transform = @transform := rfl

/-- `transform` exists in two build variants (statements under `#[cfg(feature = "kurbo")]` /
    `#[cfg(not(feature = "kurbo"))]`): the default-feature build — the one a user gets unless asking otherwise, and the
    one the kurbo-enabled harness never executes — is the model's formula as well … -/
theorem source_transform_plain_eq_model : @Gen.transformPlain = @transform := rfl

/-- … so the two builds of the source compute the same expression -/
theorem source_transform_builds_agree : @Gen.transform = @Gen.transformPlain := rfl

/-- neither build of `transform` returns early: there is no condition in front of the formula (the translator turns
    `if transform.is_identity() { return; }` and the like into a guarded arm over `Num`, reading the predicate's body from
    the source; such a `Gen.transform` takes an extra argument and `source_transform_eq_model` no longer type-checks) -/
theorem source_transform_has_no_early_return : Gen.transformGuards = 0 ∧ Gen.transformPlainGuards = 0 :=
  ⟨rfl, rfl⟩

/-- both conversions of the source map the coefficients as the model does -/
theorem source_conversions_eq_model : @Gen.toK = @toK ∧ @Gen.ofK = @ofK := ⟨rfl, rfl⟩

/-- kurbo's `Affine * Point`, read from the vendored crate, is the model's `KAffine.apply` -/
theorem source_kurbo_apply_eq_model : @Gen.kApply = @KAffine.apply := rfl

/-- **the transform part of the property, stated of the regenerated sources alone**: norad's `transform` is the same
    expression as kurbo's `Affine * Point` on the converted transform, it is the formula of the property, and the two
    conversions are inverse to each other -/
theorem source_transform_property {β : Type} [Add β] [Mul β] (t : Affine β) (k : KAffine β) (x y : β) :
    Gen.kApply (Gen.toK t) x y = Gen.transform t x y ∧
    Gen.transform t x y =
      (t.xScale * x + t.yxScale * y + t.xOffset, t.xyScale * x + t.yScale * y + t.yOffset) ∧
    Gen.ofK (Gen.toK t) = t ∧ Gen.toK (Gen.ofK k) = k := ⟨rfl, rfl, rfl, rfl⟩

section examples
def im (a b : Int) : Int := (a + b) / 2
def pt (t : PT) (x : Int) : Pt Int := ⟨⟨t, false⟩, x⟩

-- regression witnesses: the three repaired defects satisfy the full statement
example : toKurbo im [pt .line 0, pt .curve 10, pt .line 20]
    = .ok [.moveTo 20, .lineTo 0, .lineTo 10, .lineTo 20] := by rfl
example : toKurbo im [pt .line 0, pt .qcurve 10, pt .line 20]
    = .ok [.moveTo 20, .lineTo 0, .lineTo 10, .lineTo 20] := by rfl
example : toKurbo im [pt .off 0, pt .off 10, pt .off 20, pt .off 40]
    = .ok [.moveTo 20, .quadTo 0 5, .quadTo 10 15, .quadTo 20 30, .quadTo 40 20] := by rfl
-- a closed contour written starting inside a run of off-curves: the path starts at the last on-curve point (the
-- `line`), and the first segment ends at the `curve`, whose off-curves wrap around the end of the list
example : toKurbo im [pt .off 2, pt .curve 4, pt .line 6, pt .off 8]
    = .ok [.moveTo 6, .curveTo 8 2 4, .lineTo 6] := by rfl
example : Legal [pt .off 2, pt .curve 4, pt .line 6, pt .off 8] :=
  (C11.accepts_iff_legal _).1 (by decide)
-- the hypothesis `Legal` is needed: three off-curves before a `curve` is an error
example : toKurbo im [pt .off 2, pt .off 3, pt .curve 4, pt .off 8] = .error .tooMany := by rfl
-- and the theorems are not vacuous for off-curves only
example : Legal [pt .off 0, pt .off 10, pt .off 20] := (C11.accepts_iff_legal _).1 (by decide)
end examples

end C20
