import Norad.Props.C08
import Norad.Props.C13
import Norad.Lemmas.Kerning
/-!
# C08 ∘ C13 — "invalid font info" in the specification's sense is refused before the target is touched

`Props/C08.lean` carries font-info validity as two abstract flags of the saved font (`info.valid` = what
`FontInfo::validate` says, `info.serialisable` = what the writer of `fontinfo.plist` accepts).  When the flags are those
of a C13 font info `i` (`Props/C13.lean`, model of the repaired `FontInfo::validate`: accepted iff the specification's
rules hold, and the writer never refuses what `validate` accepted), a font info that breaks a rule makes the save fail
with the file system untouched, and the late failure of the unrepaired tree
(`refused_save_leaves_fs_fontinfo_counterexample`) cannot occur.
-/
namespace C08
open AbsFS FontSave

/-- the two abstract flags of the save model are those of the font info `i` -/
structure FlagsOf (i : C13.Info) (a : AInfo) : Prop where
  valid : a.valid = true ↔ C13.validate i = .ok
  serialisable : a.serialisable = true ↔ C13.serializeInfo i = .ok

/-- **the fourth refusal kind at full strength**: a font info that violates one of the specification's
    rules (date shape and ranges, gasp order, guideline identifiers and angles, selection bits, family class,
    blue/stem list limits, WOFF records) is refused with the file system exactly as it was -/
theorem refused_save_leaves_fs_fontinfo (cfg : Cfg β) (f : AFont β) (fs : FS β) (t : APath) (i : C13.Info)
    (hf : FlagsOf i f.info) (hbad : ¬ C13.Rules i) :
    ∃ k, saveImpl cfg f fs t = (some (.refused k), fs) := by
  apply refused_save_leaves_fs_fontinfo_partial
  cases hv : f.info.valid with
  | false => rfl
  | true => exact absurd ((C13.validate_iff_rules i).1 (hf.valid.1 hv)) hbad

/-- whatever passes `validate` is also written: with the repaired `validate` the flags of a real font info
    never have `valid` without `serialisable`, which is the only way the abstract save model can fail late
    in `fontinfo.plist` -/
theorem valid_info_is_serialisable (i : C13.Info) (a : AInfo) (hf : FlagsOf i a) (hv : a.valid = true) :
    a.serialisable = true := by
  have hr := (C13.validate_iff_rules i).1 (hf.valid.1 hv)
  exact hf.serialisable.2 ((C13.serializeInfo_spec i).2.2 hr.angles)


/-! ### the same glue for kerning groups (C15) -/

/-- **the third refusal kind at full strength**: when the abstract flag is what `validate_groups` says of
    the groups `g`, groups in which a glyph belongs to two first-side or two second-side kerning groups, or
    with a kerning-group name that is only the prefix, are refused with the file system exactly as it was -/
theorem refused_save_leaves_fs_groups_spec (cfg : Cfg β) (f : AFont β) (fs : FS β) (t : APath)
    (g : Kern.Groups) (hf : f.groupsValid = true ↔ Kern.validateGroups g = .ok ())
    (hbad : ¬ KernSpec.ValidGroups g) : ∃ k, saveImpl cfg f fs t = (some (.refused k), fs) := by
  apply refused_save_leaves_fs_groups
  cases hv : f.groupsValid with
  | false => rfl
  | true => exact absurd ((Kern.validate_iff g).1 (hf.1 hv)) hbad

end C08
