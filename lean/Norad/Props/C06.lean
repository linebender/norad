import Norad.Lemmas.LayerSet
/-!
# C06 — layer and glyph containers stay consistent under any operation history

Property theorems about the container model `Model/Layers.lean` (the transcription of
`src/layer.rs` after the repairs recorded in `known_findings.txt`).  Everything is proved for every
`lower`, every `valid` and every pair of file-name functions meeting the contracts `AssignOK` /
`AssignLOK` (discharged for the real algorithm in `Props/C07Containers.lean`).

Statement of the property, clause by clause:
* glyph names within a layer / layer names within a font are unique, exactly one default layer, first,
  in `glyphs`, the only one that may be called `public.default`  — `SInv`, `inv_reachable`
* an operation that reports an error leaves the container unchanged — `error_leaves_state`
* saving and loading yields exactly the layers and glyphs the containers report —
  `save_load_reports` (needs `AllSync`, which the `entry` API breaks: `sync_reachable_partial`,
  `entry_or_insert_dropped_counterexample`, `entry_remove_save_panics_counterexample`)
-/
namespace Layers

def AllSync (S : LayerSet) : Prop := ∀ l ∈ S.layers, Sync l

def usesEntry : Op → Bool
  | .entryOrInsert _ _ => true
  | .entryRemove _ _ => true
  | _ => false

section
variable {lower : Str → Str} {assignL : Str → List Str → Option Str} {valid : Str → Bool} {A : Prop} {entry : Bool}

theorem Contract.onLayer {S : LayerSet} {li : Nat} {f : Layer → Layer × Res}
    (hf : ∀ n p L, Contract A (LInvAt lower n p) Sync entry L (f L)) :
    Contract A (SInv lower) AllSync entry S (onLayer S li f) := by
  refine onLayer_ind (P := Contract _ _ _ _ S) (.ok (fun _ h => h) fun _ _ h => h) fun a L b hS => ?_
  obtain ⟨layers, ps⟩ := S
  subst hS
  have hL := hf L.name L.path L
  have hin : ∀ h : SInv lower ⟨a ++ L :: b, ps⟩, LInvAt lower L.name L.path L := fun h =>
    ⟨rfl, rfl, h.layersInv L (List.mem_append_right _ List.mem_cons_self)⟩
  refine ⟨fun hA h => ?_, fun e he => by rw [hL.err e he], fun h => hL.panic (hin h),
    fun e h hs => forall_mem_replace hs (hL.sync e (hin h))⟩
  obtain ⟨hn, hp, hL'⟩ := hL.inv hA (hin h)
  cases a with
  | nil =>
    refine h.replaceHead hp ?_ hL'
    rw [hn]
    exact (List.nodup_cons.1 h.namesNodup).1
  | cons d a =>
    -- take `L` out and put `(f L).1` in its place: same name, same directory, and the old path set still covers
    obtain ⟨hLd, _⟩ := forall_mem_middle.1 h.tailNotDefault
    obtain ⟨hLr, _⟩ := forall_mem_middle.1 h.tailNotReserved
    refine (h.remove.insert hL' (hname := ?name) (hres := ?reserved) (hdir := ?dir) (hfresh := ?fresh)).sublist
      (.refl _) (forall_mem_replace h.tailInSet ?inSet)
    case name => rw [hn]; exact ((nodup_map_middle (a := d :: a)).1 h.namesNodup).1
    case reserved => rwa [hn]
    case dir => rwa [hp]
    -- `remove` has filtered exactly this directory out of the path set
    case fresh => rw [hp]; exact fun hm => of_decide_eq_true (List.mem_filter.1 hm).2 rfl
    case inSet => rw [hp]; exact id

theorem contract_of_subset {S S' : LayerSet} (hi : SInv lower S → SInv lower S') (hs : ∀ x ∈ S'.layers, x ∈ S.layers) :
    Contract A (SInv lower) AllSync entry S (S', .ok) :=
  .ok (fun _ => hi) fun _ _ h x hx => h x (hs x hx)

theorem contract_newLayer (S : LayerSet) (n : Str) :
    Contract (AssignLOK lower assignL valid) (SInv lower) AllSync entry S (newLayer lower assignL valid S n) := by
  rw [model_newLayer_guards]
  refine .guarded fun hg => ?_
  fun_cases pushLayer lower assignL S n
  · exact .full
  next p hp =>
  refine .ok (fun hA h => ?_) fun _ _ hs => List.forall_mem_append.2 ⟨hs, List.forall_mem_singleton.2 (sync_new _ _)⟩
  have hres : decide (n = defaultName) = false := hg (.nameIsDefault, .reserved) (by decide)
  have hdup : S.layers.any (·.name = n) = false := hg (.nameExists, .duplicate) (by decide)
  have hval : (!valid n) = false := hg (.invalidName, .invalid) (by decide)
  obtain ⟨layers, ps⟩ := S
  obtain ⟨d, rest, rfl, _⟩ := h.headDefault
  have h' : SInv lower ⟨d :: (rest ++ []), ps⟩ := by rwa [List.append_nil]
  refine h'.insert (linvw_new n p) ?_ (of_decide_eq_false hres) (hA.2 n ps p (by simpa using hval) hp)
    (hA.1 n ps p hp)
  rw [List.append_nil]
  exact fun hm => let ⟨l, hl, e⟩ := List.mem_map.1 hm; List.any_eq_false.1 hdup l hl (decide_eq_true e)

theorem contract_renameLayer (S : LayerSet) (old new : Str) (ow : Bool) :
    Contract (AssignLOK lower assignL valid) (SInv lower) AllSync entry S
      (renameLayer lower assignL valid S old new ow) := by
  rw [model_renameLayer_guards]
  refine .guarded fun hg => .after (s₁ := if ow && old ≠ new then removeLayer lower S new else S)
    (renameLayerCore_errOf ..) (fun hs => ?_) fun h => ?_
  · split
    · exact fun x hx => hs x (removeLayer_subset S new x hx)
    · exact hs
  have pass := renameLayer_guards_pass hg
  obtain ⟨h₁, hhead, ⟨x, hx, hxo⟩, hfresh⟩ := sinv_afterOverwrite h pass
  refine ⟨h₁, ?_⟩
  -- from here on `S₁` is any state with these four facts
  generalize (if ow && old ≠ new then removeLayer lower S new else S) = S₁ at h₁ hhead hfresh hx ⊢
  obtain ⟨layers₁, ps₁⟩ := S₁
  -- no layer other than the one being renamed is called `new`: names are unique if `old = new`, else by `hfresh`
  have hnew : ∀ (pre post : List Layer) (l : Layer), layers₁ = pre ++ l :: post → l.name = old →
      new ∉ (pre ++ post).map (·.name) := by
    intro pre post l hl hlo hm
    subst hl
    by_cases hon : old = new
    · rw [← hon, ← hlo] at hm
      exact (nodup_map_middle.1 h₁.namesNodup).1 hm
    · obtain ⟨x, hx, hxn⟩ := List.mem_map.1 hm
      exact hfresh hon x (mem_middle.2 (.inr hx)) hxn
  -- the layer `old` is still there: `position(..).unwrap()` (`layer.rs:215`) cannot fail
  refine renameLayerCore_ind (P := Contract _ _ _ _ _) _ old new (fun hno => absurd hxo (hno x hx))
    (fun d rest hl hd => ?_) (fun _ _ _ _ _ _ => .full) fun d a l b p hl hd hln hp => ?_
  · -- the first layer is renamed and keeps its directory
    have hn := hnew [] rest d hl hd
    subst hl
    exact .ok (fun _ _ => h₁.replaceHead rfl hn ((h₁.layersInv d List.mem_cons_self).rename new d.path))
      fun _ _ hs => forall_mem_replace (a := []) hs id
  · -- a later layer is taken out and comes back under its new name, in a new directory
    have hn := hnew (d :: a) b l hl hln
    subst hl
    refine .ok (fun hA _ => ?_) fun _ _ hs => forall_mem_replace (a := d :: a) hs id
    have hl' : l ∈ d :: (a ++ l :: b) := (mem_middle (a := d :: a)).2 (.inl rfl)
    refine h₁.remove.insert ((h₁.layersInv l hl').rename new p) hn (fun hnd => ?_)
      (hA.2 new _ p pass.validNew hp) (hA.1 new _ p hp)
    -- only the first layer may take the reserved name: the guard `newIsDefaultHeadNotOld`
    have hh := pass.reservedOnlyHead hnd
    rw [headName, ← hhead] at hh
    exact hd (Option.some.inj hh)

end

section
variable (lower : Str → Str) (assignG assignL : Str → List Str → Option Str) (valid : Str → Bool)

/-- **every one of the thirteen container operations keeps its contract** -/
theorem step_spec (S : LayerSet) (op : Op) :
    Contract (AssignOK lower assignG ∧ AssignLOK lower assignL valid) (SInv lower) AllSync (usesEntry op) S
      (step lower assignG assignL valid S op) := by
  cases op with
  | insertGlyph li g => exact (Contract.onLayer fun _ _ L => contract_insertGlyph L g).imp And.left
  | removeGlyph li g => exact .onLayer fun _ _ L => contract_layer (linvw_remove L g) (fun _ => sync_remove L g) rfl rfl
  | renameGlyph li o n ow => exact (Contract.onLayer fun _ _ L => contract_renameGlyph L o n ow).imp And.left
  | clear li => exact .onLayer fun _ _ L => contract_layer (fun _ => linvw_clear L) (fun _ _ => sync_clear L) rfl rfl
  | retain li keep => exact .onLayer fun _ _ L => contract_layer (linvw_retain L _) (fun _ => sync_retain L _) rfl rfl
  | entryOrInsert li g =>
    exact .onLayer fun _ _ L => contract_layer (entry := true) (linvw_entryOrInsert L g) nofun rfl rfl
  | entryRemove li g => exact .onLayer fun _ _ L => contract_layer (entry := true) (linvw_entryRemove L g) nofun rfl rfl
  | newLayer n => exact (contract_newLayer S n).imp And.right
  | getOrCreate n =>
    show Contract _ _ _ _ S (getOrCreateLayer lower assignL valid S n)
    fun_cases getOrCreateLayer lower assignL valid S n
    · exact .ok (fun _ h => h) fun _ _ h => h
    · exact (contract_newLayer S n).imp And.right
  | removeLayer n => exact contract_of_subset sinv_removeLayer (removeLayer_subset S n)
  | renameLayer o n ow => exact (contract_renameLayer S o n ow).imp And.right
  | retainLayers keep => exact contract_of_subset sinv_retainLayers fun x hx => (List.mem_filter.1 hx).1
  | removeEmpty => exact contract_of_subset sinv_retainLayers fun x hx => (List.mem_filter.1 hx).1

theorem inv_init : SInv lower LayerSet.default :=
  { headDefault := ⟨_, _, rfl, rfl⟩
    tailNotDefault := List.forall_mem_nil _
    tailNotReserved := List.forall_mem_nil _
    tailInSet := List.forall_mem_nil _
    tailDistinct := .nil
    namesNodup := List.nodup_cons.2 ⟨List.not_mem_nil, .nil⟩
    layersInv := List.forall_mem_singleton.2 (linvw_new _ _) }

theorem inv_step (hG : AssignOK lower assignG) (hL : AssignLOK lower assignL valid) (S : LayerSet) (op : Op)
    (h : SInv lower S) : SInv lower (step lower assignG assignL valid S op).1 :=
  (step_spec lower assignG assignL valid S op).inv ⟨hG, hL⟩ h

/-- **every reachable state satisfies the invariant**: any history of operations, from any state that
    satisfies it (a new font: `inv_init`; a loaded font: `inv_loaded`) -/
theorem inv_reachable (hG : AssignOK lower assignG) (hL : AssignLOK lower assignL valid) (S : LayerSet)
    (ops : List Op) (h : SInv lower S) : SInv lower (run lower assignG assignL valid S ops) := by
  induction ops generalizing S with
  | nil => exact h
  | cons op ops ih => exact ih _ (inv_step lower assignG assignL valid hG hL S op h)

/-! ### what the invariant says, in the words of the property -/

theorem layer_names_unique (S : LayerSet) (h : SInv lower S) : (S.layers.map (·.name)).Nodup := h.namesNodup

theorem glyph_names_unique (S : LayerSet) (h : SInv lower S) : ∀ l ∈ S.layers, l.glyphs.Nodup :=
  fun l hl => (h.layersInv l hl).glyphsNodup

theorem exactly_one_default_first (S : LayerSet) (h : SInv lower S) :
    ∃ d rest, S.layers = d :: rest ∧ d.isDefault = true ∧ ∀ l ∈ rest, l.isDefault = false := by
  obtain ⟨d, rest, hdr, hd⟩ := h.headDefault
  exact ⟨d, rest, hdr, Layer.isDefault_iff.2 hd, fun l hl =>
    Bool.eq_false_iff.2 fun hl' => h.tailNotDefault l (hdr ▸ hl) (Layer.isDefault_iff.1 hl')⟩

theorem only_default_may_be_public_default (S : LayerSet) (h : SInv lower S) :
    ∀ l ∈ S.layers.tail, l.name ≠ defaultName := h.tailNotReserved

theorem error_leaves_state (S : LayerSet) (op : Op) (e : NErr)
    (h : (step lower assignG assignL valid S op).2 = .err e) :
    (step lower assignG assignL valid S op).1 = S :=
  (step_spec lower assignG assignL valid S op).err e h

/-- `rename_layer`'s `position(..).unwrap()` (`layer.rs:215`) cannot fail in a reachable state, and no
    other operation has an undocumented panic -/
theorem no_undocumented_panic (S : LayerSet) (op : Op) (site : String) (hS : SInv lower S)
    (h : (step lower assignG assignL valid S op).2 = .panic site) :
    site = "99 file-name clashes (documented)" :=
  (step_spec lower assignG assignL valid S op).panic hS site h

/-- the `entry` API bypasses the contents index (recorded findings `entry-insert-not-saved`, `entry-remove-save-panics`).
    FULL statement (false on the tree): every operation keeps the two indices in step.
    PARTIAL: every operation other than the two `entry` accesses does. -/
theorem sync_step_partial (S : LayerSet) (op : Op) (hS : SInv lower S) (h : AllSync S)
    (hop : usesEntry op = false) (hok : (step lower assignG assignL valid S op).2 = .ok) :
    AllSync (step lower assignG assignL valid S op).1 :=
  (step_spec lower assignG assignL valid S op).sync hop hS h

def noPanic (S : LayerSet) : List Op → Prop
  | [] => True
  | op :: ops => (∀ site, (step lower assignG assignL valid S op).2 ≠ .panic site) ∧
      noPanic (step lower assignG assignL valid S op).1 ops

/-- whatever the outcomes of the steps (after the documented panic the indices are still in step) -/
theorem sync_reachable (hG : AssignOK lower assignG) (hL : AssignLOK lower assignL valid)
    (S : LayerSet) (ops : List Op) (hS : SInv lower S) (hs : AllSync S)
    (hne : ∀ op ∈ ops, usesEntry op = false) : AllSync (run lower assignG assignL valid S ops) := by
  induction ops generalizing S with
  | nil => exact hs
  | cons op ops ih =>
    obtain ⟨h1, h2⟩ := List.forall_mem_cons.1 hne
    exact ih _ (inv_step lower assignG assignL valid hG hL S op hS)
      ((step_spec lower assignG assignL valid S op).sync h1 hS hs) h2

theorem sync_reachable_partial (hG : AssignOK lower assignG) (hL : AssignLOK lower assignL valid)
    (S : LayerSet) (ops : List Op) (hS : SInv lower S) (hs : AllSync S)
    (hne : ∀ op ∈ ops, usesEntry op = false) (hp : noPanic lower assignG assignL valid S ops) :
    AllSync (run lower assignG assignL valid S ops) :=
  sync_reachable lower assignG assignL valid hG hL S ops hS hs hne

end

/-- a layer after a save/load cycle: glyph map and path set are rebuilt from the index -/
def reloaded (lower : Str → Str) (l : Layer) : Layer :=
  { l with glyphs := keys l.contents, pathSet := l.contents.map (fun e => lower e.2) }

section
variable (lower : Str → Str)

/-- the directory `Layer::save_with_options` writes: the index and one glif file per entry -/
def savedDir (l : Layer) : DirT := { contents := l.contents, files := l.contents.map (·.2) }

theorem saveLayer_of_sync (l : Layer) (h : Sync l) : saveLayer l = some (savedDir l) :=
  if_pos (List.all_eq_true.2 fun e he => decide_eq_true ((h e.1).2 (List.mem_map_of_mem he)))

theorem saveDirs_of_sync (ls : List Layer) (h : ∀ l ∈ ls, Sync l) :
    saveDirs ls = some (ls.map fun l => (l.path, savedDir l)) := by
  induction ls with
  | nil => rfl
  | cons l r ih =>
    obtain ⟨hl, hr⟩ := List.forall_mem_cons.1 h
    rw [saveDirs, saveLayer_of_sync l hl, ih hr]
    rfl

theorem loadLayer_saved (l : Layer) : loadLayer lower l.name l.path (savedDir l) = some (reloaded lower l) :=
  if_pos (List.all_eq_true.2 fun _ he => decide_eq_true (List.mem_map_of_mem (f := (·.2)) he))

theorem loadLayers_saved (all sub : List Layer) (hsub : ∀ l ∈ sub, l ∈ all) (hnd : (all.map (·.path)).Nodup) :
    loadLayers lower (all.map fun l => (l.path, savedDir l)) (sub.map fun l => (l.name, l.path)) =
      some (sub.map (reloaded lower)) := by
  induction sub with
  | nil => rfl
  | cons l r ih =>
    obtain ⟨hl, hr⟩ := List.forall_mem_cons.1 hsub
    rw [List.map_cons, loadLayers, lookupDir_is.map_of_mem (·.path) savedDir hnd hl]
    simp only [loadLayer_saved, ih hr, List.map_cons]

theorem paths_nodup (S : LayerSet) (h : SInv lower S) : (S.layers.map (·.path)).Nodup := by
  obtain ⟨layers, ps⟩ := S
  obtain ⟨d, rest, rfl, hd⟩ := h.headDefault
  refine List.nodup_cons.2 ⟨fun hm => ?_, ?_⟩
  · obtain ⟨x, hx, hxe⟩ := List.mem_map.1 hm
    exact h.tailNotDefault x hx (hxe.trans hd)
  · refine List.Pairwise.of_map lower (fun a b (hab : lower a ≠ lower b) heq => hab (congrArg lower heq)) ?_
    rw [List.map_map]; exact h.tailDistinct

/-- **save then load** — for every state that satisfies the invariant and whose indices are in step,
    `Font::save` does not panic and `Font::load` of the written tree returns the same layers, in the same
    order, with the same names and directories, each holding exactly the glyph names of its index. -/
theorem save_load_reloaded (S : LayerSet) (hS : SInv lower S) (hs : AllSync S) :
    ∃ t, saveTree S = .ok t ∧
      loadTree lower t = some { layers := S.layers.map (reloaded lower),
                                pathSet := (S.layers.map (reloaded lower)).tail.map (fun l => lower l.path) } := by
  refine ⟨_, by simp only [saveTree, saveDirs_of_sync S.layers hs]; rfl, ?_⟩
  simp only [loadTree]
  rw [loadLayers_saved lower S.layers S.layers (fun _ h => h) (paths_nodup lower S hS)]
  obtain ⟨d, rest, hdr, hd⟩ := hS.headDefault
  have hdd : (reloaded lower d).isDefault = true := Layer.isDefault_iff.2 hd
  simp only [hdr, List.map_cons, defaultFirst_of_head hdd, List.drop_one, List.tail_cons]

/-- … and those are the glyph names the container reports (as a set: both lists are duplicate-free) -/
theorem reloaded_glyphs_perm (l : Layer) (hl : LInvW lower l) (hs : Sync l) :
    (reloaded lower l).glyphs.Perm l.glyphs := by
  apply (List.perm_ext_iff_of_nodup hl.keysNodup hl.glyphsNodup).2
  intro a; exact (hs a).symm

/-- **nothing dropped, nothing phantom** -/
theorem save_load_reports (S : LayerSet) (hS : SInv lower S) (hs : AllSync S) :
    ∃ t S', saveTree S = .ok t ∧ loadTree lower t = some S' ∧
      S'.layers.map (fun l => (l.name, l.path)) = S.layers.map (fun l => (l.name, l.path)) ∧
      S'.layers.length = S.layers.length ∧
      ∀ i (h₁ : i < S'.layers.length) (h₂ : i < S.layers.length), (S'.layers[i]).glyphs.Perm (S.layers[i]).glyphs := by
  obtain ⟨t, ht, hl⟩ := save_load_reloaded lower S hS hs
  refine ⟨t, _, ht, hl, ?_, by simp, ?_⟩
  · simp [reloaded]
  · intro i h₁ h₂
    simp only [List.getElem_map]
    exact reloaded_glyphs_perm lower _ (hS.layersInv _ (List.getElem_mem h₂)) (hs _ (List.getElem_mem h₂))

end

section
variable (lower : Str → Str) (assignG assignL : Str → List Str → Option Str) (valid : Str → Bool)

/-- corollary: after any history on a new font that avoids the `entry` API, save + load returns the layers the containers
    report, under the same names and in the same directories (their glyph names: `save_load_reports` applied to the same
    state); `hp` is not needed (`sync_reachable`) -/
theorem save_load_reports_reachable (hG : AssignOK lower assignG) (hL : AssignLOK lower assignL valid)
    (ops : List Op) (hne : ∀ op ∈ ops, usesEntry op = false)
    (hp : noPanic lower assignG assignL valid LayerSet.default ops) :
    ∃ t S', saveTree (run lower assignG assignL valid LayerSet.default ops) = .ok t ∧
      loadTree lower t = some S' ∧
      S'.layers.map (fun l => (l.name, l.path)) =
        (run lower assignG assignL valid LayerSet.default ops).layers.map (fun l => (l.name, l.path)) := by
  have hS := inv_reachable lower assignG assignL valid hG hL LayerSet.default ops (inv_init lower)
  have hs := sync_reachable_partial lower assignG assignL valid hG hL LayerSet.default ops (inv_init lower)
    (List.forall_mem_singleton.2 (sync_new _ _)) hne hp
  obtain ⟨t, S', h1, h2, h3, _⟩ := save_load_reports lower _ hS hs
  exact ⟨t, S', h1, h2, h3⟩

end

def zName : Str := "z".toList
def zFile : Str := "z.glif".toList

/-- a new font after `entry("z").or_insert(..)` on the default layer -/
def afterEntryInsert : LayerSet :=
  (step id (fun _ _ => some zFile) (fun _ _ => none) (fun _ => true) LayerSet.default (.entryOrInsert 0 zName)).1

/-- `entry("z").or_insert(..)` on a new font: the container reports the glyph, the save succeeds, the
    loaded font has no glyph `z` -/
theorem entry_or_insert_dropped_counterexample :
    report afterEntryInsert = [(defaultName, glyphsDir, [zName])] ∧
    saveTree afterEntryInsert =
      .ok { layercontents := [(defaultName, glyphsDir)], dirs := [(glyphsDir, { contents := [], files := [] })] } ∧
    (loadTree id { layercontents := [(defaultName, glyphsDir)],
                   dirs := [(glyphsDir, { contents := [], files := [] })] }).map report =
      some [(defaultName, glyphsDir, [])] := by
  decide +kernel

/-- a new font after `insert_glyph("z")` and then `entry("z")` → `Occupied::remove()` -/
def afterEntryRemove : LayerSet :=
  (step id (fun _ _ => some zFile) (fun _ _ => none) (fun _ => true)
    (step id (fun _ _ => some zFile) (fun _ _ => none) (fun _ => true) LayerSet.default (.insertGlyph 0 zName)).1
    (.entryRemove 0 zName)).1

-- `AllSync` is a `Prop` without a `Decidable` instance, so the state is computed first and the claim read off it
theorem afterEntryRemove_eq : afterEntryRemove =
    { layers := [{ name := defaultName, path := glyphsDir, glyphs := [], contents := [(zName, zFile)],
                   pathSet := [zFile] }], pathSet := [] } := by decide +kernel

/-- … the indices are out of step and `Font::save` panics (`layer.rs:437`) -/
theorem entry_remove_save_panics_counterexample :
    ¬ AllSync afterEntryRemove ∧
    saveTree afterEntryRemove = .panic "layer.rs:437 all glyphs in contents must exist" := by
  rw [afterEntryRemove_eq]
  exact ⟨fun h => List.not_mem_nil ((h _ List.mem_cons_self zName).2 List.mem_cons_self), rfl⟩

theorem loadTreeF_all (lower : Str → Str) (t : Tree) :
    loadTreeF lower { all := true, loadDefault := false, custom := none } t = loadTree lower t := by
  have hf : (t.layercontents.filter fun e => LFilter.shouldLoad ⟨true, false, none⟩ e.1 e.2) = t.layercontents :=
    List.filter_eq_self.2 fun _ _ => rfl
  unfold loadTreeF loadTree
  rw [hf]
  rfl

section
variable (lower : Str → Str)

/-- what the specification asks of the layers of a UFO, `lower` comparing directory and file names ignoring case (that
    `saveTree` of a state in the invariant yields such a tree is not proved here) -/
structure CleanTree (t : Tree) : Prop where
  namesNodup : (t.layercontents.map (·.1)).Nodup
  dirsDistinct : (t.layercontents.map (fun e => lower e.2)).Nodup
  reserved : ∀ e ∈ t.layercontents, e.2 ≠ glyphsDir → e.1 ≠ defaultName
  dirsOK : ∀ e ∈ t.layercontents, ∀ d, lookupDir e.2 t.dirs = some d →
    (keys d.contents).Nodup ∧ (d.contents.map (fun e => lower e.2)).Nodup

theorem loadLayer_some {n p : Str} {d : DirT} {L : Layer} (h : loadLayer lower n p d = some L) :
    L = { name := n, path := p, glyphs := keys d.contents, contents := d.contents,
          pathSet := d.contents.map (fun e => lower e.2) } := by
  unfold loadLayer at h
  split at h <;> cases h
  rfl

theorem loadLayer_inv (n p : Str) (d : DirT) (L : Layer) (h : loadLayer lower n p d = some L)
    (hk : (keys d.contents).Nodup) (hf : (d.contents.map (fun e => lower e.2)).Nodup) : LInvW lower L ∧ Sync L := by
  rw [loadLayer_some lower h]
  exact ⟨⟨hk, hk, fun e he => List.mem_map_of_mem he, hf⟩, fun _ => Iff.rfl⟩

theorem loadLayers_spec {dirs : List (Str × DirT)} {lc : List (Str × Str)} {ls : List Layer}
    (h : loadLayers lower dirs lc = some ls) :
    ls.map (fun l => (l.name, l.path)) = lc ∧
    ∀ l ∈ ls, ∃ d, lookupDir l.path dirs = some d ∧ loadLayer lower l.name l.path d = some l := by
  fun_induction loadLayers lower dirs lc generalizing ls <;> cases h
  case case1 => exact ⟨rfl, List.forall_mem_nil _⟩
  case case3 n p r d hd L Ls hr hL ih =>
    obtain ⟨ih1, ih2⟩ := ih hr
    obtain ⟨rfl, rfl⟩ : L.name = n ∧ L.path = p := by rw [loadLayer_some lower hL]; exact ⟨rfl, rfl⟩
    exact ⟨by rw [List.map_cons, ih1], List.forall_mem_cons.2 ⟨⟨d, hd, hL⟩, ih2⟩⟩

/-- what is needed of a list of loaded layers, before the default one is moved to the front -/
structure LoadedOK (ls : List Layer) : Prop where
  names : (ls.map (·.name)).Nodup
  dirs : (ls.map (fun l => lower l.path)).Nodup
  reserved : ∀ l ∈ ls, l.path ≠ glyphsDir → l.name ≠ defaultName
  inv : ∀ l ∈ ls, LInvW lower l ∧ Sync l

theorem sinv_of_defaultFirst (ls ls' : List Layer) (hok : LoadedOK lower ls) (h : defaultFirst ls = some ls') :
    SInv lower { layers := ls', pathSet := (ls'.drop 1).map (fun l => lower l.path) } ∧
    AllSync { layers := ls', pathSet := (ls'.drop 1).map (fun l => lower l.path) } := by
  obtain ⟨d, a, b, rfl, hdp, rfl⟩ := defaultFirst_some h
  have hmem : ∀ x ∈ d :: (a ++ b), x ∈ a ++ d :: b := fun x => mem_middle.2 ∘ List.mem_cons.1
  obtain ⟨hdn, hnames⟩ := nodup_map_middle.1 hok.names
  obtain ⟨hdd, hdirs⟩ := nodup_map_middle.1 hok.dirs
  -- directories are distinct ignoring case, so only `d` lives in `glyphs`
  have hnotdef : ∀ x ∈ a ++ b, x.path ≠ glyphsDir := fun x hx hxp =>
    hdd (List.mem_map.2 ⟨x, hx, by rw [hxp, hdp]⟩)
  exact ⟨{ headDefault := ⟨d, a ++ b, rfl, hdp⟩
           tailNotDefault := hnotdef
           tailNotReserved := fun x hx => hok.reserved x (mem_middle.2 (.inr hx)) (hnotdef x hx)
           tailInSet := fun x hx => List.mem_map_of_mem hx
           tailDistinct := hdirs
           namesNodup := List.nodup_cons.2 ⟨hdn, hnames⟩
           layersInv := fun x hx => (hok.inv x (hmem x hx)).1 },
    fun x hx => (hok.inv x (hmem x hx)).2⟩

theorem loadedOK_of_clean (t : Tree) (ht : CleanTree lower t) (lc : List (Str × Str)) (hsub : lc.Sublist t.layercontents)
    (ls : List Layer) (hls : loadLayers lower t.dirs lc = some ls) : LoadedOK lower ls := by
  obtain ⟨hmap, hl⟩ := loadLayers_spec lower hls
  have hmem : ∀ l ∈ ls, (l.name, l.path) ∈ t.layercontents := fun l hm =>
    hsub.subset (hmap ▸ List.mem_map_of_mem hm)
  refine ⟨?_, ?_, fun l hm => ht.reserved _ (hmem l hm), fun l hm => ?_⟩
  · have : ls.map (·.name) = lc.map (·.1) := by rw [← hmap, List.map_map]; rfl
    rw [this]; exact ht.namesNodup.sublist (hsub.map _)
  · have : ls.map (fun l => lower l.path) = lc.map (fun e => lower e.2) := by rw [← hmap, List.map_map]; rfl
    rw [this]; exact ht.dirsDistinct.sublist (hsub.map _)
  · obtain ⟨d, hdir, hload⟩ := hl l hm
    obtain ⟨hk, hf⟩ := ht.dirsOK _ (hmem l hm) d hdir
    exact loadLayer_inv lower _ _ d l hload hk hf

/-- **a font loaded through any layer filter starts in the invariant**: the real default layer or the empty placeholder
    comes first, nothing else lives in `glyphs` -/
theorem inv_loaded_any (f : LFilter) (t : Tree) (S : LayerSet) (ht : CleanTree lower t)
    (h : loadTreeF lower f t = some S) : SInv lower S ∧ AllSync S := by
  obtain ⟨ls, ls', hls, hd, rfl⟩ := loadTreeF_some h
  have hok := loadedOK_of_clean lower t ht _ List.filter_sublist ls hls
  split at hd
  · -- the placeholder: no loaded layer lives in `glyphs` (so none is called `public.default`), and it goes to the front
    rename_i hc
    have hnodef : ∀ l ∈ ls, l.isDefault = false := by
      have := (Bool.and_eq_true _ _ ▸ hc).2
      simpa only [Bool.not_eq_true', List.any_eq_false, Bool.not_eq_true] using this
    have hpath : ∀ l ∈ ls, l.path ≠ glyphsDir := fun l hl hp =>
      Bool.false_ne_true ((hnodef l hl).symm.trans (Layer.isDefault_iff.2 hp))
    cases (defaultFirst_placeholder hnodef).symm.trans hd
    exact ⟨{ headDefault := ⟨_, _, rfl, rfl⟩
             tailNotDefault := hpath
             tailNotReserved := fun l hl => hok.reserved l hl (hpath l hl)
             tailInSet := fun l hl => List.mem_map_of_mem hl
             tailDistinct := hok.dirs
             namesNodup := List.nodup_cons.2
               ⟨fun hm => let ⟨l, hl, e⟩ := List.mem_map.1 hm; hok.reserved l hl (hpath l hl) e, hok.names⟩
             layersInv := List.forall_mem_cons.2 ⟨linvw_new _ _, fun l hl => (hok.inv l hl).1⟩ },
      List.forall_mem_cons.2 ⟨sync_new _ _, fun l hl => (hok.inv l hl).2⟩⟩
  · exact sinv_of_defaultFirst lower ls ls' hok hd

/-- **a loaded font starts in the invariant** (so `inv_reachable` applies to every history on it) -/
theorem inv_loaded (t : Tree) (S : LayerSet) (ht : CleanTree lower t) (h : loadTree lower t = some S) :
    SInv lower S ∧ AllSync S :=
  inv_loaded_any lower _ t S ht ((loadTreeF_all lower t).trans h)

/-- a PARTIALLY loaded font, whatever the layer filter; `hcase` is not used: this is `inv_loaded_any` -/
theorem inv_loaded_filtered (f : LFilter) (t : Tree) (S : LayerSet) (ht : CleanTree lower t)
    (hcase : ∀ e ∈ t.layercontents, lower e.2 = lower glyphsDir → e.2 = glyphsDir)
    (h : loadTreeF lower f t = some S) : SInv lower S ∧ AllSync S :=
  inv_loaded_any lower f t S ht h

end

-- what the containers report after a concrete history (two layers, a rename with overwrite, a retain) under two toy
-- file-name functions
example :
    let assignG : Str → List Str → Option Str := fun g ps => if g ++ ".glif".toList ∈ ps then none else some (g ++ ".glif".toList)
    let assignL : Str → List Str → Option Str := fun g ps => if "glyphs.".toList ++ g ∈ ps then none else some ("glyphs.".toList ++ g)
    let S := run id assignG assignL (fun _ => true) LayerSet.default
      [.insertGlyph 0 "a".toList, .newLayer "bg".toList, .insertGlyph 1 "a".toList, .insertGlyph 1 "b".toList,
       .renameGlyph 1 "a".toList "b".toList true, .retain 0 ["a".toList], .renameLayer "bg".toList "fg".toList true]
    report S = [(defaultName, glyphsDir, ["a".toList]), ("fg".toList, "glyphs.fg".toList, ["b".toList])] := by
  decide +kernel

end Layers
