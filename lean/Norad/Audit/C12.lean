import Norad.Props.C12
import Norad.Props.C12Converse
#print axioms Glif.advance_dup
#print axioms Glif.advance_sets
#print axioms Glif.outline_dup
#print axioms Glif.lib_dup
#print axioms Glif.image_dup
#print axioms Glif.note_dup
#print axioms Glif.v1_elements_rejected
#print axioms Glif.ident_refused
#print axioms Glif.unknown_attr_refused
#print axioms Glif.bad_number_refused
#print axioms Glif.bad_angle_refused
#print axioms Glif.returned_lib_has_no_objectlibs_key
#print axioms Glif.returned_glyph_wellformed
#print axioms Glif.second_advance_rejected
#print axioms Glif.version_and_identifiers_persist
#print axioms Glif.accepted_version
#print axioms Glif.v1_single_named_move_becomes_anchor
#print axioms Glif.finishOutline_v1
#print axioms Glif.finishOutline_v2
#print axioms Glif.unknown_attr_rejected_counterexample
#print axioms Glif.empty_identifier_counterexample
#print axioms Glif.hex_plus_counterexample
#print axioms Glif.legal_accepted_counterexample
#print axioms Glif.repeated_note_counterexample
#print axioms Glif.unmatched_object_lib_counterexample
#print axioms Glif.foldAttrs_perm
#print axioms Glif.anchor_attr_order_irrelevant
#print axioms Glif.guideline_attr_order_irrelevant
#print axioms Glif.point_attr_order_irrelevant
#print axioms Glif.attr_order_irrelevant
#print axioms Glif.legal_accepted_canonical
#print axioms Glif.step_advance
#print axioms Glif.step_image
#print axioms Glif.step_anchor
#print axioms Glif.step_guideline
#print axioms Glif.step_component
#print axioms Glif.step_point
#print axioms Glif.reach_lib
#print axioms Glif.advance_attr_order_irrelevant
#print axioms Glif.unicode_attr_order_irrelevant
#print axioms Glif.contour_attr_order_irrelevant
#print axioms Glif.glyph_attr_order_irrelevant
#print axioms Glif.component_attr_order_irrelevant
#print axioms Glif.image_attr_order_irrelevant
#print axioms Glif.step_evperm
#print axioms Glif.parseGlif_attr_order_irrelevant
#print axioms Glif.reach_bit
#print axioms Glif.reach_bits
#print axioms Glif.legal_accepted_gdoc
#print axioms Glif.loadObjectLibs_ok
#print axioms Glif.legal_accepted
#print axioms Glif.SourceTie.source_attribute_names_match_model
#print axioms Glif.SourceTie.source_attribute_names_match_spec
#print axioms Glif.SourceTie.source_required_match_model
#print axioms Glif.SourceTie.source_required_match_spec
#print axioms Glif.SourceTie.source_guideline_shapes_match
#print axioms Glif.SourceTie.source_dispatch_matches_model
#print axioms Glif.SourceTie.source_dispatch_matches_spec
#print axioms Glif.SourceTie.source_level_errors_match_model
#print axioms Glif.SourceTie.source_defaults_match
#print axioms Glif.step_refuses_unknown
#print axioms Glif.bodyStart_unknown
#print axioms Glif.bodyEmpty_unknown
#print axioms Glif.stepOutline_unknown
#print axioms Glif.stepContour_unknown
#print axioms Glif.v1_refusals
#print axioms Glif.gFinish_ok_iff
#print axioms Glif.elemCheck_clean
#print axioms Glif.valueCheck_clean
#print axioms Glif.anchor_clean_accepted
#print axioms Glif.guideline_clean_accepted
#print axioms Glif.point_clean_accepted
#print axioms Glif.component_clean_accepted
#print axioms Glif.image_clean_accepted
#print axioms Glif.advance_clean_accepted
#print axioms Glif.unicode_clean_accepted
#print axioms Glif.clean_element_step
#print axioms Glif.judge_clean
#print axioms Glif.glyph_start_clean
#print axioms Glif.point_clean_toPt
#print axioms Glif.contour_kids_reach
#print axioms Glif.outline_kids_reach
#print axioms Glif.item_reach
#print axioms Glif.items_reach
#print axioms Glif.judge_clean_accepted
#print axioms Glif.clean_items_reach
#print axioms Glif.hard_item_rejected
#print axioms Glif.hardFlag_flagged
#print axioms Glif.judge_hard_error_rejected
#print axioms Glif.reach_bit_v1
#print axioms Glif.reach_bits_v1
#print axioms Glif.legal_accepted_gdoc_v1
#print axioms Glif.legal_accepted_v1
#print axioms Glif.SourceTie.source_dispatch_on_full_name
#print axioms Glif.unknown_element_refused
#print axioms Glif.unknown_attr_name_refused
#print axioms Glif.qualified_name_unknown
#print axioms Glif.decorated_name_unknown
#print axioms Glif.case_variant_unknown
#print axioms Glif.knownNames_letters
#print axioms Glif.spec_unknown_element
#print axioms Glif.clean_items_reach
#print axioms Glif.elemBad_fails
#print axioms Glif.bodybad_rejected
#print axioms Glif.judge_bad_item_rejected
#print axioms Glif.valueCheck_refuses
#print axioms Glif.elemCheck_elemBad
#print axioms Glif.duplicate_once_only_rejected
#print axioms Glif.duplicate_note_rejected
#print axioms Glif.element_rule_rejected
#print axioms Glif.duplicate_identifier_rejected
#print axioms Glif.outline_child_rejected
#print axioms Glif.unknown_in_outline_rejected
#print axioms Glif.component_rule_rejected
#print axioms Glif.illegal_contour_rejected
#print axioms Glif.point_rule_rejected
#print axioms Glif.unknown_in_contour_rejected
#print axioms Glif.body_item_rule_rejected
#print axioms Glif.obad_rejected
#print axioms Glif.contour_kids_bad
#print axioms Glif.outline_kids_bad
#print axioms Glif.ckids_split
#print axioms Glif.okids_split
#print axioms Glif.judge_of_clean
#print axioms Glif.judge_flagged_rejected
#print axioms Glif.readsPlain_numerals
#print axioms Glif.readsPlain_trimmed
#print axioms Glif.glyph_start_rule_rejected
#print axioms Glif.glyph_start_version_rejected
#print axioms Glif.gfold_versions
